import WindVerif.Proofs.PoolLife
import WindVerif.Proofs.PoolLive
/-!
A finite `join_timeout` (`Cfg.joinTimeout`): `p.join(timeout=…)` in `ReplaceWorkerThread.run` and in `FunctorPool.__exit__`
returns after the timeout whether the worker has exited or not.  A retiring worker posts its wid to the replace queue and
only then runs `end()` (the `finally:` of `run`) — a step of its own (`WPc.ending`, in every configuration) —, so with a timed
join the successor can be started while the retired worker is still running, and `__exit__` can return while a worker is still
running.

Hence "every worker has exited when `__exit__` returns" is false with a finite timeout (explicit schedules, checked by
evaluation): that is why `exit_joins_all` and `exit_skip_all_exited` carry the hypothesis `cfg.joinTimeout = false`.  What holds
in every configuration: the `begin · item* · end` lifecycle of each worker, no deadlock and termination, and — the strongest
true replacement — every maximal execution ends with the caller finished and EVERY worker exited, and such an end can be
reached from every reachable state.
-/
namespace WindVerif.Pool

def jtCfg : Cfg :=
  { nWorkers := 1, workCap := none, resCap := none, factory := true, quota := some 1, waitReady := false,
    calls := [⟨2, true⟩], beginFault := [], itemFault := [], joinTimeout := true }

/-- enter and start of the call (7 steps of the consumer), worker 0 through `begin()`, the feeder sends chunk 0, worker 0
processes and delivers it, finds its quota used up and posts its wid (`retire`, now at `.ending`: `end()` not yet run); the
replace thread takes the wid, its join TIMES OUT, it creates worker 1, lists it in slot 0 and starts it -/
def jtSched : List Tid :=
  [.c, .c, .c, .c, .c, .c, .c, .w 0, .w 0, .f, .f, .f, .f, .f, .w 0, .w 0, .w 0, .w 0, .w 0, .r, .r, .r]

/-- the situation exists in the model: a reachable state in which the successor (worker 1) has been listed and started
while the retired worker 0 is still running (pc `.ending`: `end` not yet logged) -/
theorem successor_while_retired_runs :
    ∃ sched s, run (init jtCfg) sched = some s ∧ s.procs = [1] ∧
      (∃ w ∈ s.workers, w.wid = 0 ∧ w.pc = .ending ∧ w.log = [.begin, .item 0]) ∧
      (∃ w ∈ s.workers, w.wid = 1 ∧ w.pc = .bfClear) :=
  ⟨jtSched, exists_of_any (by decide +kernel)⟩

/-- … and on: the consumer takes result 0, the feeder sends chunk 1 and finishes, worker 1 goes through `begin()`, processes
chunk 1 and delivers it; the consumer takes it, leaves the loop, stops the feeder and the replace thread and posts the stop
order of `__exit__`; its join of worker 1 TIMES OUT too (worker 1 has not even released the lock) — the caller is done; then
worker 1 posts its wid (unreplaced), ends and exits; worker 0 has not been scheduled since: it is STILL at `.ending` -/
def jtSchedExit : List Tid :=
  jtSched ++ [.c, .c, .c, .c, .c, .c, .c, .c, .c, .c, .f, .f, .f, .f, .f, .f, .f, .c, .c, .c, .c, .c, .w 1, .w 1, .w 1, .w 1,
    .w 1, .c, .c, .c, .c, .c, .c, .c, .c, .r, .c, .c, .c, .w 1, .w 1, .w 1]

/-- with a finite join timeout "every worker has exited when `__exit__` returns" is FALSE: a reachable state in which the
caller has left the context (`cpc = .done`) while a worker is still running (here: the retired worker 0, inside `end()`) -/
theorem exit_returns_with_running_worker :
    ∃ cfg sched s, cfg.joinTimeout = true ∧ run (init cfg) sched = some s ∧ s.cpc = .done ∧
      ∃ w ∈ s.workers, w.pc ≠ .exited :=
  have ⟨s, hs, hp⟩ := exists_of_any (o := run (init jtCfg) jtSchedExit)
    (P := fun s => s.cpc = .done ∧ ∃ w ∈ s.workers, w.pc ≠ .exited) (by decide +kernel)
  ⟨jtCfg, jtSchedExit, s, rfl, hs, hp⟩

theorem exit_joins_all_needs_no_timeout : ¬ ∀ (cfg : Cfg) (s : St), Reach cfg s → s.cpc = .done → AllExited s := by
  intro h
  obtain ⟨cfg, sched, s, _, hs, hd, w, hw, hne⟩ := exit_returns_with_running_worker
  exact hne (h cfg s ⟨sched, hs⟩ hd w hw)

/-- the configuration of the former D19 with one more chunk and a finite join timeout -/
def jtD19Cfg : Cfg :=
  { nWorkers := 2, workCap := some 1, resCap := none, factory := true, quota := some 1, waitReady := false,
    calls := [⟨3, true⟩], beginFault := [], itemFault := [], joinTimeout := true }

/-- worker 0 retires after chunk 0 and is replaced by worker 2 while it is still at `.ending`; workers 1 and 2 process the
other chunks and post their wids only after the replace thread has been stopped, end and exit unreplaced; the first stop
order fills the work queue (bound 1), the second `put` finds it full with every LISTED worker (2, 1) exited -/
def jtD19Sched : List Tid :=
  [.c, .c, .c, .c, .c, .c, .c, .c, .w 0, .w 0, .w 1, .w 1, .f, .f, .f, .f, .f, .w 0, .w 0, .w 0, .w 0, .w 0, .r, .r, .r,
   .w 2, .w 2,
   .c, .c, .c, .c, .c, .c, .c, .c, .c, .c, .f, .f, .f, .f, .f, .w 1, .f, .f, .f, .f, .f, .f, .f, .c, .c, .c, .c, .c, .w 1,
   .w 1, .c, .c, .c, .c, .c, .w 1, .w 2, .w 2, .w 2, .c, .c, .c, .c, .c, .c, .c, .c, .r, .c, .c, .w 1, .w 1, .w 2, .w 2,
   .w 2]

/-- without the hypothesis `cfg.joinTimeout = false`, `exit_skip_all_exited` is FALSE: the consumer leaves the loop of stop orders on a
full queue (every listed worker has an exit code) while a replaced, unlisted worker is still inside `end()` -/
theorem exit_skip_running_worker :
    ∃ cfg sched s s' i, cfg.joinTimeout = true ∧ run (init cfg) sched = some s ∧ s.cpc = .exitPut i ∧
      capFull s.cfg.workCap s.workQ = true ∧ step s .c = some s' ∧ s'.cpc = .done ∧ ∃ w ∈ s'.workers, w.pc = .ending :=
  have ⟨s, hs, hpc, hfull, h'⟩ := exists_of_any (o := run (init jtD19Cfg) jtD19Sched)
    (P := fun s => s.cpc = .exitPut 1 ∧ capFull s.cfg.workCap s.workQ = true ∧
      (step s .c).any (fun s' => decide (s'.cpc = .done ∧ ∃ w ∈ s'.workers, w.pc = .ending)) = true) (by decide +kernel)
  have ⟨s', hs', hp⟩ := exists_of_any h'
  ⟨jtD19Cfg, jtD19Sched, s, s', 1, rfl, hs, hpc, hfull, hs', hp⟩

theorem count_of_items {items : List WEv} (hi : ∀ e ∈ items, isItem e = true) :
    items.count .begin = 0 ∧ items.count .end_ = 0 := by
  constructor <;> rw [List.count_eq_zero] <;> intro hm <;> exact absurd (hi _ hm) (by simp [isItem])

/-- in every reachable state of every configuration (faults and timed joins included) each worker's log has `begin` at
most once and `end_` at most once; a worker that has exited has logged both exactly once; a worker at `.ending` (wid posted,
`end()` still to run) has logged `begin` once and `end_` not yet -/
theorem lifecycle_counts (cfg : Cfg) (s : St) (h : Reach cfg s) (w : Worker) (hw : w ∈ s.workers) :
    w.log.count .begin ≤ 1 ∧ w.log.count .end_ ≤ 1 ∧
    (w.pc = .exited → w.log.count .begin = 1 ∧ w.log.count .end_ = 1) ∧
    (w.pc = .ending → w.log.count .begin = 1 ∧ w.log.count .end_ = 0) := by
  have hL := (lifecycle_trace cfg s h w hw).1
  cases hpc : w.pc <;> simp only [hpc] at hL
  case notStarted | bfClear => simp [hL]
  all_goals
    obtain ⟨items, hi, hl⟩ := hL
    obtain ⟨c1, c2⟩ := count_of_items hi
    simp [hl, List.count_append, c1, c2]

/-- timed joins (`joinTimeout = true`): the lifecycle theorem of C04 holds unchanged, and a retired worker whose successor
may already be running still ends: at `.ending` it can always move, and its step logs `end_` (once) and exits -/
theorem retired_still_ends (cfg : Cfg) (_hjt : cfg.joinTimeout = true) (s : St) (h : Reach cfg s) (w : Worker)
    (hw : w ∈ s.workers) :
    LifeOk cfg w ∧ w.log.count .begin ≤ 1 ∧ w.log.count .end_ ≤ 1 ∧
    (w.pc = .exited → w.log.count .begin = 1 ∧ w.log.count .end_ = 1) ∧
    (w.pc = .ending → w.log.count .end_ = 0 ∧
      ∃ s', step s (.w w.wid) = some s' ∧ ∃ w' ∈ s'.workers, w'.wid = w.wid ∧ w'.pc = .exited ∧ w'.log = w.log ++ [.end_]) := by
  obtain ⟨c1, c2, c3, c4⟩ := lifecycle_counts cfg s h w hw
  refine ⟨lifecycle_trace cfg s h w hw, c1, c2, c3, ?_⟩
  intro hpc
  refine ⟨(c4 hpc).2, ?_⟩
  obtain ⟨hI, _⟩ := LInv_reach h
  have hg := getWorker_of_mem hI.nodup hw
  refine ⟨setWorker s (workerExit w w.crashed), ?_, workerExit w w.crashed, ?_, rfl, rfl, rfl⟩
  · show stepW s w.wid = _
    unfold stepW; rw [hg]; simp only [hpc]
  · rw [setWorker_workers]
    exact mem_upd.2 (Or.inl ⟨rfl, w, hw, rfl⟩)

theorem imap_no_deadlock_joinTimeout (cfg : Cfg) (_hjt : cfg.joinTimeout = true) (hw : WellCfg cfg) (hf : NoFaults cfg)
    (s : St) (h : Reach cfg s) (hnd : s.cpc ≠ .done) : ∃ t, (step s t).isSome :=
  imap_no_deadlock cfg hw hf s h hnd

theorem imap_terminates_joinTimeout (cfg : Cfg) (_hjt : cfg.joinTimeout = true) (hw : WellCfg cfg) (hf : NoFaults cfg) :
    ∃ bound, ∀ sched s, run (init cfg) sched = some s → sched.length ≤ bound :=
  imap_terminates cfg hw hf

theorem Good.progress_all {s : St} (g : Good s) : (s.cpc = .done ∧ AllExited s) ∨ ∃ t, (step s t).isSome = true := by
  by_cases hd : s.cpc = .done
  · by_cases ha : AllExited s
    · exact Or.inl ⟨hd, ha⟩
    · -- a worker that has not exited can move: the stop orders sent cover every worker still in its loop
      obtain ⟨w, hw⟩ := Classical.not_forall.1 ha
      obtain ⟨hwm, hne⟩ := Classical.not_imp.1 hw
      have hex : exitPhasePc s.cpc = true := by rw [hd]; rfl
      refine .inr (idle_worker_progress g.safe g.life g.live (g.live.cs.curNone hex) (by rw [hd]; rfl)
        (by intro j hj; rw [hd] at hj; cases hj) hwm hne fun hget => ?_)
      have h2 := g.live.ct.cnt2 hex
      unfold stopsSent at h2; rw [hd] at h2; simp only [stopsV] at h2
      have hpos := liveCnt_pos_of_mem hwm (by rw [hget]; rfl)
      exact ne_nil_of_noneCount_pos (by omega)
  · exact Or.inr (progress g.safe g.life g.live g.mid g.wc hd)

/-- the strongest true variant of "all workers have exited when `__exit__` returns" that survives a finite join timeout:
every maximal execution (one that cannot be extended) of every well-formed configuration ends with the caller finished and
EVERY worker ever created exited — every started worker eventually exits (retired ones inside `end()` included) -/
theorem imap_maximal_all_exited (cfg : Cfg) (hw : WellCfg cfg) (hf : NoFaults cfg) (sched : List Tid) (s : St)
    (h : run (init cfg) sched = some s) (hmax : ∀ t, step s t = none) : s.cpc = .done ∧ AllExited s :=
  (live_reach cfg hw hf s ⟨sched, h⟩).progress_all.resolve_right fun ⟨t, ht⟩ => by rw [hmax t] at ht; cases ht

/-- as long as somebody can move, move: the measure decreases, so this ends — with the caller done and every worker exited -/
theorem Good.finish {s : St} (g : Good s) : ∃ sched s', run s sched = some s' ∧ s'.cpc = .done ∧ AllExited s' := by
  rcases g.progress_all with hd | ⟨t, ht⟩
  · exact ⟨[], s, rfl, hd⟩
  · obtain ⟨s1, hs1⟩ := Option.isSome_iff_exists.1 ht
    have ⟨g1, hlt⟩ := g.after_step hs1
    obtain ⟨sched, s', hr, hd⟩ := g1.finish
    exact ⟨t :: sched, s', by simp only [run, hs1]; exact hr, hd⟩
termination_by meas s

/-- from every reachable state the execution can be continued to a state in which the caller is done and every worker has
exited (and by `imap_terminates` every continuation is finite): nobody is left running for good, join timeout or not -/
theorem eventually_all_exited (cfg : Cfg) (hw : WellCfg cfg) (hf : NoFaults cfg) (s : St) (h : Reach cfg s) :
    ∃ sched s', run s sched = some s' ∧ s'.cpc = .done ∧ AllExited s' :=
  (live_reach cfg hw hf s h).finish

end WindVerif.Pool
