import WindVerif.Proofs.FMapModel
/-! The invariant across a call: receiving a result, the condition `Bnd` at the boundary between two calls, the start
of a call, the final drain. -/
namespace WindVerif.FMap

theorem Main.set_ppc {cfg : Cfg} {s : St} {p : PPc} (h : Main cfg s) (hp : s.ppc = p) : Main cfg { s with ppc := p } := by
  subst hp; exact h

theorem finished_le {cfg : Cfg} {s : St} (h : Main cfg s) : s.finished ≤ s.dataCnt := by
  have hl := h.cons.length_eq
  simp only [List.length_append, List.length_range] at hl
  rw [h.fin, ← hl, Nat.add_assoc]
  exact Nat.le_add_left _ _

theorem main_quiet {cfg : Cfg} {s : St} (h : Main cfg s) (hf : s.finished = s.dataCnt) :
    chunksQ s.workQ = [] ∧ heldL s.workers = [] ∧ s.resQ = [] ∧ s.buffer = [] ∧
      (s.got ++ List.range s.wf).Perm (List.range s.dataCnt) := by
  have hl := h.cons.length_eq
  have hfin := h.fin
  simp only [List.length_append, List.length_range] at hl
  have h0 : (chunksQ s.workQ).length = 0 ∧ (heldL s.workers).length = 0 ∧ s.resQ.length = 0 ∧ s.buffer.length = 0 := by
    omega
  simp only [List.length_eq_zero_iff] at h0
  obtain ⟨h1, h2, h3, h4⟩ := h0
  have := h.cons
  rw [h1, h2, h3, h4] at this
  exact ⟨h1, h2, h3, h4, this⟩

theorem phaseOK_receive {cfg : Cfg} {s t : St} (h : PhaseOK cfg s) (hp : s.ppc = .nowait ∨ s.ppc = .finalGet)
    (e1 : t.ppc = s.ppc) (e2 : t.dataCnt = s.dataCnt) (e3 : t.next = s.next) (e4 : t.total = s.total)
    (e5 : t.callNo = s.callNo) : PhaseOK cfg t := by
  unfold PhaseOK at *
  rw [e1]
  rcases hp with hp | hp <;> simp only [hp, e2, e3, e4, e5] at h ⊢ <;> exact h

theorem main_receive {cfg : Cfg} {s : St} {i : Nat} {r : List Nat} (h : Main cfg s) (hq : s.resQ = i :: r)
    (hp : s.ppc = .nowait ∨ s.ppc = .finalGet) :
    Main cfg (receive { s with resQ := r } i) := by
  have hc1 : 1 ≤ s.callNo := by
    have := h.phase
    rcases hp with hp | hp <;> simp only [PhaseOK, hp] at this
    · exact this.2.2
    · exact this.2
  have hcons := h.cons
  rw [hq] at hcons
  cases hm : cfg.mulP
  · obtain ⟨k, buf, e, hperm, hwf⟩ := receive_fmap (s := { s with resQ := r }) (h.cfg_eq ▸ hm) i
    rw [e]
    exact { h with
      cons := by
        refine List.Perm.trans ?_ hcons
        show (_ ++ _ ++ r ++ buf ++ s.got ++ List.range (s.wf + k)).Perm _
        rw [range_add_range']
        simp only [List.perm_iff_count, List.count_append, List.count_cons] at hperm ⊢
        intro a; have := hperm a; omega
      fin := by show s.finished + k = s.got.length + (s.wf + k); rw [h.fin, Nat.add_assoc]
      modeP := fun e => by rw [hm] at e; cases e
      wfbuf := hwf
      phase := phaseOK_receive h.phase hp rfl rfl rfl rfl rfl
      outs := fun k' => by
        show outK (s.out ++ _) k' = expOut cfg s.callNo (cur cfg s.ppc s.total (s.wf + k)) k'
        have := h.outs k'
        simp only [cur, hm, Bool.false_eq_true, if_false] at this ⊢
        rw [outK_append_tag, this, expOut_cur_succ _ _ _ _ hc1] }
  · rw [receive_mulP (s := { s with resQ := r }) (h.cfg_eq ▸ hm) i]
    exact { h with
      cons := by
        refine List.Perm.trans ?_ hcons
        show (_ ++ _ ++ r ++ s.buffer ++ (s.got ++ [i]) ++ _).Perm _
        simp only [List.perm_iff_count, List.count_append, List.count_cons, List.count_nil]
        intro a; omega
      fin := by show s.finished + 1 = (s.got ++ [i]).length + s.wf; rw [h.fin, List.length_append]; exact Nat.add_right_comm _ _ _
      modeF := fun e => by rw [hm] at e; cases e
      phase := phaseOK_receive h.phase hp rfl rfl rfl rfl rfl }


theorem Bnd.heldL {cfg : Cfg} {s : St} {l : List Nat} (b : Bnd cfg s l) : heldL s.workers = [] :=
  heldL_nil_iff.2 fun w hw => (b.held w hw).1

theorem Bnd.held_put {cfg : Cfg} {s : St} {l : List Nat} (b : Bnd cfg s l) :
    ∀ w ∈ s.workers, (w.pc = .put ↔ w.held ≠ none) :=
  fun w hw => ⟨fun e => absurd e (b.held w hw).2.1, fun e => absurd (b.held w hw).1 e⟩

theorem main_of_bnd {cfg : Cfg} {s : St} (b : Bnd cfg s []) (X : PPc)
    (hcount : live s.workers + posted cfg X = cfg.nWorkers)
    (hjoined : ∀ w ∈ s.workers, w.wid < s.base + joined cfg X → w.pc = .exited)
    (hlen : s.workers.length = s.base + cfg.nWorkers ∨ s.workers = [] ∧ X = .done)
    (hcur : cur cfg X s.total s.wf = s.total)
    (hph : PhaseOK cfg { s with ppc := X, callsLeft := [] }) : Main cfg { s with ppc := X, callsLeft := [] } :=
  { cfg_eq := b.cfg_eq
    wids := b.wids
    held_put := b.held_put
    cons := by
      show (chunksQ s.workQ ++ heldL s.workers ++ s.resQ ++ s.buffer ++ s.got ++ _).Perm _
      rw [b.workQ, b.resQ, b.buffer, b.heldL]
      exact b.gotp
    fin := b.fin
    modeP := fun hm => ⟨b.buffer, (b.modeP hm).1⟩
    modeF := fun hm => (b.modeF hm).1
    wfbuf := by show s.wf ∉ s.buffer; rw [b.buffer]; exact List.not_mem_nil
    count := by show _ + _ = _ + nonesQ s.workQ; rw [b.workQ]; exact hcount
    nonone := fun _ => by show none ∉ s.workQ; rw [b.workQ]; exact List.not_mem_nil
    sortedQ := by show s.workQ.Pairwise _; rw [b.workQ]; exact .nil
    exitedQ := fun _ x hx => by rw [show s.workQ = [] from b.workQ] at hx; cases hx
    joinedEx := hjoined
    notStarted := fun w hw hp => absurd hp (b.held w hw).2.2
    len := hlen
    histDrop := b.histDrop
    histLe := b.histLe
    histTot := b.histTot
    outs := fun k => by
      show outK s.out k = expOut cfg s.callNo (cur cfg X s.total s.wf) k
      rw [hcur, b.outs k, expOut_complete _ _ _ b.histTot]
    phase := hph }

theorem inv_startCallGo {cfg : Cfg} (hw : 1 ≤ cfg.nWorkers) (l : List Nat) :
    ∀ s : St, Bnd cfg s l → Inv cfg (startCallGo s l) := by
  induction l with
  | nil =>
    intro s b
    obtain rfl := b.cfg_eq
    have hN : ¬ s.cfg.nWorkers = 0 := Nat.ne_of_gt hw
    have hwf : s.cfg.mulP = false → s.wf = s.total := fun hm => by
      have := b.fin
      rw [(b.modeF hm).1, b.cc.1, b.cc.2] at this
      exact (this.trans (Nat.zero_add _)).symm
    unfold startCallGo
    cases hm : s.cfg.mulP
    · -- FunctorMap: leave the context
      rw [if_neg fun h => h.elim nofun hN]
      refine ⟨main_of_bnd b (.stopPut 0) (b.modeF hm).2.1 b.old ?_ ?_ ?_, nofun⟩
      · exact b.len.imp_right fun h => absurd h (b.modeF hm).2.2
      · simp only [cur, hm, Bool.false_eq_true, if_false, hwf hm]
      · exact ⟨hw, b.cc.2, fun h => absurd h (by simp [hm]), fun _ => ⟨b.cc.1, rfl⟩⟩
    · -- mul_p_map: over
      rw [if_pos (.inl rfl)]
      have hex := (b.modeP hm).2
      refine ⟨main_of_bnd b .done ?_ (fun w hw' _ => hex w hw') ?_ ?_ ?_, nofun⟩
      · rw [live_zero_iff.2 hex]; exact Nat.zero_add _
      · exact b.len.imp_right fun h => ⟨h, rfl⟩
      · simp only [cur, hm, if_true]
      · exact ⟨b.cc.1, b.cc.2, rfl⟩
  | cons n rest ih =>
    intro s b
    obtain rfl := b.cfg_eq
    have hd1 := drop_succ_of_drop_cons b.histDrop
    have hd3 := getElem?_of_drop_cons b.histDrop
    have hd2 := lt_of_getElem? hd3
    have hwq : s.workQ = [] := b.workQ
    have hcons : ∀ ws, heldL ws = [] → (chunksQ s.workQ ++ heldL ws ++ s.resQ ++ [] ++ [] ++ List.range 0).Perm (List.range 0) :=
      fun ws e => by rw [hwq, b.resQ, e]; exact .refl _
    have houts : ∀ c k, cur s.cfg c n 0 = 0 → outK s.out k = expOut s.cfg (s.callNo + 1) (cur s.cfg c n 0) k :=
      fun c k e => by rw [e]; exact b.outs k
    unfold startCallGo
    cases hm : s.cfg.mulP
    · obtain ⟨hgot, hlive, hne⟩ := b.modeF hm
      simp only [hm, Bool.false_eq_true, if_false]
      by_cases hn : n = 0
      · -- empty call: skipped
        subst hn
        rw [if_pos rfl]
        exact ih _ { b with
          buffer := rfl
          cc := ⟨rfl, rfl⟩
          fin := rfl
          gotp := .refl _
          modeP := fun h => absurd h (by simp [hm])
          modeF := fun _ => ⟨rfl, hlive, hne⟩
          histDrop := hd1
          histLe := hd2
          histTot := fun _ => hd3
          outs := fun k => (b.outs k).trans (expOut_skip _ _ hd3 k).symm }
      · rw [if_neg hn]
        exact ⟨{
          cfg_eq := rfl
          wids := b.wids
          held_put := b.held_put
          cons := hcons _ b.heldL
          fin := rfl
          modeP := fun _ => ⟨rfl, rfl⟩
          modeF := fun _ => rfl
          wfbuf := List.not_mem_nil
          count := by show _ + 0 = _ + nonesQ s.workQ; rw [hwq]; exact hlive
          nonone := fun _ => by show none ∉ s.workQ; rw [hwq]; exact List.not_mem_nil
          sortedQ := by show s.workQ.Pairwise _; rw [hwq]; exact .nil
          exitedQ := fun _ x hx => by rw [hwq] at hx; cases hx
          joinedEx := b.old
          notStarted := fun w hw' hp => absurd hp (b.held w hw').2.2
          len := b.len.imp_right fun h => absurd h hne
          histDrop := hd1
          histLe := hd2
          histTot := fun _ => hd3
          outs := fun k => houts .put k (by simp only [cur, hm, Bool.false_eq_true, if_false])
          phase := ⟨rfl, Nat.pos_of_ne_zero hn, Nat.le_add_left _ _⟩ }, nofun⟩
    · obtain ⟨hwf, hex⟩ := b.modeP hm
      simp only [hm, if_true]
      exact ⟨{
        cfg_eq := rfl
        wids := by
          simp only [List.map_append, b.wids, mkWorkers_wids, List.length_append, mkWorkers_length, List.range_add]
        held_put := fun w hw' => by
          rcases List.mem_append.1 hw' with h | h
          · exact b.held_put w h
          · have := mem_mkWorkers h; simp [this]
        cons := hcons _ (by rw [heldL_append, b.heldL, heldL_mkWorkers]; rfl)
        fin := rfl
        modeP := fun _ => ⟨rfl, rfl⟩
        modeF := fun h => absurd h (by simp [hm])
        wfbuf := List.not_mem_nil
        count := by
          show live (_ ++ _) + 0 = _ + nonesQ s.workQ
          rw [hwq, live_append, live_zero_iff.2 hex, live_mkWorkers]; exact Nat.zero_add _
        nonone := fun _ => by show none ∉ s.workQ; rw [hwq]; exact List.not_mem_nil
        sortedQ := by show s.workQ.Pairwise _; rw [hwq]; exact .nil
        exitedQ := fun _ x hx => by rw [hwq] at hx; cases hx
        joinedEx := fun w hw' hlt => by
          rcases List.mem_append.1 hw' with h | h
          · exact hex w h
          · exact absurd hlt (Nat.not_lt.2 (mem_mkWorkers h).2.2.1)
        notStarted := fun w hw' hp => by
          rcases List.mem_append.1 hw' with h | h
          · rw [hex w h] at hp; cases hp
          · exact ⟨0, rfl, (mem_mkWorkers h).2.2.1⟩
        len := .inl (by rw [List.length_append, mkWorkers_length])
        histDrop := hd1
        histLe := hd2
        histTot := fun _ => hd3
        outs := fun k => houts (.start 0) k (by simp only [cur, hm, if_true])
        phase := ⟨hw, rfl, rfl, rfl, fun _ => Nat.le_add_left _ _, fun h => absurd h (by simp [hm]), fun w hw' hle => by
          rcases List.mem_append.1 hw' with h | h
          · exact absurd (wid_lt_of_mem b.wids h) (Nat.not_lt.2 hle)
          · exact (mem_mkWorkers h).1⟩ }, nofun⟩

theorem Bnd.of_ppc {cfg : Cfg} {s : St} {p : PPc} {l : List Nat} (b : Bnd cfg { s with ppc := p } l) : Bnd cfg s l :=
  { b with }

theorem bnd_of_quiet {cfg : Cfg} (hw : 1 ≤ cfg.nWorkers) {s : St} (h : Main cfg s) (hf : s.finished = s.dataCnt)
    (ht : s.dataCnt = s.total) (hns : ∀ w ∈ s.workers, w.pc ≠ .notStarted)
    (hF : cfg.mulP = false → posted cfg s.ppc = 0)
    (hP : cfg.mulP = true → posted cfg s.ppc = cfg.nWorkers ∧ (∀ w ∈ s.workers, w.pc = .exited) ∧
      cur cfg s.ppc s.total s.wf = s.total) (hj : joined cfg s.ppc = 0 ∨ cfg.mulP = true) :
    Bnd cfg s s.callsLeft := by
  obtain ⟨q1, q2, q3, q4, q5⟩ := main_quiet h hf
  have hheld : ∀ w ∈ s.workers, w.held = none := heldL_nil_iff.1 q2
  have hwq : s.workQ = [] := by
    apply queue_nil_of _ q1
    cases hm : cfg.mulP
    · exact nonesQ_eq_zero (h.nonone (hF hm))
    · obtain ⟨hp1, hp2, _⟩ := hP hm
      have := h.count
      rw [hp1, live_zero_iff.2 hp2, Nat.zero_add] at this
      exact (Nat.add_left_cancel (m := 0) this).symm
  have hcount : live s.workers + posted cfg s.ppc = cfg.nWorkers := by
    have := h.count
    rw [hwq] at this
    exact this
  exact {
    cfg_eq := h.cfg_eq
    wids := h.wids
    held := fun w hw' => ⟨hheld w hw', fun hp => (h.held_put w hw').1 hp (hheld w hw'), hns w hw'⟩
    workQ := hwq
    resQ := q3
    buffer := q4
    cc := ⟨hf, ht⟩
    fin := h.fin
    gotp := q5
    modeP := fun hm => ⟨(h.modeP hm).2, (hP hm).2.1⟩
    modeF := fun hm => by
      rw [hF hm] at hcount
      refine ⟨h.modeF hm, hcount, fun he => ?_⟩
      exact absurd hw (by rw [← hcount, he]; exact Nat.not_succ_le_zero 0)
    len := h.len.imp_right fun h' => h'.1
    old := fun w hw' hlt => hj.elim (fun hj => h.joinedEx w hw' (hj ▸ hlt)) fun hj => (hP hj).2.1 w hw'
    histDrop := h.histDrop
    histLe := h.histLe
    histTot := h.histTot
    outs := fun k => by
      rw [h.outs k, expOut_complete _ _ _ h.histTot]
      cases hm : cfg.mulP
      · have hfin := h.fin
        rw [h.modeF hm, hf, ht] at hfin
        simp only [cur, hm, Bool.false_eq_true, if_false, hfin, List.length_nil, Nat.zero_add]
      · rw [(hP hm).2.2] }

theorem inv_finalOrNext {cfg : Cfg} (hw : 1 ≤ cfg.nWorkers) {s : St} (h : Main cfg { s with ppc := .finalGet }) :
    Inv cfg (finalOrNext s) := by
  obtain ⟨hdt, hc1⟩ : s.dataCnt = s.total ∧ 1 ≤ s.callNo := h.phase
  obtain rfl : s.cfg = cfg := h.cfg_eq
  unfold finalOrNext
  split
  · exact ⟨h, fun _ => ‹_›⟩
  · rename_i hlt
    have hf : s.finished = s.dataCnt := Nat.le_antisymm (finished_le h :) (Nat.not_lt.1 hlt)
    have hns : ∀ w ∈ s.workers, w.pc ≠ .notStarted := fun w hw' e => by
      obtain ⟨_, hi, _⟩ := h.notStarted w hw' e; cases hi
    cases hm : s.cfg.mulP
    · rw [if_neg nofun]
      exact inv_startCallGo hw _ _ (bnd_of_quiet hw h hf hdt hns (fun _ => by simp only [posted, hm, Bool.false_eq_true, if_false])
        (fun e => by rw [hm] at e; cases e) (.inl rfl)).of_ppc
    · rw [if_pos rfl, if_neg (Nat.ne_of_gt hw)]
      have q5 : (s.got ++ List.range s.wf).Perm (List.range s.dataCnt) := (main_quiet h hf).2.2.2.2
      have hsg : sortedGot s = List.range s.total := by
        have := (h.modeP hm).2
        rw [show s.wf = 0 from this, hdt, List.range_zero, List.append_nil] at q5
        exact mergeSort_eq_range q5
      have hcount := h.count
      simp only [posted, hm, if_true] at hcount
      exact ⟨{ h with
        count := hcount
        nonone := fun h0 => absurd h0 (Nat.ne_of_gt hw)
        notStarted := fun w hw' e => absurd e (hns w hw')
        len := h.len.imp_right fun h' => nomatch h'.2
        outs := fun k => by
          show outK (s.out ++ _) k = expOut s.cfg s.callNo (cur s.cfg (.join 0) s.total s.wf) k
          have := h.outs k
          simp only [cur, hm, if_true] at this ⊢
          rw [outK_append_tag, this, hsg, ← Nat.zero_add s.total, expOut_cur_succ _ _ _ _ hc1, List.range_eq_range', Nat.zero_add]
        phase := ⟨hw, hf, hdt, fun e => by rw [hm] at e; cases e⟩ }, nofun⟩

end WindVerif.FMap
