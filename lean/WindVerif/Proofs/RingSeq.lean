import WindVerif.Model.RingSeq
import WindVerif.Proofs.Buffers
/-!
Theorems about the inherited `collections.abc.Sequence` interface of `CircularBuffer` (`Model/RingSeq.lean`): iteration,
`in`, `reversed`, `count` and `index(value, start, stop)` agree with the builtin list that holds the presented content
(`Ring.toList`; `ring_spec` says what that content is after any history).  The only hypothesis is `0 < max_size` (the
constructor asserts it, and no method changes the length of the storage).
-/
namespace WindVerif.Buffers

theorem Ring.toList_getElem (r : Ring) (h : 0 < r.maxSize) (k : Nat) (hk : k < r.toList.length) :
    r.toList[k] = r.val k :=
  (List.getElem_eq_iff hk).2 (by rw [r.toList_getElem? h, if_pos (r.toList_length h ▸ hk)])

/-- `r.size < fuel + k`: fuel for one step beyond the end of the list, the step that meets the `IndexError` -/
theorem ringIterLoop_spec (r : Ring) (h : 0 < r.maxSize) : ∀ (fuel k : Nat), r.size < fuel + k →
    ringIterLoop r fuel (k : Int) = r.toList.drop k := by
  intro fuel
  induction fuel with
  | zero => intro k hk; rw [List.drop_eq_nil_of_le (by rw [r.toList_length h]; omega)]; rfl
  | succ fuel ih =>
    intro k hk
    unfold ringIterLoop
    by_cases hlt : k < r.size
    · rw [Ring.get_ok r h k hlt, List.drop_eq_getElem_cons (by rwa [r.toList_length h]), r.toList_getElem h]
      exact congrArg _ (ih (k + 1) (by omega))
    · rw [Ring.get_err r k (by omega), List.drop_eq_nil_of_le (by rw [r.toList_length h]; omega)]

theorem ringIter_spec (r : Ring) (h : 0 < r.maxSize) : ringIter r = r.toList :=
  ringIterLoop_spec r h (r.size + 1) 0 (by omega)

theorem ringContains_iff (r : Ring) (v : Nat) (h : 0 < r.maxSize) : ringContains r v = true ↔ v ∈ r.toList := by
  rw [ringContains, ringIter_spec r h, List.any_beq', List.contains_iff_mem]

theorem ringCount_spec (r : Ring) (v : Nat) (h : 0 < r.maxSize) : ringCount r v = r.toList.count v := by
  rw [ringCount, ringIter_spec r h, List.foldl_ite_left, List.foldl_add_const, List.count_eq_length_filter,
    Nat.zero_add, Nat.one_mul]
  simp only [Bool.decide_eq_true]

theorem mapM_ok_of {α β ε : Type} (f : α → Except ε β) (g : α → β) :
    ∀ (l : List α), (∀ a ∈ l, f a = .ok (g a)) → l.mapM f = .ok (l.map g) := by
  intro l
  induction l with
  | nil => intro _; rfl
  | cons a l ih =>
    intro hl
    rw [List.mapM_cons, hl a (by simp), ih (fun b hb => hl b (List.mem_cons_of_mem _ hb))]
    rfl

theorem ringReversed_spec (r : Ring) (h : 0 < r.maxSize) : ringReversed r = .ok r.toList.reverse := by
  unfold ringReversed
  rw [mapM_ok_of _ r.val]
  · rw [Ring.toList_eq_map r h, List.map_reverse]
  · intro i hi
    rw [List.mem_reverse] at hi
    rw [Ring.get_ok r h i (List.mem_range.1 hi)]

theorem ringIndexLoop_spec (r : Ring) (h : 0 < r.maxSize) (v : Nat) (stop : Option Int) (E : Nat)
    (hE : ∀ k : Nat, k < r.size → (stopAllows stop (k : Int) = true ↔ k < E)) :
    ∀ (fuel k : Nat), r.size < fuel + k →
      ringIndexLoop r v stop fuel (k : Int) =
        (match ((r.toList.take E).drop k).findIdx? (fun x => x == v) with
         | some j => .ok (k + j)
         | none => .error .valueError) := by
  have hlen := r.toList_length h
  intro fuel
  induction fuel with
  | zero => intro k hk; rw [List.drop_eq_nil_of_le (by rw [List.length_take]; omega)]; rfl
  | succ fuel ih =>
    intro k hk
    unfold ringIndexLoop
    by_cases hk' : k < (r.toList.take E).length
    · have hlt : k < E ∧ k < r.size := by rwa [List.length_take, Nat.lt_min, hlen] at hk'
      rw [if_pos ((hE k hlt.2).2 hlt.1), Ring.get_ok r h k hlt.2, List.drop_eq_getElem_cons hk', List.getElem_take,
        r.toList_getElem h, List.findIdx?_cons]
      by_cases hv : (r.val k == v) = true
      · simp only [hv, if_true, Int.toNat_natCast, Nat.add_zero]
      · simp only [hv, Bool.false_eq_true, if_false]
        rw [show ((k : Int) + 1) = ((k + 1 : Nat) : Int) from rfl, ih (k + 1) (by omega)]
        cases List.findIdx? (fun x => x == v) (List.drop (k + 1) (List.take E r.toList)) with
        | none => rfl
        | some j => exact congrArg Except.ok (show k + 1 + j = k + (j + 1) by omega)
    · -- the loop ends here: by `stop` or by the `IndexError`
      rw [List.drop_eq_nil_of_le (Nat.not_lt.1 hk')]
      rw [List.length_take, Nat.lt_min, hlen] at hk'
      by_cases hs : stopAllows stop (k : Int) = true
      · rw [if_pos hs, Ring.get_err r k fun hc => hk' ⟨(hE k (Int.ofNat_lt.1 hc.2)).1 hs, Int.ofNat_lt.1 hc.2⟩]
        rfl
      · rw [if_neg hs]
        rfl

theorem seqStart_eq (n : Nat) (start : Option Int) : seqStart n start = ((pyStart n start : Nat) : Int) := by
  cases start with
  | none => rfl
  | some a =>
    simp only [seqStart, pyStart, pyClampIdx]
    split
    · exact (Int.toNat_eq_max _).symm
    · exact (Int.toNat_of_nonneg (Int.not_lt.1 ‹_›)).symm

theorem stopAllows_seqStop (n : Nat) (stop : Option Int) (k : Nat) (hk : k < n) :
    stopAllows (seqStop n stop) (k : Int) = true ↔ k < pyStop n stop := by
  cases stop with
  | none => exact iff_of_true rfl hk
  | some e =>
    simp only [seqStop, pyStop, stopAllows, pyClampIdx, decide_eq_true_eq]
    split
    · exact Int.add_comm e n ▸ Int.lt_toNat.symm
    · exact Int.lt_toNat.symm

/-- `index(value, start, stop)` of the mixin agrees with `list.index` of the presented list for ALL arguments (negative,
too big, missing): the same position, or `ValueError` in both -/
theorem ringIndex_spec (r : Ring) (v : Nat) (start stop : Option Int) (h : 0 < r.maxSize) :
    ringIndex r v start stop =
      (match pyListIndex r.toList v start stop with
       | some i => .ok i
       | none => .error .valueError) := by
  unfold ringIndex pyListIndex
  rw [Ring.toList_length r h, seqStart_eq,
    ringIndexLoop_spec r h v _ (pyStop r.size stop) (stopAllows_seqStop r.size stop) _ _ (by omega)]
  simp only
  cases List.findIdx? (fun x => x == v) _ <;> rfl

end WindVerif.Buffers
