import WindVerif.Proofs.FMapDefs
import WindVerif.Proofs.ListFacts
/-! Data lemmas for the `FunctorMap` model: the queues (`chunksQ`, `nonesQ`), the worker table (`heldL`, `live`,
`getWorker`/`setWorker`, `mkWorkers`), the output (`outK`, `expOut`), the reorder buffer and the final sort. -/
namespace WindVerif.FMap

@[simp] theorem chunksQ_nil : chunksQ [] = [] := rfl
@[simp] theorem chunksQ_none_cons (r) : chunksQ (none :: r) = chunksQ r := by simp [chunksQ]
@[simp] theorem chunksQ_some_cons (c r) : chunksQ (some c :: r) = c :: chunksQ r := by simp [chunksQ]
@[simp] theorem chunksQ_append (a b) : chunksQ (a ++ b) = chunksQ a ++ chunksQ b := by simp [chunksQ]
@[simp] theorem nonesQ_nil : nonesQ [] = 0 := rfl
@[simp] theorem nonesQ_none_cons (r) : nonesQ (none :: r) = nonesQ r + 1 := by simp [nonesQ]
@[simp] theorem nonesQ_some_cons (c r) : nonesQ (some c :: r) = nonesQ r := by simp [nonesQ]
@[simp] theorem nonesQ_append (a b) : nonesQ (a ++ b) = nonesQ a + nonesQ b := by simp [nonesQ]

theorem queue_nil_of (q : List (Option Nat)) (h1 : chunksQ q = []) (h2 : nonesQ q = 0) : q = [] := by
  cases q with
  | nil => rfl
  | cons a r => cases a <;> simp_all

theorem chunksQ_nil_of_all_none (q : List (Option Nat)) (h : ∀ x ∈ q, x = none) : chunksQ q = [] :=
  List.filterMap_eq_nil_iff.2 h

theorem mem_chunksQ {q : List (Option Nat)} {c : Nat} : c ∈ chunksQ q ↔ some c ∈ q := by
  simp [chunksQ]

theorem nonesQ_pos_of_mem {q : List (Option Nat)} (h : none ∈ q) : 0 < nonesQ q := by
  simp only [nonesQ, List.countP_pos_iff]
  exact ⟨none, h, rfl⟩

theorem nonesQ_eq_zero {q : List (Option Nat)} (h : none ∉ q) : nonesQ q = 0 :=
  List.countP_eq_zero.2 fun a ha hn => by cases a; exact h ha; cases hn

@[simp] theorem heldL_nil : heldL [] = [] := rfl
@[simp] theorem heldL_append (a b) : heldL (a ++ b) = heldL a ++ heldL b := by simp [heldL]
theorem heldL_cons (w ws) : heldL (w :: ws) = (match w.held with | some c => [c] | none => []) ++ heldL ws := by
  cases h : w.held <;> simp [heldL, h]
@[simp] theorem live_nil : live [] = 0 := rfl
@[simp] theorem live_append (a b) : live (a ++ b) = live a + live b := by simp [live]
theorem live_cons (w ws) : live (w :: ws) = live ws + if w.pc = .exited then 0 else 1 := by
  simp only [live, List.countP_cons, decide_not, Bool.not_eq_eq_eq_not, Bool.not_true, decide_eq_false_iff_not, ite_not]

theorem heldL_mid (l1 : List Worker) (w : Worker) (l2 : List Worker) :
    heldL (l1 ++ w :: l2) = heldL l1 ++ (heldL [w] ++ heldL l2) :=
  (heldL_append l1 (w :: l2)).trans (congrArg _ (heldL_append [w] l2))
theorem live_mid (l1 : List Worker) (w : Worker) (l2 : List Worker) :
    live (l1 ++ w :: l2) = live l1 + (live [w] + live l2) :=
  (live_append l1 (w :: l2)).trans (congrArg _ (live_append [w] l2))

theorem repl_forall {P : Worker → Prop} {l1 l2 : List Worker} {w w' : Worker}
    (h : ∀ x ∈ l1 ++ w :: l2, P x) (hw' : P w') : ∀ x ∈ l1 ++ w' :: l2, P x := by
  intro x hx
  simp only [List.mem_append, List.mem_cons] at hx h
  rcases hx with hx | rfl | hx
  · exact h x (Or.inl hx)
  · exact hw'
  · exact h x (Or.inr (Or.inr hx))

theorem heldL_nil_iff {ws : List Worker} : heldL ws = [] ↔ ∀ w ∈ ws, w.held = none := by
  simp [heldL, List.filterMap_eq_nil_iff]

theorem live_zero_iff {ws : List Worker} : live ws = 0 ↔ ∀ w ∈ ws, w.pc = .exited := by
  simp [live, List.countP_eq_zero]

theorem live_pos_iff {ws : List Worker} : 0 < live ws ↔ ∃ w ∈ ws, w.pc ≠ .exited := by
  simp [live, List.countP_pos_iff]

theorem live_eq_length {ws : List Worker} (h : ∀ w ∈ ws, w.pc ≠ .exited) : live ws = ws.length := by
  simp only [live, List.countP_eq_length]
  intro w hw; simpa using h w hw

theorem wids_nodup {ws : List Worker} (h : ws.map (·.wid) = List.range ws.length) : (ws.map (·.wid)).Nodup := by
  rw [h]; exact List.nodup_range

theorem wid_lt_of_mem {ws : List Worker} (h : ws.map (·.wid) = List.range ws.length) {w : Worker} (hw : w ∈ ws) :
    w.wid < ws.length := by
  have : w.wid ∈ ws.map (·.wid) := List.mem_map_of_mem hw
  rw [h] at this; simpa using this

theorem map_set_of_ne {l : List Worker} {w' : Worker} (h : ∀ a ∈ l, a.wid ≠ w'.wid) :
    l.map (fun x => if x.wid = w'.wid then w' else x) = l :=
  (List.map_congr_left fun a ha => if_neg (h a ha)).trans (List.map_id' l)

theorem workers_decomp {s : St} (hwids : s.workers.map (·.wid) = List.range s.workers.length) {i : Nat} {w : Worker}
    (hg : getWorker s i = some w) :
    ∃ l1 l2, s.workers = l1 ++ w :: l2 ∧ w.wid = i ∧ ∀ (t : St) (w' : Worker), t.workers = s.workers → w'.wid = i →
      setWorker t w' = { t with workers := l1 ++ w' :: l2 } := by
  obtain ⟨hwi, l1, l2, hws, hl1⟩ := List.find?_eq_some_iff_append.1 hg
  have hwi : w.wid = i := of_decide_eq_true hwi
  refine ⟨l1, l2, hws, hwi, fun t w' ht hw' => ?_⟩
  have hnd := wids_nodup hwids
  simp only [hws, List.map_append, List.map_cons, List.nodup_append, List.nodup_cons, List.mem_map] at hnd
  have h1 : ∀ a ∈ l1, a.wid ≠ w'.wid := fun a ha e => by simpa [hw', e] using hl1 a ha
  have h2 : ∀ a ∈ l2, a.wid ≠ w'.wid := fun a ha e => hnd.2.1.1 ⟨a, ha, by rw [e, hw', hwi]⟩
  rw [setWorker, ht, hws, List.map_append, List.map_cons, map_set_of_ne h1, map_set_of_ne h2, if_pos (hwi.trans hw'.symm)]

theorem find_wid_of_mem {ws : List Worker} (hnd : (ws.map (·.wid)).Nodup) {w : Worker} (hw : w ∈ ws) :
    ws.find? (fun x => decide (x.wid = w.wid)) = some w := by
  induction ws with
  | nil => simp at hw
  | cons a r ih =>
    simp only [List.map_cons, List.nodup_cons, List.mem_map, not_exists, not_and] at hnd
    rcases List.mem_cons.1 hw with rfl | hr
    · simp
    · have hne : a.wid ≠ w.wid := fun h => hnd.1 w hr h.symm
      simp [hne, ih hnd.2 hr]

theorem find_wid_isSome {ws : List Worker} (h : ws.map (·.wid) = List.range ws.length) {i : Nat} (hi : i < ws.length) :
    ∃ w, ws.find? (fun x => decide (x.wid = i)) = some w := by
  have : i ∈ ws.map (·.wid) := by rw [h]; exact List.mem_range.2 hi
  obtain ⟨w, hw, rfl⟩ := List.mem_map.1 this
  exact ⟨w, find_wid_of_mem (wids_nodup h) hw⟩

theorem mkWorkers_wids (b n : Nat) : (mkWorkers b n).map (·.wid) = (List.range n).map (b + ·) := by
  simp [mkWorkers, Function.comp_def]
@[simp] theorem mkWorkers_length (b n : Nat) : (mkWorkers b n).length = n := by simp [mkWorkers]
theorem mem_mkWorkers {b n : Nat} {w : Worker} (h : w ∈ mkWorkers b n) :
    w.pc = .notStarted ∧ w.held = none ∧ b ≤ w.wid ∧ w.wid < b + n := by
  simp only [mkWorkers, List.mem_map, List.mem_range] at h
  obtain ⟨i, hi, rfl⟩ := h
  simp; omega
@[simp] theorem heldL_mkWorkers (b n : Nat) : heldL (mkWorkers b n) = [] :=
  heldL_nil_iff.2 fun _ hw => (mem_mkWorkers hw).2.1
@[simp] theorem live_mkWorkers (b n : Nat) : live (mkWorkers b n) = n := by
  rw [live_eq_length]; simp
  intro w hw; rw [(mem_mkWorkers hw).1]; decide
theorem wOmega_mkWorkers (b n : Nat) : ((mkWorkers b n).map wOmega).sum = n := by
  simp only [mkWorkers, List.map_map]
  induction n with
  | zero => rfl
  | succ k ih => simp_all [List.range_succ, Function.comp_def, wOmega]

@[simp] theorem outK_nil (k) : outK [] k = [] := rfl
theorem outK_append_tag (out : List (Nat × Nat)) (c : Nat) (em : List Nat) (k : Nat) :
    outK (out ++ em.map (fun j => (c, j))) k = outK out k ++ (if k = c then em else []) := by
  simp only [outK, List.filter_append, List.map_append, List.append_cancel_left_eq]
  by_cases h : k = c
  · subst h; simp [List.filter_map, Function.comp_def]
  · have h' : ¬ c = k := fun e => h e.symm
    simp [List.filter_map, Function.comp_def, h, h']

theorem range_add_range' (a k : Nat) : List.range (a + k) = List.range a ++ List.range' a k := by
  rw [List.range_add, List.range'_eq_map_range]

theorem expOut_zero (cfg : Cfg) (c k : Nat) : expOut cfg 0 c k = [] := by
  unfold expOut
  by_cases h : k = 0 <;> simp [h]

theorem expOut_cur_succ (cfg : Cfg) (callNo c k' : Nat) (hc : 1 ≤ callNo) (k : Nat) :
    expOut cfg callNo (c + k') k = expOut cfg callNo c k ++ (if k = callNo then List.range' c k' else []) := by
  unfold expOut
  by_cases h0 : k = 0
  · have : k ≠ callNo := by omega
    simp [h0]; omega
  · by_cases h1 : k < callNo
    · have : k ≠ callNo := by omega
      simp [h0, h1, this]
    · by_cases h2 : k = callNo
      · subst h2; simp [h0, range_add_range']
      · simp [h0, h1, h2]

theorem expOut_complete (cfg : Cfg) (callNo total : Nat) (ht : 1 ≤ callNo → cfg.calls[callNo - 1]? = some total) (k : Nat) :
    expOut cfg (callNo + 1) 0 k = expOut cfg callNo total k := by
  unfold expOut
  by_cases h0 : k = 0
  · simp [h0]
  · by_cases h1 : k < callNo
    · have : k < callNo + 1 := by omega
      simp [h0, h1, this]
    · by_cases h2 : k = callNo
      · subst h2; simp [h0, ht (by omega)]
      · by_cases h3 : k = callNo + 1
        · simp [h3]; omega
        · have : ¬ k < callNo + 1 := by omega
          simp [h0, h1, h2, h3, this]

theorem expOut_skip (cfg : Cfg) (callNo : Nat) (ht : cfg.calls[callNo]? = some 0) (k : Nat) :
    expOut cfg (callNo + 1 + 1) 0 k = expOut cfg (callNo + 1) 0 k := by
  have := expOut_complete cfg (callNo + 1) 0 (by intro _; simpa using ht) k
  rw [this]

theorem drainBuffer_spec (fuel : Nat) (buf : List Nat) (wf : Nat) (acc : List Nat) :
    ∃ k, (drainBuffer fuel buf wf acc).2.1 = wf + k ∧
      (drainBuffer fuel buf wf acc).2.2 = acc ++ List.range' wf k ∧
      buf.Perm ((drainBuffer fuel buf wf acc).1 ++ List.range' wf k) ∧
      (buf.length < fuel → (drainBuffer fuel buf wf acc).2.1 ∉ (drainBuffer fuel buf wf acc).1) := by
  induction fuel generalizing buf wf acc with
  | zero => exact ⟨0, by simp [drainBuffer]⟩
  | succ f ih =>
    by_cases hc : buf.contains wf = true
    · obtain ⟨k, h1, h2, h3, h4⟩ := ih (buf.erase wf) (wf + 1) (acc ++ [wf])
      have hm : wf ∈ buf := by simpa using hc
      refine ⟨k + 1, ?_, ?_, ?_, ?_⟩
      · simp only [drainBuffer, hc, if_true, h1]; omega
      · simp only [drainBuffer, hc, if_true, h2]
        simp [List.range'_succ]
      · simp only [drainBuffer, hc, if_true]
        refine (List.perm_cons_erase hm).trans ?_
        refine (List.Perm.cons wf h3).trans ?_
        simp only [List.range'_succ]
        exact List.perm_middle.symm
      · intro hl
        simp only [drainBuffer, hc, if_true]
        apply h4
        rw [List.length_erase_of_mem hm]
        have : 0 < buf.length := List.length_pos_of_mem hm
        omega
    · refine ⟨0, ?_, ?_, ?_, ?_⟩ <;> simp only [drainBuffer, hc]
      · simp
      · simp
      · simp
      · intro _; simpa using hc

theorem mergeSort_eq_range {l : List Nat} {n : Nat} (h : l.Perm (List.range n)) :
    l.mergeSort (fun a b => decide (a ≤ b)) = List.range n := by
  apply List.Perm.eq_of_pairwise (le := fun a b => a ≤ b)
  · intro a b _ _ h1 h2; omega
  · exact pairwise_mergeSort_key id l
  · exact List.pairwise_le_range
  · exact (List.mergeSort_perm l _).trans h

end WindVerif.FMap
