import WindVerif.Proofs.PoolMeasureKinds
/-! Termination of the pool model (C02): every step of the consumer decreases the measure, pc by pc; hence every step does. -/
namespace WindVerif.Pool

variable {s s' t : St}

theorem meas_lt_C0 (e1 : t.cur = s.cur) (e2 : t.callsLeft = s.callsLeft) (e3 : t.procs.length = s.procs.length)
    (e4 : preStart t = preStart s) (e5 : mF t = mF s) (e6 : mW t = mW s) (e7 : mR t = mR s) (e8 : mQ t = mQ s)
    (h : pos t.cpc (fresh t) s.procs.length < pos s.cpc (fresh s) s.procs.length)
    (e9 : midB t ≤ midB s := by exact Nat.le_refl _) : meas t < meas s :=
  meas_lt_CM e1 e2 e3 e4 e5 e6 (by rw [e7, e8]; omega)

/-- a consumer step that moves the pc only (as far as the measure can see) -/
macro "cstep " h:ident : tactic => `(tactic|
  (refine meas_lt_C0 rfl rfl rfl ?_ (mF_congr rfl rfl rfl rfl) (mW_congr rfl) (mR_congr rfl rfl) (mQ_congr rfl rfl) ?_
   · simp [preStart, $h:ident]
   · simp only [$h:ident]; simp [pos]))

theorem fW_start (k : Nat) : fW (if k = 0 then .wrSending else .put) (k - 0) < callW k := by
  by_cases hk : k = 0
  · rw [if_pos hk]; exact Nat.lt_of_lt_of_le (by decide : 22 < 23) (Nat.le_add_left ..)
  · rw [if_neg hk]; exact Nat.lt_succ_self _

/-- the start of the feeder: the weight of the pending call becomes the feeder's -/
theorem meas_fStart_lt {call : Call} (hpc : s.cpc = .fStart) (hcur : s.cur = some call) (e4 : t.cpc = .rdSending)
    (hF : mF t < callW call.chunks) (e1 : t.cur = s.cur := by rfl) (e2 : t.callsLeft = s.callsLeft := by rfl)
    (e3 : t.procs.length = s.procs.length := by rfl) (e5 : t.finished = s.finished := by rfl)
    (e6 : mW t = mW s := by exact mW_congr rfl) (e7 : mR t = mR s := by exact mR_congr rfl rfl)
    (e8 : mQ t = mQ s := by exact mQ_congr rfl rfl) : meas t < meas s := by
  have hp1 : preStart s = true := by unfold preStart; rw [hpc]
  have hp2 : preStart t = false := by unfold preStart; rw [e4]
  unfold meas mC futW pendCall midB
  rw [hp1, hp2, e1, e2, e3, e4, e5, e6, e7, e8, hpc, hcur]
  show 0 + _ + _ + (2 * s.procs.length + 2 + 25) + _ + _ + _ + _ + _ <
    callW call.chunks + _ + _ + (2 * s.procs.length + 2 + 34) + _ + _ + _ + _ + _
  omega

theorem meas_stepC (hL : LInv s) (h : stepC s = some s') : meas s' < meas s := by
  -- `p.start()`: the started worker weighs one less; the rest is a step of the state in which it has been started
  have start : ∀ {i wid w}, s.cpc = .enterStart i → s.procs[i]? = some wid → getWorker s wid = some w →
      i < s.procs.length ∧ meas (setWorker s { w with pc := .bfClear }) < meas s := by
    intro i wid w hpc hwd hg
    have hpre := (hL.pre (by rw [hpc]; trivial)).1
    have hlen := (List.getElem?_eq_some_iff.1 hwd).1
    rw [hpre] at hwd
    obtain ⟨rfl, _⟩ := range_getElem?_some hwd
    obtain ⟨hwm, hwid⟩ := getWorker_some hg
    exact ⟨hlen, meas_startWorker hL hg (hL.starting wid hpc w hwm (Nat.le_of_eq hwid.symm))⟩
  have hq : ∀ {t : St}, t.resQ = s.resQ → t.workQ = s.workQ ++ [none] → mQ t = mQ s := fun e1 e2 => by
    unfold mQ; rw [e1, e2, someCount_append_none]
  cases stepC_cases h with
  | enterNext hpc hwd hg =>
    obtain ⟨hin, hlt⟩ := start hpc hwd hg
    refine Nat.lt_trans ?_ hlt
    exact meas_move (s := setWorker s _) hpc rfl (pos_enter hin _ _).1 rfl rfl (by simp [preStart, setWorker, hpc])
  | enterLast hpc hwd hg =>
    obtain ⟨hin, hlt⟩ := start hpc hwd hg
    refine Nat.lt_trans ?_ hlt
    unfold afterEnter
    split
    · exact meas_move (s := setWorker s _) hpc rfl (pos_enter hin _ _).2.1 rfl rfl (by simp [preStart, setWorker, hpc])
    · rw [toNextCall_setCpc]
      exact meas_toNextCall (s := setWorker s _)
        (by rw [show (setWorker s _).cpc = _ from hpc]; exact (pos_enter hin true _).2.2)
  | readyNext hpc hwd => exact meas_move hpc rfl (pos_ready (List.getElem?_eq_some_iff.1 hwd).1 _ _).1
  | readyLast hpc hwd =>
    rw [toNextCall_setCpc]
    exact meas_toNextCall (by rw [hpc]; exact (pos_ready (List.getElem?_eq_some_iff.1 hwd).1 true _).2)
  | nextCall hpc => exact meas_toNextCall (by rw [hpc]; simp [pos])
  | rInitSet hpc | fInitSet hpc | wrSending hpc | wrDataCnt hpc | sendingUp hpc | sendingDown hpc | cntMore hpc
  | cntAll hpc | qsize1Zero hpc | flowClear hpc | flowIsSetYes hpc | flowIsSetNo hpc | flowSet hpc | fStopSet hpc
  | fJoinFactory hpc | rStopSet hpc | exitPutGiveUp hpc =>
    cstep hpc
  | rStart hpc =>
    refine meas_lt_V rfl ?_
    rw [hpc, mQ_congr (s := s) (s' := { s with rAlive := true, rpc := .get, cpc := .fInitSet }) rfl rfl]
    simp [pos, mR, rOff]; omega
  | fStart hpc hcur => exact meas_fStart_lt hpc hcur rfl (by rw [mF_alive rfl]; exact fW_start _)
  | qsize1Pos hpc => exact meas_move hpc rfl (Nat.add_lt_add_left (by decide : 22 < 23) _)
  | lockAcq hpc => exact meas_move hpc rfl (pos_drain _ _).2.2.1
  | qsize2Pos hpc => exact meas_move hpc rfl (pos_drain _ _).2.1
  | qsize2Zero hpc => exact meas_move hpc rfl (Nat.lt_trans (pos_drain _ _).1 (pos_drain _ _).2.1)
  | getNowaitEmpty hpc => exact meas_move hpc rfl (pos_drain _ _).1
  | getNowaitToken hpc hq | getNowaitChunk hpc hq => exact meas_take hpc hq rfl (pos_take _ _ _)
  | lockRelResults hpc hcons =>
    have hfr : fresh s = false := by unfold fresh; rw [decide_eq_true hcons]; rfl
    exact meas_afterResults_lt hpc rfl (by rw [hfr]; exact Nat.add_lt_add_right (Nat.lt_succ_self _) _)
  | lockRelNothing hpc => exact meas_move hpc rfl (pos_drain _ _).2.2.2
  | getBlockToken hpc hq | getBlockChunk hpc hq =>
    exact meas_afterResults_lt hpc rfl (take_lt hq rfl (Nat.le_refl _))
  | fJoinPlain hpc | rJoin hpc =>
    rw [toNextCall_setCpc]
    exact meas_toNextCall (by rw [hpc]; simp [pos])
  | rPutNone hpc =>
    refine meas_lt_V rfl ?_
    rw [hpc, mQ_congr (s := s) (s' := { s with replQ := s.replQ ++ [none], cpc := .rStopSet }) rfl rfl]
    simp [pos, mR, someCount_append_none, noneCount_append_none]; omega
  | exitPutNext hpc _ hlt => exact meas_move hpc rfl ((pos_exit _ _).1 (Nat.lt_of_succ_lt hlt)) (hq rfl rfl)
  | exitPutLast hpc =>
    exact meas_move hpc rfl (Nat.lt_of_le_of_lt (exitJoinFrom_pos ..).1 (pos_exit true _).2.1) (hq rfl rfl) rfl
      (by rw [(exitJoinFrom_pos _ _ _ true 0).2 rfl]; simp [preStart, hpc])
  | exitJoin hpc hwd =>
    exact meas_move hpc rfl
      (Nat.lt_of_le_of_lt (exitJoinFrom_pos ..).1 ((pos_exit true _).2.2 (List.getElem?_eq_some_iff.1 hwd).1)) rfl rfl
      (by rw [(exitJoinFrom_pos _ _ _ true 0).2 rfl]; simp [preStart, hpc])
  | midNext hpc _ _ hw' =>
    exact meas_move hpc rfl ((pos_mid _ _ _ _).1 (Nat.lt_of_succ_lt (List.getElem?_eq_some_iff.1 hw').1))
  | midLast hpc =>
    obtain ⟨c', heq, hcl⟩ := afterBatch_eq s
    rw [heq]
    exact meas_move hpc rfl (Nat.lt_of_le_of_lt (pos_after hcl _ _).1 (pos_mid _ 0 true _).2) rfl rfl
      (by rw [(pos_after hcl true 0).2 rfl]; simp [preStart, hpc])

theorem meas_step {tid : Tid} (hf : NoFaults s.cfg) (hw : WellCfg s.cfg) (hS : SafeInv s) (hL : LInv s)
    (h : step s tid = some s') : meas s' < meas s := by
  cases tid with
  | c => exact meas_stepC hL h
  | f => exact meas_stepF hS h
  | r => exact meas_stepR hL h
  | w wid => exact meas_stepW hf hw hL h

end WindVerif.Pool
