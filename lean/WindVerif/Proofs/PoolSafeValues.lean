import WindVerif.Spec.Pool
import WindVerif.Proofs.PoolSteps
/-!
The safety invariant `SafeInv` over plain values (`SafeV`: control part `CtlV`, data part `DataV`, emitted call numbers
`OutLe`, worker part `WrkV`), so that its preservation can be stated and proved without the 31-field state record.  The
consumer's pc enters only through its signature `csig`.
-/
namespace WindVerif.Pool

structure CSig where
  pre : Bool      -- `preStart`
  post : Bool     -- `postLoop`
  exit : Bool     -- `exitPut` / `exitJoin` / `done`
  rd : Bool       -- `rdDataCnt`
  rj : Bool       -- `rPutNone` / `rStopSet` / `rJoin`
  ws : Bool       -- `wrSending`
  wd : Bool       -- `wrDataCnt`
  fs : Bool       -- `fStart`
  be : Bool       -- batch must be empty here
  en : Bool       -- `enterStart`

def preStartPc : CPc → Bool
  | .enterStart _ | .readyWait _ | .nextCall | .rInitSet | .rStart | .fInitSet | .wrSending | .wrDataCnt | .fStart => true
  | _ => false

def postLoopPc : CPc → Bool
  | .fStopSet | .fJoin | .rPutNone | .rStopSet | .rJoin => true
  | _ => false

def exitPc : CPc → Bool
  | .exitPut _ | .exitJoin _ | .done => true
  | _ => false

def rjPc : CPc → Bool
  | .rPutNone | .rStopSet | .rJoin => true
  | _ => false

def bePc : CPc → Bool
  | .qsize2 | .getNowait | .lockRel => false
  | _ => true

def enPc : CPc → Bool
  | .enterStart _ => true
  | _ => false

def rdPc : CPc → Bool
  | .rdDataCnt => true
  | _ => false

def wsPc : CPc → Bool
  | .wrSending => true
  | _ => false

def wdPc : CPc → Bool
  | .wrDataCnt => true
  | _ => false

def fsPc : CPc → Bool
  | .fStart => true
  | _ => false

def csig (pc : CPc) : CSig :=
  { pre := preStartPc pc, post := postLoopPc pc, exit := exitPc pc, rd := rdPc pc, rj := rjPc pc,
    ws := wsPc pc, wd := wdPc pc, fs := fsPc pc, be := bePc pc, en := enPc pc }

theorem preStart_eq (s : St) : preStart s = preStartPc s.cpc := rfl

theorem postLoop_eq (s : St) : postLoop s = postLoopPc s.cpc := rfl

def sentV (pre : Bool) (cur : Option Call) (fpc : FPc) (fNext fTotal : Nat) : Nat :=
  if pre || cur.isNone then 0 else
  match fpc with
  | .put => fNext
  | .rdCnt | .wrCnt | .stopIsSet | .runWait => fNext + 1
  | .wrSending | .token | .idle => fTotal

def curOutL (out : List (Nat × Nat)) (k : Nat) : List Nat := (out.filter (fun p => p.1 == k)).map (·.2)

theorem curOut_eq (s : St) : curOut s = curOutL s.out s.callNo := rfl
theorem outOf_eq (s : St) (k : Nat) : outOf s k = curOutL s.out k := rfl

def heldL (ws : List Worker) : List Nat := ws.filterMap (·.held)

def flightL (workQ : List (Option Nat)) (ws : List Worker) (resQ : List (Option Nat)) : List Nat :=
  chunksOf workQ ++ heldL ws ++ chunksOf resQ

theorem rdPc_iff (pc : CPc) : rdPc pc = true ↔ pc = .rdDataCnt := by
  unfold rdPc
  split <;> simp_all
theorem wsPc_iff (pc : CPc) : wsPc pc = true ↔ pc = .wrSending := by
  unfold wsPc
  split <;> simp_all
theorem wdPc_iff (pc : CPc) : wdPc pc = true ↔ pc = .wrDataCnt := by
  unfold wdPc
  split <;> simp_all
theorem fsPc_iff (pc : CPc) : fsPc pc = true ↔ pc = .fStart := by
  unfold fsPc
  split <;> simp_all
theorem rjPc_iff (pc : CPc) : rjPc pc = true ↔ (pc = .rPutNone ∨ pc = .rStopSet ∨ pc = .rJoin) := by
  unfold rjPc
  split <;> simp_all
theorem enPc_iff (pc : CPc) : enPc pc = true ↔ ∃ i, pc = .enterStart i := by
  unfold enPc
  split <;> simp_all
theorem exitPc_iff (pc : CPc) :
    exitPc pc = true ↔ (match pc with | .exitPut _ | .exitJoin _ | .done => True | _ => False) := by
  unfold exitPc
  split <;> simp_all
theorem bePc_iff (pc : CPc) :
    bePc pc = true ↔ (match pc with | .qsize2 | .getNowait | .lockRel => False | _ => True) := by
  unfold bePc
  split <;> simp_all

/-- what the control part uses of the order of the pcs: the two writes that precede `fStart` are before it, the pcs after
the loop are not -/
structure SigOk (g : CSig) : Prop where
  setupPre : g.wd = true ∨ g.fs = true → g.pre = true
  postPre : g.post = true → g.pre = false

theorem sigOk_csig (pc : CPc) : SigOk (csig pc) where
  setupPre q := q.elim (fun h => (wdPc_iff pc).1 h ▸ rfl) fun h => (fsPc_iff pc).1 h ▸ rfl
  postPre := by
    show postLoopPc pc = true → preStartPc pc = false
    unfold postLoopPc
    split <;> simp_all [preStartPc]

/-- what holds at each pc of the feeder while the consumer is past `fStart` in a call: the flag `_sending_work`, the
counter `_data_cnt` against the chunk `fNext` in the feeder's hands, and the value it has read from the counter -/
def FeedV (fpc : FPc) (sending : Bool) (dataCnt fNext fTotal fRead : Nat) : Prop :=
  match fpc with
  | .put | .rdCnt => sending = true ∧ dataCnt = fNext ∧ fNext < fTotal
  | .wrCnt => sending = true ∧ dataCnt = fNext ∧ fRead = fNext ∧ fNext < fTotal
  | .stopIsSet | .runWait => sending = true ∧ dataCnt = fNext + 1 ∧ fNext < fTotal
  | .wrSending => sending = true ∧ dataCnt = fTotal
  | .token | .idle => sending = false ∧ dataCnt = fTotal

theorem feedV_iff {fpc : FPc} {sending : Bool} {dataCnt fNext fTotal fRead : Nat} :
    FeedV fpc sending dataCnt fNext fTotal fRead ↔
      (sending = true ↔ (fpc = .put ∨ fpc = .rdCnt ∨ fpc = .wrCnt ∨ fpc = .stopIsSet ∨ fpc = .runWait ∨
        fpc = .wrSending)) ∧
      ((fpc = .put ∨ fpc = .rdCnt) → dataCnt = fNext ∧ fNext < fTotal) ∧
      (fpc = .wrCnt → dataCnt = fNext ∧ fRead = fNext ∧ fNext < fTotal) ∧
      ((fpc = .stopIsSet ∨ fpc = .runWait) → dataCnt = fNext + 1 ∧ fNext < fTotal) ∧
      ((fpc = .wrSending ∨ fpc = .token ∨ fpc = .idle) → dataCnt = fTotal) := by
  cases fpc <;> simp [FeedV]

structure CtlV (g : CSig) (cur : Option Call) (fpc : FPc) (sending : Bool) (dataCnt fNext fTotal fRead : Nat)
    (fAlive fStop : Bool) (finished : Nat) : Prop where
  sigOk : SigOk g
  total : ∀ c, cur = some c → g.pre = false → fTotal = c.chunks
  feed : g.pre = false → cur.isSome → FeedV fpc sending dataCnt fNext fTotal fRead
  alive : fAlive = (fpc != .idle)
  quiet : g.pre = true ∨ g.rj = true ∨ cur = none → fpc = .idle
  stopF : fStop = true → (fpc = .token ∨ fpc = .idle)
  readCnt : g.rd = true → sending = false
  post : g.post = true → sending = false ∧ finished = fTotal
  noCall : cur = none → g.pre = true ∨ g.exit = true
  setupStop : (g.ws = true ∨ g.wd = true ∨ g.fs = true) → fStop = false
  setupSending : (g.wd = true ∨ g.fs = true) → sending = true
  setupCnt : g.fs = true → dataCnt = 0

structure DataV (be : Bool) (cur : Option Call) (n : Nat) (fl batch buffer : List Nat) (finished wf : Nat)
    (co : List Nat) : Prop where
  conserve : cur.isSome → (fl ++ batch ++ buffer ++ co).Perm (List.range n)
  idle : cur = none → fl = [] ∧ batch = [] ∧ buffer = []
  fin : cur.isSome → finished = co.length
  ordered : ∀ c, cur = some c → c.ordered = true → co = List.range wf
  unordered : ∀ c, cur = some c → c.ordered = false → buffer = []
  batchEmpty : be = true → batch = []

def OutLe (out : List (Nat × Nat)) (k : Nat) : Prop := ∀ p ∈ out, p.1 ≤ k

structure WrkV (en : Bool) (rpc : RPc) (ws : List Worker) (widCounter : Nat) : Prop where
  wids : (ws.map (·.wid)).Nodup
  widLt : ∀ w ∈ ws, w.wid < widCounter
  heldPc : ∀ w ∈ ws, w.held.isSome →
    (w.pc = .lockAcq ∨ w.pc = .putNowait ∨ w.pc = .putBlock ∨ (w.pc = .lockRel ∧ w.full = true))
  startFresh : ∀ nw, rpc = .start nw → ∀ w ∈ ws, w.wid = nw → w.pc = .notStarted
  enterR : en = true → rpc = .idle

def SafeV (cpc : CPc) (cur : Option Call) (fpc : FPc) (sending : Bool) (dataCnt fNext fTotal fRead : Nat)
    (fAlive fStop : Bool) (finished : Nat) (workQ : List (Option Nat)) (ws : List Worker) (resQ : List (Option Nat))
    (batch buffer : List Nat) (wf : Nat) (out : List (Nat × Nat)) (callNo : Nat) (rpc : RPc) (widCounter : Nat) : Prop :=
  CtlV (csig cpc) cur fpc sending dataCnt fNext fTotal fRead fAlive fStop finished ∧
  DataV (csig cpc).be cur (sentV (csig cpc).pre cur fpc fNext fTotal) (flightL workQ ws resQ) batch buffer finished wf
    (curOutL out callNo) ∧
  OutLe out callNo ∧
  WrkV (csig cpc).en rpc ws widCounter

theorem csig_pre (pc : CPc) : (csig pc).pre = preStartPc pc := rfl
theorem csig_post (pc : CPc) : (csig pc).post = postLoopPc pc := rfl

theorem flight_nil_iff (workQ : List (Option Nat)) (ws : List Worker) (resQ : List (Option Nat)) :
    flightL workQ ws resQ = [] ↔ chunksOf workQ = [] ∧ heldL ws = [] ∧ chunksOf resQ = [] := by
  simp [flightL]

/-- `preStart s`, `postLoop s` unfold to `(csig s.cpc).pre`, `(csig s.cpc).post`, `sent s` and `places s` to their
counterparts over values, so most clauses are carried over as they are -/
theorem safe_iff (s : St) :
    SafeInv s ↔ SafeV s.cpc s.cur s.fpc s.sending s.dataCnt s.fNext s.fTotal s.fRead s.fAlive s.fStop s.finished
      s.workQ s.workers s.resQ s.batch s.buffer s.wf s.out s.callNo s.rpc s.widCounter := by
  constructor
  · intro h
    exact ⟨{ sigOk := sigOk_csig _, total := h.total
             feed := fun hp hc => feedV_iff.2 ⟨h.sendingTrue hp hc, h.cntPut hp hc, h.cntWr hp hc, h.cntAfter hp hc,
               h.cntDone hp hc⟩
             alive := h.alive
             quiet := fun q => q.elim h.preIdle fun q => q.elim (fun r => h.postF ((rjPc_iff _).1 r)) h.noCallF
             stopF := h.stopF
             readCnt := fun r => h.readCnt ((rdPc_iff _).1 r)
             post := h.post
             noCall := fun hc => (h.noCall hc).imp_right (exitPc_iff _).2
             setupStop := fun q => h.setupStop (q.imp (wsPc_iff _).1 (Or.imp (wdPc_iff _).1 (fsPc_iff _).1))
             setupSending := fun q => h.setupSending (q.imp (wdPc_iff _).1 (fsPc_iff _).1)
             setupCnt := fun q => h.setupCnt ((fsPc_iff _).1 q) },
      { conserve := h.conserve
        idle := fun hc => ⟨(flight_nil_iff _ _ _).2 ⟨(h.idle hc).1, (h.idle hc).2.1, (h.idle hc).2.2.1⟩,
          (h.idle hc).2.2.2⟩
        fin := h.fin, ordered := h.ordered, unordered := h.unordered
        batchEmpty := fun b => h.batchEmpty ((bePc_iff _).1 b) },
      h.outLe,
      { wids := h.wids, widLt := h.widLt, heldPc := h.heldPc, startFresh := h.startFresh
        enterR := fun he => ((enPc_iff _).1 he).elim h.enterR }⟩
  · rintro ⟨hc, hd, ho, hw⟩
    have hf := fun hp hcur => feedV_iff.1 (hc.feed hp hcur)
    exact
      { conserve := hd.conserve
        idle := fun hcur => ⟨((flight_nil_iff _ _ _).1 (hd.idle hcur).1).1, ((flight_nil_iff _ _ _).1 (hd.idle hcur).1).2.1,
          ((flight_nil_iff _ _ _).1 (hd.idle hcur).1).2.2, (hd.idle hcur).2⟩
        fin := hd.fin, ordered := hd.ordered, unordered := hd.unordered
        total := hc.total
        sendingTrue := fun hp hcur => (hf hp hcur).1
        cntPut := fun hp hcur => (hf hp hcur).2.1
        cntWr := fun hp hcur => (hf hp hcur).2.2.1
        cntAfter := fun hp hcur => (hf hp hcur).2.2.2.1
        cntDone := fun hp hcur => (hf hp hcur).2.2.2.2
        alive := hc.alive
        preIdle := fun hp => hc.quiet (Or.inl hp)
        readCnt := fun r => hc.readCnt ((rdPc_iff _).2 r)
        post := hc.post
        noCall := fun hcur => (hc.noCall hcur).imp_right (exitPc_iff _).1
        batchEmpty := fun b => hd.batchEmpty ((bePc_iff _).2 b)
        wids := hw.wids, widLt := hw.widLt, heldPc := hw.heldPc, startFresh := hw.startFresh
        enterR := fun i hi => hw.enterR ((enPc_iff _).2 ⟨i, hi⟩)
        noCallF := fun hcur => hc.quiet (Or.inr (Or.inr hcur))
        postF := fun r => hc.quiet (Or.inr (Or.inl ((rjPc_iff _).2 r)))
        stopF := hc.stopF
        setupStop := fun q => hc.setupStop (q.imp (wsPc_iff _).2 (Or.imp (wdPc_iff _).2 (fsPc_iff _).2))
        setupSending := fun q => hc.setupSending (q.imp (wdPc_iff _).2 (fsPc_iff _).2)
        setupCnt := fun q => hc.setupCnt ((fsPc_iff _).2 q)
        outLe := ho }

end WindVerif.Pool
