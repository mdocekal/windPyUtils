import WindVerif.Model.FilePoolFail
import WindVerif.Proofs.ListFacts
/-! Theorems about `FilePool` with files that cannot be opened (C20). -/
namespace WindVerif.FilePoolFail
open List

theorem dictSet_of_not_mem : ∀ (d : Dict) (k : Path) (v : Handle), k ∉ d.map (·.1) → dictSet d k v = d ++ [(k, v)]
  | [], _, _, _ => rfl
  | (k', v') :: r, k, v, h => by
    simp only [List.map_cons, List.mem_cons, not_or] at h
    simp only [dictSet, if_neg (Ne.symm h.1), dictSet_of_not_mem r k v h.2, List.cons_append]

theorem keys_dictSet : ∀ (d : Dict) (k : Path) (v : Handle) (q : Path),
    q ∈ (dictSet d k v).map (·.1) ↔ (q = k ∨ q ∈ d.map (·.1))
  | [], k, v, q => by simp [dictSet]
  | (k', v') :: r, k, v, q => by
    by_cases h : k' = k
    · subst h
      simp only [dictSet, if_true, List.map_cons, List.mem_cons, or_self_left]
    · simp only [dictSet, if_neg h, List.map_cons, List.mem_cons, keys_dictSet r k v q]
      exact or_left_comm

theorem mem_dictSet : ∀ (d : Dict) (k : Path) (v : Handle) (x : Path × Handle),
    x ∈ dictSet d k v → (x ∈ d ∨ x = (k, v))
  | [], k, v, x, h => Or.inr (List.mem_singleton.mp h)
  | (k', v') :: r, k, v, x, h => by
    by_cases hk : k' = k
    · rw [dictSet, if_pos hk] at h
      exact (List.mem_cons.mp h).elim (fun h => Or.inr (hk ▸ h)) (fun h => Or.inl (List.mem_cons_of_mem _ h))
    · rw [dictSet, if_neg hk] at h
      rcases List.mem_cons.mp h with h | h
      · exact Or.inl (h ▸ List.mem_cons_self)
      · exact (mem_dictSet r k v x h).imp_left (List.mem_cons_of_mem _)

def build (d : Dict) (l : List (Path × Handle)) : Dict := l.foldl (fun d ph => dictSet d ph.1 ph.2) d

theorem mem_build : ∀ (l : List (Path × Handle)) (d : Dict) (x : Path × Handle), x ∈ build d l → (x ∈ d ∨ x ∈ l)
  | [], d, x, h => Or.inl h
  | ph :: l, d, x, h => by
    rcases mem_build l (dictSet d ph.1 ph.2) x h with h | h
    · exact (mem_dictSet d ph.1 ph.2 x h).imp_right fun h => by rw [h]; exact List.mem_cons_self
    · exact Or.inr (List.mem_cons_of_mem _ h)

theorem keys_build : ∀ (l : List (Path × Handle)) (d : Dict) (q : Path),
    q ∈ (build d l).map (·.1) ↔ (q ∈ d.map (·.1) ∨ q ∈ l.map (·.1))
  | [], d, q => by simp [build]
  | ph :: l, d, q => by
    rw [build, List.foldl_cons, ← build, keys_build l, keys_dictSet, List.map_cons, List.mem_cons, or_comm (a := q = ph.1),
      or_assoc]

theorem build_nodup : ∀ (l : List (Path × Handle)) (d : Dict),
    (l.map (·.1)).Nodup → (∀ q ∈ l.map (·.1), q ∉ d.map (·.1)) → build d l = d ++ l
  | [], d, _, _ => by simp [build]
  | ph :: l, d, hn, hd => by
    rw [List.map_cons, List.nodup_cons] at hn
    have h1 : ph.1 ∉ d.map (·.1) := hd _ (by simp)
    have := build_nodup l (dictSet d ph.1 ph.2) hn.2 (by
      intro q hq
      rw [keys_dictSet]
      rintro (h | h)
      · exact hn.1 (h ▸ hq)
      · exact hd q (by simp [hq]) h)
    simp only [build, List.foldl_cons] at this ⊢
    rw [this, dictSet_of_not_mem d ph.1 ph.2 h1, List.append_assoc]
    rfl

/-- the paths an `open()` opens before it gives up: those before the first missing one -/
def prefixOk (missing files : List Path) : List Path := files.takeWhile (fun f => !missing.contains f)

def attempt (missing files : List Path) (next : Handle) : List (Path × Handle) :=
  (prefixOk missing files).zip (List.range' next (prefixOk missing files).length)

theorem comp_spec (missing : List Path) : ∀ (fs : List Path) (h : Handle) (c : Comp),
    comp missing fs h c =
      ({ dict := build c.dict (attempt missing fs h), opened := c.opened ++ attempt missing fs h },
        fs.all (fun f => !missing.contains f))
  | [], h, c => by simp [comp, attempt, prefixOk, build]
  | f :: fs, h, c => by
    by_cases hf : f ∈ missing
    · simp [comp, hf, attempt, prefixOk, build]
    · simp [comp, hf, comp_spec missing fs (h + 1), attempt, prefixOk, List.range'_succ, build]

theorem all_ok_iff (missing files : List Path) :
    files.all (fun f => !missing.contains f) = true ↔ ∀ p ∈ files, p ∉ missing := by
  simp [List.all_eq_true]

theorem prefixOk_cases (missing files : List Path) :
    (∀ q ∈ prefixOk missing files, q ∉ missing) ∧
      (prefixOk missing files = files ∨ ∃ p post, files = prefixOk missing files ++ p :: post ∧ p ∈ missing) := by
  induction files with
  | nil => exact ⟨nofun, Or.inl rfl⟩
  | cons f fs ih =>
    by_cases hf : f ∈ missing
    · have : prefixOk missing (f :: fs) = [] := by simp [prefixOk, hf]
      rw [this]
      exact ⟨nofun, Or.inr ⟨f, fs, rfl, hf⟩⟩
    · have : prefixOk missing (f :: fs) = f :: prefixOk missing fs := by simp [prefixOk, hf]
      rw [this]
      refine ⟨fun q hq => (List.mem_cons.mp hq).elim (fun h => h ▸ hf) (ih.1 q), ih.2.imp (congrArg _) ?_⟩
      rintro ⟨p, post, he, hp⟩
      exact ⟨p, post, congrArg _ he, hp⟩

theorem prefixOk_of_all {missing files : List Path} (h : ∀ p ∈ files, p ∉ missing) : prefixOk missing files = files := by
  rcases (prefixOk_cases missing files).2 with h' | ⟨p, post, he, hp⟩
  · exact h'
  · exact absurd hp (h p (by rw [he]; exact List.mem_append_right _ List.mem_cons_self))

theorem attempt_vals (missing files : List Path) (next : Handle) :
    vals (attempt missing files next) = List.range' next (prefixOk missing files).length := by
  unfold attempt vals
  rw [List.map_snd_zip]
  simp

theorem attempt_length (missing files : List Path) (next : Handle) :
    (attempt missing files next).length = (prefixOk missing files).length := by
  simp [attempt]

def opened (s : FP) : Dict := s.files.zip (List.range' s.next s.files.length)

theorem attempt_of_all {s : FP} (h : ∀ p ∈ s.files, p ∉ s.missing) : attempt s.missing s.files s.next = opened s := by
  rw [attempt, prefixOk_of_all h, opened]

theorem keys_opened (s : FP) : (opened s).map (·.1) = s.files := by
  unfold opened
  rw [List.map_fst_zip]
  simp

theorem length_opened (s : FP) : (opened s).length = s.files.length := by
  simp [opened]

theorem vals_opened (s : FP) : vals (opened s) = List.range' s.next s.files.length := by
  unfold opened vals
  rw [List.map_snd_zip]
  simp

/-- distinct paths: no key is overwritten while the dict is built -/
theorem build_opened {s : FP} (hn : s.files.Nodup) : build [] (opened s) = opened s := by
  rw [build_nodup _ _ (by rw [keys_opened]; exact hn) (fun _ _ => List.not_mem_nil), List.nil_append]

theorem vals_build_sub {l : List (Path × Handle)} {h : Handle} (hh : h ∈ vals (build [] l)) : h ∈ vals l := by
  obtain ⟨ph, hph, rfl⟩ := List.mem_map.mp hh
  exact List.mem_map_of_mem ((mem_build _ _ _ hph).resolve_left List.not_mem_nil)

theorem fpEnter_ok (s : FP) (h : ∀ p ∈ s.files, p ∉ s.missing) :
    fpEnter s =
      ({ s with mapping := some (build [] (opened s)),
                openH := s.openH ++ List.range' s.next s.files.length,
                leaked := s.leaked ++ s.mapping.getD [] ++
                  (opened s).filter (fun ph => !(vals (build [] (opened s))).contains ph.2),
                next := s.next + s.files.length }, .ok ()) := by
  unfold fpEnter
  rw [comp_spec, (all_ok_iff _ _).mpr h]
  simp only [List.nil_append, attempt_of_all h, vals_opened, length_opened]

theorem fpEnter_fail (s : FP) (h : ¬ ∀ p ∈ s.files, p ∉ s.missing) :
    fpEnter s =
      ({ s with openH := s.openH ++ List.range' s.next (prefixOk s.missing s.files).length,
                leaked := s.leaked ++ attempt s.missing s.files s.next,
                next := s.next + (prefixOk s.missing s.files).length }, .error .fileNotFound) := by
  unfold fpEnter
  have : s.files.all (fun f => !s.missing.contains f) = false := by
    rw [← Bool.not_eq_true, all_ok_iff]; exact h
  rw [comp_spec, this]
  simp only [List.nil_append, attempt_vals, attempt_length]

theorem enter_ok_iff (s : FP) : (fpEnter s).2 = .ok () ↔ ∀ p ∈ s.files, p ∉ s.missing := by
  by_cases h : ∀ p ∈ s.files, p ∉ s.missing
  · rw [fpEnter_ok s h]
    exact ⟨fun _ => h, fun _ => rfl⟩
  · rw [fpEnter_fail s h]
    exact ⟨fun h' => (by cases h'), fun h' => absurd h' h⟩

theorem enter_ok_state (s : FP) (h : (fpEnter s).2 = .ok ()) :
    ∃ d, (fpEnter s).1.mapping = some d ∧
      (∀ q, q ∈ d.map (·.1) ↔ q ∈ s.files) ∧
      (∀ ph ∈ d, s.next ≤ ph.2 ∧ ph.2 < (fpEnter s).1.next ∧ ph.2 ∈ (fpEnter s).1.openH) ∧
      (s.files.Nodup → d = s.files.zip (List.range' s.next s.files.length)) := by
  rw [fpEnter_ok s ((enter_ok_iff s).mp h)]
  refine ⟨_, rfl, fun q => ?_, fun ph hph => ?_, build_opened⟩
  · rw [keys_build, keys_opened]
    exact or_iff_right nofun
  · have hv := vals_build_sub (List.mem_map_of_mem hph)
    rw [vals_opened] at hv
    exact ⟨(List.mem_range'_1.mp hv).1, (List.mem_range'_1.mp hv).2, List.mem_append_right _ hv⟩

theorem foldl_closeH : ∀ (hs o : List Handle), hs.foldl closeH o = o.filter (fun h => !hs.contains h)
  | [], o => (filter_nil_contains o).symm
  | x :: hs, o => by rw [List.foldl_cons, foldl_closeH hs, closeH, filter_ne_filter]

theorem exit_some (s : FP) (m : Dict) (hm : s.mapping = some m) :
    (fpExit s).2 = .ok () ∧ (fpExit s).1.mapping = none ∧
      (∀ h, h ∈ (fpExit s).1.openH ↔ (h ∈ s.openH ∧ h ∉ vals m)) ∧
      (fpExit s).1.leaked = s.leaked ∧ (fpExit s).1.next = s.next ∧
      (fpExit s).1.files = s.files ∧ (fpExit s).1.missing = s.missing := by
  unfold fpExit
  rw [hm]
  exact ⟨rfl, rfl, fun h => by simp [foldl_closeH], rfl, rfl, rfl, rfl⟩

theorem exit_none (s : FP) (hm : s.mapping = none) : fpExit s = (s, .error .attributeError) := by
  unfold fpExit
  rw [hm]

theorem round_ok (s : FP) (hm : s.mapping = none) (hok : ∀ p ∈ s.files, p ∉ s.missing) (hn : s.files.Nodup)
    (hb : ∀ h : Nat, h ∈ s.openH → h < s.next) :
    fpExit (fpEnter s).1 = ({ s with next := s.next + s.files.length }, .ok ()) := by
  have hdrop : (opened s).filter (fun ph => !(vals (opened s)).contains ph.2) = [] :=
    List.filter_eq_nil_iff.mpr (fun ph hph => by
      have : ph.2 ∈ vals (opened s) := List.mem_map_of_mem hph
      simpa using this)
  have hclose : (List.range' s.next s.files.length).foldl closeH (s.openH ++ List.range' s.next s.files.length) = s.openH := by
    rw [foldl_closeH, List.filter_append, List.filter_eq_self.mpr, List.filter_eq_nil_iff.mpr, List.append_nil]
    · intro h hh
      simpa using hh
    · intro h hh
      have : h ∉ List.range' s.next s.files.length :=
        fun hc => absurd (List.mem_range'_1.mp hc).1 (Nat.not_le.mpr (hb h hh))
      simp only [List.contains_eq_mem, Bool.not_eq_true', decide_eq_false_iff_not]
      exact this
  rw [fpEnter_ok s hok, build_opened hn, hdrop, hm]
  simp only [fpExit, vals_opened, hclose, Option.getD_none, List.append_nil]

theorem rounds_closed : ∀ (n : Nat) (s : FP), s.mapping = none → (∀ p ∈ s.files, p ∉ s.missing) → s.files.Nodup →
    (∀ h : Nat, h ∈ s.openH → h < s.next) →
    rounds n s = ({ s with next := s.next + n * s.files.length }, List.replicate (2 * n) (.ok ()))
  | 0, s, _, _, _, _ => by simp [rounds]
  | n + 1, s, hm, hok, hn, hb => by
    have ih := rounds_closed n { s with next := s.next + s.files.length } hm hok hn
      (fun h hh => Nat.lt_of_lt_of_le (hb h hh) (Nat.le_add_right _ _))
    have e1 : fpEnter s = ((fpEnter s).1, .ok ()) := by rw [← (enter_ok_iff s).mpr hok]
    rw [rounds, e1]
    simp only []
    rw [round_ok s hm hok hn hb]
    simp only []
    rw [ih]
    simp only [Nat.mul_add, Nat.mul_one, List.replicate_succ, Nat.add_mul, Nat.one_mul, Nat.add_assoc,
      Nat.add_comm s.files.length]

theorem reenter_after_failure (p : Path) (rest missing : List Path) (n : Nat)
    (hp : p ∈ missing) (honly : ∀ q ∈ missing, q = p) (hn : (p :: rest).Nodup) :
    let s1 := fpEnter (FP.new (p :: rest) missing)
    s1.2 = .error .fileNotFound ∧ s1.1.mapping = none ∧ s1.1.openH = [] ∧ s1.1.leaked = [] ∧
    let s3 := rounds n (fpCreate s1.1 p)
    s3.2 = List.replicate (2 * n) (.ok ()) ∧ s3.1.mapping = none ∧ s3.1.openH = [] ∧ s3.1.leaked = [] ∧
      s3.1.next = n * (p :: rest).length := by
  have e1 : fpEnter (FP.new (p :: rest) missing) = (FP.new (p :: rest) missing, .error .fileNotFound) := by
    simp [fpEnter, comp, FP.new, vals, hp]
  simp only [e1]
  refine ⟨trivial, rfl, rfl, rfl, ?_⟩
  have hok : ∀ q ∈ (fpCreate (FP.new (p :: rest) missing) p).files,
      q ∉ (fpCreate (FP.new (p :: rest) missing) p).missing := by
    intro q _ hq
    simp only [fpCreate, FP.new, List.mem_filter, decide_eq_true_eq] at hq
    exact hq.2 (honly q hq.1)
  rw [rounds_closed n _ rfl hok hn (by simp [fpCreate, FP.new])]
  simp [fpCreate, FP.new]

structure Inv (s : FP) : Prop where
  bound  : ∀ h : Nat, h ∈ s.openH → h < s.next
  split  : ∀ h, h ∈ s.openH ↔ (h ∈ vals (s.mapping.getD []) ∨ h ∈ vals s.leaked)
  disj   : ∀ h : Nat, h ∈ vals (s.mapping.getD []) → h ∉ vals s.leaked

theorem inv_new (files missing : List Path) : Inv (FP.new files missing) :=
  ⟨by simp [FP.new], by simp [FP.new, vals], by simp [FP.new, vals]⟩

theorem vals_append (a b : List (Path × Handle)) : vals (a ++ b) = vals a ++ vals b := List.map_append

theorem mem_vals_filter {l : List (Path × Handle)} {B : List Handle} {h : Handle} :
    h ∈ vals (l.filter (fun ph => !B.contains ph.2)) ↔ h ∈ vals l ∧ h ∉ B := by
  simp only [vals, List.mem_map, List.mem_filter, Bool.not_eq_true', List.contains_eq_mem, decide_eq_false_iff_not]
  constructor
  · rintro ⟨ph, ⟨h1, h2⟩, rfl⟩
    exact ⟨⟨ph, h1, rfl⟩, h2⟩
  · rintro ⟨⟨ph, h1, rfl⟩, h2⟩
    exact ⟨ph, ⟨h1, h2⟩, rfl⟩

theorem inv_enter (s : FP) (hi : Inv s) : Inv (fpEnter s).1 := by
  -- every handle the pool knows is older than the handles of this attempt, which are `next`, `next + 1`, …
  have hold : ∀ h : Nat, (h ∈ vals (s.mapping.getD []) ∨ h ∈ vals s.leaked) → h < s.next :=
    fun h hh => hi.bound h ((hi.split h).mpr hh)
  have hbound : ∀ n (h : Nat), h ∈ s.openH ++ List.range' s.next n → h < s.next + n := by
    intro n h hh
    rcases List.mem_append.mp hh with hh | hh
    · exact Nat.lt_add_right _ (hi.bound h hh)
    · exact (List.mem_range'_1.mp hh).2
  by_cases hok : ∀ p ∈ s.files, p ∉ s.missing
  · -- the new handles are in the new mapping or were overwritten in it; the old mapping is dropped
    rw [fpEnter_ok s hok]
    refine ⟨hbound _, fun h => ?_, fun h hh => ?_⟩
    · simp only [Option.getD_some, vals_append, List.mem_append, mem_vals_filter, hi.split h, ← vals_opened]
      by_cases hB : h ∈ vals (build [] (opened s))
      · simp [hB, vals_build_sub hB]
      · simp [hB, or_comm]
    · have hge : s.next ≤ h := by
        have := vals_build_sub hh
        rw [vals_opened] at this
        exact (List.mem_range'_1.mp this).1
      simp only [vals_append, List.mem_append, mem_vals_filter, not_or]
      exact ⟨⟨fun h1 => absurd (hold h (Or.inr h1)) (Nat.not_lt.mpr hge),
        fun h1 => absurd (hold h (Or.inl h1)) (Nat.not_lt.mpr hge)⟩, fun h1 => h1.2 hh⟩
  · -- the mapping stays, the new handles are leaked
    rw [fpEnter_fail s hok]
    refine ⟨hbound _, fun h => ?_, fun h hh => ?_⟩
    · simp only [vals_append, List.mem_append, attempt_vals, hi.split h]
      exact or_assoc
    · simp only [vals_append, List.mem_append, attempt_vals, List.mem_range'_1, not_or]
      exact ⟨hi.disj h hh, fun h3 => absurd (hold h (Or.inl hh)) (Nat.not_lt.mpr h3.1)⟩

theorem inv_exit (s : FP) (hi : Inv s) : Inv (fpExit s).1 := by
  cases hm : s.mapping with
  | none => rw [exit_none s hm]; exact hi
  | some m =>
    obtain ⟨-, h2, h3, h4, h5, -⟩ := exit_some s m hm
    have hsplit := hi.split
    have hdisj := hi.disj
    simp only [hm, Option.getD_some] at hsplit hdisj
    refine ⟨fun h hh => h5 ▸ hi.bound h ((h3 h).mp hh).1, fun h => ?_, fun h hh => ?_⟩
    · -- what stays open is what was open and not in the mapping: the leaked handles
      rw [h3, h2, h4, hsplit, Option.getD_none, show vals [] = [] from rfl]
      by_cases hM : h ∈ vals m
      · simp [hM, hdisj h hM]
      · simp [hM]
    · rw [h2] at hh
      cases hh

theorem inv_step (s : FP) (op : Op) (hi : Inv s) : Inv (applyOp s op) := by
  cases op with
  | enter => exact inv_enter s hi
  | exit => exact inv_exit s hi
  | create p => exact ⟨hi.bound, hi.split, hi.disj⟩
  | unlink p => exact ⟨hi.bound, hi.split, hi.disj⟩

theorem inv_run (ops : List Op) : ∀ (s : FP), Inv s → Inv (run s ops) := by
  induction ops with
  | nil => intro s hi; exact hi
  | cons op ops ih => intro s hi; exact ih _ (inv_step s op hi)

theorem exit_closes_all (files missing : List Path) (ops : List Op) (m : Dict)
    (hm : (run (FP.new files missing) ops).mapping = some m) :
    let s' := fpExit (run (FP.new files missing) ops)
    s'.2 = .ok () ∧ s'.1.mapping = none ∧ (∀ ph ∈ m, ph.2 ∉ s'.1.openH) ∧
      (∀ h, h ∈ s'.1.openH ↔ h ∈ vals (run (FP.new files missing) ops).leaked) ∧
      s'.1.leaked = (run (FP.new files missing) ops).leaked := by
  have hi := inv_run ops _ (inv_new files missing)
  obtain ⟨h1, h2, h3, h4, _⟩ := exit_some _ m hm
  have hi' := inv_exit _ hi
  refine ⟨h1, h2, ?_, ?_, h4⟩
  · intro ph hph hin
    exact ((h3 ph.2).mp hin).2 (List.mem_map_of_mem hph)
  · intro h
    have := hi'.split h
    rw [h2, h4] at this
    simpa [vals] using this

theorem leaked_stay_open (files missing : List Path) (ops : List Op) :
    ∀ ph ∈ (run (FP.new files missing) ops).leaked, ph.2 ∈ (run (FP.new files missing) ops).openH := by
  intro ph hph
  have hi := inv_run ops _ (inv_new files missing)
  exact (hi.split ph.2).mpr (Or.inr (List.mem_map_of_mem hph))

end WindVerif.FilePoolFail
