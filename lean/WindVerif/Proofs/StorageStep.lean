import WindVerif.Proofs.StorageControl
/-! Two summaries of a step of process `i`, read off `step` in one walk over the program counters (`step_sum`): what it does to
the rest of the state (`StepA`: under the control layer every step is one of five shapes — nothing shared changes, the lock holder
writes, a process writes its own file, acquire, release) and what it does to the stepping process and the shared variables
(`StepL`, with the control-flow graph `succs`).  Also the pcs at which an operation starts (`isEntry`). -/
namespace WindVerif.Storage
variable {scripts : List (List Op)} {s s' : St} {i : Nat} {p p' p'' q : Proc} {a c' next : Pc} {r : Res}

theorem acquire_shape (h : acquire s i p next = some s') :
    ∃ d, s' = setProc { s with lock := some i } i { p with depth := d, pc := next } ∧
      (s.lock = none ∨ s.lock = some i) := by
  rcases acquire_some h with ⟨hl, rfl⟩ | ⟨hl, rfl⟩
  · exact ⟨1, rfl, Or.inl hl⟩
  · refine ⟨p.depth + 1, ?_, Or.inr hl⟩
    cases s; simp_all [setProc]

@[simp] theorem fileOf_mk_files (s : St) (a : List Proc) (b : List (Option Nat)) (c : List (Option (Nat × Nat)))
    (d e : Nat) (f : Option Nat) (w : Nat) :
    fileOf { procs := a, paths := b, index := c, cnt := d, wf := e, lock := f, files := s.files } w = fileOf s w := rfl

structure StepA (s s' : St) (i : Nat) (p p' : Proc) : Prop where
  procs : s'.procs = s.procs.set i p'
  lockOther : ∀ j, j ≠ i → (s'.lock = some j ↔ s.lock = some j)
  lockNone : s'.lock = none → s.lock = none ∨ s.lock = some i
  shared : s.lock ≠ some i → s'.index = s.index ∧ s'.cnt = s.cnt ∧ s'.wf = s.wf ∧ s'.paths = s.paths
  idxLen : s.index.length ≤ s'.index.length
  pathsLen : s.paths.length ≤ s'.paths.length
  fileOther : ∀ w, p.ident ≠ some w → fileOf s' w = fileOf s w
  results : ∃ l, p'.results = p.results ++ l ∧ (Res.ok ∈ l → p.pc = .sRel ∨ (p.pc = .xClose ∧ l = [.ok]))

theorem StepA.of_setProc (l : List Res)
    (hres : p'.results = p.results ++ l) (hok : Res.ok ∈ l → p.pc = .sRel ∨ (p.pc = .xClose ∧ l = [.ok])) :
    StepA s (setProc s i p') i p p' :=
  ⟨rfl, fun _ _ => Iff.rfl, Or.inl, fun _ => ⟨rfl, rfl, rfl, rfl⟩, Nat.le_refl _, Nat.le_refl _, fun _ _ => rfl, l, hres, hok⟩

theorem StepA.quiet (hres : p'.results = p.results) : StepA s (setProc s i p') i p p' :=
  .of_setProc [] (by rw [hres, List.append_nil]) nofun

theorem StepA.of_locked {ps : List (Option Nat)} {ix : List (Option (Nat × Nat))} {n k : Nat} (hlk : s.lock = some i)
    (hps : s.paths.length ≤ ps.length) (hix : s.index.length ≤ ix.length)
    (hres : p'.results = p.results) :
    StepA s (setProc { s with paths := ps, index := ix, cnt := n, wf := k } i p') i p p' :=
  ⟨rfl, fun _ _ => Iff.rfl, Or.inl, fun h => absurd hlk h, hix, hps, fun _ _ => rfl, [], by rw [hres, List.append_nil], nofun⟩

theorem StepA.of_setFile {c : List (Option Nat)} (hid : p.ident.isSome = true)
    (hres : p'.results = p.results) : StepA s (setProc (setFile s (p.ident.getD 0) c) i p') i p p' := by
  refine ⟨rfl, fun _ _ => Iff.rfl, Or.inl, fun _ => ⟨rfl, rfl, rfl, rfl⟩, Nat.le_refl _, Nat.le_refl _, fun w hw => ?_,
    [], by rw [hres, List.append_nil], nofun⟩
  rw [fileOf_setProc, fileOf_setFile, if_neg]
  intro h
  cases hp : p.ident with
  | none => rw [hp] at hid; cases hid
  | some v => rw [hp] at hw h; exact hw (congrArg some h.symm)

theorem StepA.of_acquire (hl : s.lock = none ∨ s.lock = some i)
    (hres : p'.results = p.results) : StepA s (setProc { s with lock := some i } i p') i p p' := by
  refine ⟨rfl, fun j hj => ?_, nofun, fun _ => ⟨rfl, rfl, rfl, rfl⟩, Nat.le_refl _, Nat.le_refl _, fun _ _ => rfl,
    [], by rw [hres, List.append_nil], nofun⟩
  show some i = some j ↔ s.lock = some j
  rcases hl with hl | hl <;> rw [hl]
  exact iff_of_false (fun h => hj (Option.some.inj h).symm) nofun

theorem StepA.of_release (hlk : s.lock = some i) (l : List Res)
    (hres : p'.results = p.results ++ l) (hok : Res.ok ∈ l → p.pc = .sRel ∨ (p.pc = .xClose ∧ l = [.ok])) :
    StepA s (setProc { s with lock := if p.depth ≤ 1 then none else s.lock } i p') i p p' := by
  refine ⟨rfl, fun j hj => ?_, fun _ => Or.inr hlk, fun h => absurd hlk h, Nat.le_refl _, Nat.le_refl _, fun _ _ => rfl,
    l, hres, hok⟩
  show (if p.depth ≤ 1 then none else s.lock) = some j ↔ _
  split
  · rw [hlk]; exact ⟨nofun, fun h => absurd (Option.some.inj h).symm hj⟩
  · exact Iff.rfl

/-- the control-flow graph inside an operation: where a step at this pc can lead (nowhere from a pc at which the
operation ends: see `ends`) -/
def succs : Pc → List Pc
  | .oAcq => [.oPathsLen] | .oPathsLen => [.oPathsAppend] | .oPathsAppend => [.oRel] | .oRel => [.oOpenW]
  | .oOpenW | .oOpenA => [.sAcq] | .oPathsGet => [.oOpenA]
  | .sAcq => [.sIdxLen1] | .sIdxLen1 => [.sIdxLen2, .sIdxGet] | .sIdxLen2 => [.sIdxExtend] | .sIdxExtend => [.sIdxGet]
  | .sIdxGet => [.sRelErr, .sTell] | .sTell => [.sWriteText] | .sWriteText => [.sWriteNl] | .sWriteNl => [.sFlush]
  | .sFlush => [.sIdxSet] | .sIdxSet => [.sCntRead] | .sCntRead => [.sCntWrite] | .sCntWrite => [.sWfRead1]
  | .sWfRead1 => [.sWfRead2, .sRel] | .sWfRead2 => [.sWfWrite1] | .sWfWrite1 | .sLoopWfW => [.sLoopWf]
  | .sLoopWf => [.sLoopCnt] | .sLoopCnt => [.sLoopWf2, .sRel] | .sLoopWf2 => [.sLoopIdx]
  | .sLoopIdx => [.sLoopWfR, .sRel] | .sLoopWfR => [.sLoopWfW]
  | .gAcq => [.gIdxLen] | .gIdxLen => [.gRelErr, .gIdxGet] | .gIdxGet => [.gRel, .gRelErr] | .gRel => [.gSeek, .gPathsGet]
  | .gPathsGet => [.gOpenR] | .gOpenR => [.gSeek] | .gSeek => [.gReadline]
  | .cWf => [.cCnt] | .iAcq => [.iIdxLen] | .iIdxLen => [.iRel, .gAcq]
  | _ => []

/-- the pcs at which an operation ends (a read inside an iteration goes on with the iteration instead) -/
def ends : Pc → Bool
  | .sRelErr | .sRel | .gRelErr | .gReadline | .lCnt | .cCnt | .iRel | .xClose => true
  | _ => false

/-- what a step at pc `a` does, as frame conditions: a shared variable or a local of the operation changes only at the one or
two pcs that write it (a local also where an operation ends and the next one is fetched) -/
structure StepL (a : Pc) (s s' : St) (p p' : Proc) : Prop where
  next : ends a = false → (succs a).contains p'.pc = true
  ended : ends a = true → (∃ q r, p' = finish q r) ∨
    ((a = .gRelErr ∨ a = .gReadline) ∧ p.inIter = true ∧ ∃ q, p' = iterAdvance q)
  index : a ≠ .sIdxExtend → a ≠ .sIdxSet → s'.index = s.index
  cnt : a ≠ .sCntWrite → s'.cnt = s.cnt
  wf : a ≠ .sWfWrite1 → a ≠ .sLoopWfW → s'.wf = s.wf
  results : ends a = false → p'.results = p.results
  gid : ends a = false → a ≠ .iIdxLen → p'.gid = p.gid ∧ p'.text = p.text
  rd : a ≠ .sTell → a ≠ .gIdxGet → p'.off = p.off ∧ p'.target = p.target
  iter : ends a = false → a ≠ .iIdxLen →
    p'.inIter = p.inIter ∧ p'.iterPos = p.iterPos ∧ p'.iterLen = p.iterLen ∧ p'.iterAcc = p.iterAcc

theorem StepL.next_mem (h : StepL a s s' p p') (ha : ends a = false) : p'.pc ∈ succs a :=
  List.contains_iff_mem.1 (h.next ha)

theorem set_inj {α : Type} {l : List α} {i : Nat} {a b : α} (hi : i < l.length) (h : l.set i a = l.set i b) : a = b := by
  have := congrArg (fun l => l[i]?) h
  simpa [hi] using this

theorem StepL.keep {ps : List (Option Nat)} {l : Option Nat} {fs : List (Nat × List (Option Nat))} {d : Option Nat} {w : Bool}
    {ro : List Nat} {t n : Nat} (he : ends a = false) (hn : (succs a).contains c' = true) :
    StepL a s (setProc { s with paths := ps, lock := l, files := fs } i
        { p with pc := c', ident := d, wOpen := w, rOpen := ro, tmp := t, depth := n }) p
      { p with pc := c', ident := d, wOpen := w, rOpen := ro, tmp := t, depth := n } :=
  ⟨fun _ => hn, fun h => Bool.noConfusion (he.symm.trans h), fun _ _ => rfl, fun _ => rfl, fun _ _ => rfl, fun _ => rfl,
    fun _ _ => ⟨rfl, rfl⟩, fun _ _ => ⟨rfl, rfl⟩, fun _ _ => ⟨rfl, rfl, rfl, rfl⟩⟩

theorem StepL.finish {l : Option Nat} (he : ends a = true) (hoff : q.off = p.off) (htg : q.target = p.target) :
    StepL a s (setProc { s with lock := l } i (finish q r)) p (finish q r) :=
  have hf : ∀ {α : Prop}, ends a = false → α := fun h => Bool.noConfusion (he.symm.trans h)
  ⟨hf, fun _ => .inl ⟨_, _, rfl⟩, fun _ _ => rfl, fun _ => rfl, fun _ _ => rfl, hf, hf,
    fun _ _ => ⟨(fetch_off _).trans hoff, (fetch_target _).trans htg⟩, hf⟩

set_option linter.unusedSimpArgs false in
/-- Both summaries of a step.  `StepA` needs two facts of the control layer: who writes shared variables holds the lock, and who
writes a file has its identifier. -/
theorem step_sum (hp : s.procs[i]? = some p) (hnf : isF p.pc = false) (hs : step s i = some s') :
    ∃ q, StepL p.pc s s' p q ∧ s'.procs = s.procs.set i q ∧
      ((0 < dep p → s.lock = some i) → (isS p.pc = true ∨ p.pc = .oOpenW → p.ident.isSome = true) → StepA s s' i p q) := by
  cases hpc : p.pc
  case fAcq | fPathsGet | fRemove | fPathsClear | fIdxClear | fCntZero | fWfZero | fRel =>
    rw [hpc] at hnf; cases hnf
  all_goals simp only [step, getProc_eq, hp, hpc, Option.some.injEq, reduceCtorEq, release_fst, release_snd] at hs
  case oPathsLen | oPathsGet | oOpenA | sIdxLen2 | sFlush | sCntRead | sWfRead2 | sLoopWf | sLoopWf2 | sLoopWfR
      | gPathsGet | gOpenR | gSeek | cWf =>
    subst hs
    exact ⟨_, .keep rfl rfl, rfl, fun _ _ => .quiet rfl⟩
  case sIdxLen1 | sIdxGet | sWfRead1 | sLoopCnt | sLoopIdx | gIdxLen =>
    split at hs <;> cases hs <;> exact ⟨_, .keep rfl rfl, rfl, fun _ _ => .quiet rfl⟩
  case oAcq | sAcq | gAcq | iAcq =>
    obtain ⟨d, rfl, hl⟩ := acquire_shape hs
    exact ⟨_, .keep rfl rfl, rfl, fun _ _ => .of_acquire hl rfl⟩
  case oPathsAppend =>
    subst hs
    exact ⟨_, .keep rfl rfl, rfl, fun hlk _ => .of_locked (hlk (by rw [dep, hpc]; exact Nat.one_pos))
      (List.length_append ▸ Nat.le_add_right _ _) (Nat.le_refl _) rfl⟩
  case oOpenW | sWriteText | sWriteNl =>
    subst hs
    exact ⟨_, .keep rfl rfl, rfl, fun _ hid => .of_setFile (hid (by decide)) rfl⟩
  case oRel =>
    subst hs
    exact ⟨_, .keep rfl rfl, rfl,
      fun hlk _ => .of_release (hlk (by rw [dep, hpc]; exact Nat.one_pos)) [] (List.append_nil _).symm nofun⟩
  case gRel =>
    split at hs <;> cases hs <;> exact ⟨_, .keep rfl rfl, rfl,
      fun hlk _ => .of_release (hlk (by simp only [dep, hpc]; split <;> decide)) [] (List.append_nil _).symm nofun⟩
  -- the steps that write one of the variables of `StepL`: its field about that variable does not apply
  case sTell =>
    subst hs
    exact ⟨_, by constructor <;> simp [succs, ends], rfl, fun _ _ => .quiet rfl⟩
  case gIdxGet | iIdxLen =>
    split at hs <;> cases hs <;> exact ⟨_, by constructor <;> simp [succs, ends], rfl, fun _ _ => .quiet rfl⟩
  case sIdxExtend =>
    subst hs
    exact ⟨_, by constructor <;> simp [succs, ends], rfl, fun hlk _ => .of_locked (hlk (by rw [dep, hpc]; exact Nat.one_pos))
      (Nat.le_refl _) (List.length_append ▸ Nat.le_add_right _ _) rfl⟩
  case sIdxSet =>
    subst hs
    exact ⟨_, by constructor <;> simp [succs, ends], rfl, fun hlk _ => .of_locked (hlk (by rw [dep, hpc]; exact Nat.one_pos))
      (Nat.le_refl _) (Nat.le_of_eq List.length_set.symm) rfl⟩
  case sCntWrite | sWfWrite1 | sLoopWfW =>
    subst hs
    exact ⟨_, by constructor <;> simp [succs, ends], rfl, fun hlk _ => .of_locked (hlk (by rw [dep, hpc]; exact Nat.one_pos))
      (Nat.le_refl _) (Nat.le_refl _) rfl⟩
  case sRel =>
    subst hs
    exact ⟨_, .finish rfl rfl rfl, rfl, fun hlk _ => .of_release (hlk (by rw [dep, hpc]; exact Nat.one_pos)) [_]
      (finish_results _ _) (fun _ => .inl hpc)⟩
  case sRelErr | iRel =>
    subst hs
    exact ⟨_, .finish rfl rfl rfl, rfl, fun hlk _ => .of_release (hlk (by rw [dep, hpc]; exact Nat.one_pos)) [_]
      (finish_results _ _) nofun⟩
  case lCnt | cCnt =>
    subst hs
    exact ⟨_, .finish rfl rfl rfl, rfl, fun _ _ => .of_setProc [_] (finish_results _ _) nofun⟩
  case xClose =>
    subst hs
    exact ⟨_, .finish rfl rfl rfl, rfl, fun _ _ => .of_setProc [_] (finish_results _ _) (fun _ => .inr ⟨hpc, rfl⟩)⟩
  case gRelErr =>
    split at hs <;> cases hs
    · rename_i hin
      refine ⟨_, ⟨nofun, fun _ => .inr ⟨.inl rfl, by simpa using hin, _, rfl⟩, ?_, ?_, ?_, nofun, nofun, ?_, nofun⟩, rfl, fun hlk _ =>
        .of_release (hlk (by simp only [dep, hpc]; split <;> decide)) [] ((iterAdvance_results _).trans (List.append_nil _).symm)
          nofun⟩ <;> simp [iterAdvance] <;> split <;> simp
    · exact ⟨_, .finish rfl rfl rfl, rfl, fun hlk _ => .of_release (hlk (by simp only [dep, hpc]; split <;> decide)) [_]
        (finish_results _ _) nofun⟩
  case gReadline =>
    split at hs <;> cases hs
    · rename_i hin
      refine ⟨_, ⟨nofun, fun _ => .inr ⟨.inr rfl, hin, _, rfl⟩, ?_, ?_, ?_, nofun, nofun, ?_, nofun⟩, rfl,
        fun _ _ => .quiet (iterAdvance_results _)⟩ <;> simp [iterAdvance] <;> split <;> simp
    · exact ⟨_, .finish rfl rfl rfl, rfl, fun _ _ => .of_setProc [_] (finish_results _ _) nofun⟩

theorem StepA.of_step (hA : InvA scripts s) (hp : s.procs[i]? = some p) (hs : step s i = some s') :
    ∃ p', StepA s s' i p p' := by
  have hL := hA.loc i p hp
  obtain ⟨q, -, -, h⟩ := step_sum hp hL.noF hs
  refine ⟨q, h hL.lock.1 fun h => ?_⟩
  rcases h with h | h
  · exact hL.ident_some h
  · exact (by decide : ∀ w d, fits .oOpenW w d = true → d = true) _ _ (h ▸ hL.handle)

theorem StepA.of_step' (hA : InvA scripts s) (hp : s.procs[i]? = some p) (hs : step s i = some s')
    (hprocs : s'.procs = s.procs.set i p'') : StepA s s' i p p'' := by
  obtain ⟨p', hF⟩ := StepA.of_step hA hp hs
  exact set_inj (lt_of_getElem? hp) (hF.procs.symm.trans hprocs) ▸ hF

theorem StepL.of_step (hp : s.procs[i]? = some p) (hnf : isF p.pc = false) (hs : step s i = some s')
    (hprocs : s'.procs = s.procs.set i p') : StepL p.pc s s' p p' := by
  obtain ⟨q, h, hq, -⟩ := step_sum hp hnf hs
  exact set_inj (lt_of_getElem? hp) (hq.symm.trans hprocs) ▸ h

def isEntry : Pc → Bool
  | .idle | .oAcq | .oPathsGet | .sAcq | .gAcq | .lCnt | .cWf | .iAcq | .fAcq | .xClose => true
  | _ => false

theorem fetch_entry (p : Proc) (h : p.pc = .idle) : isEntry (fetch p).pc = true := by
  unfold fetch
  split
  · rw [h]; rfl
  · rename_i op _ _
    cases op
    case store =>
      dsimp only
      split
      · rfl
      · split <;> rfl
    all_goals rfl

theorem finish_entry (p : Proc) (r : Res) : isEntry (finish p r).pc = true := fetch_entry _ rfl

end WindVerif.Storage
