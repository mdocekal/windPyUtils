import WindVerif.Proofs.StorageBasics
/-! The control layer `InvA` holds at the start and is kept by every step.

A step of process `i` is seen from two sides.  The other processes only need to know what happened to the lock and to the
paths (`LocA.frame`, `InvA.step_lock`).  The stepping process moves from one pc to the next; what `LocA` says about it
depends on the pc only through `curOp`, `dep`, `isF` and `fits`, so a step inside an operation keeps `LocA` as soon as these
agree at the two pcs (`LocA.move`), and that is a computation on the two pcs. -/
namespace WindVerif.Storage
variable {i j : Nat} {p p' p0 q : Proc} {c c' next : Pc} {r : Res}

theorem acquire_some (h : acquire s i p next = some s') :
    (s.lock = none ∧ s' = setProc { s with lock := some i } i { p with depth := 1, pc := next }) ∨
    (s.lock = some i ∧ s' = setProc s i { p with depth := p.depth + 1, pc := next }) := by
  unfold acquire at h
  split at h
  · left; simp_all
  · rename_i h' hl
    split at h
    · subst_vars; right; simp_all
    · simp at h

theorem LocA.frame (h : LocA scripts s j q)
    (hl : s'.lock = some j ↔ s.lock = some j) (hp : s.paths.length ≤ s'.paths.length)
    (hp2 : s.lock = some j → s'.paths = s.paths) : LocA scripts s' j q := by
  refine ⟨h.hist, h.noFs, h.noF, h.depth, h.lock.trans hl.symm, fun w hw => Nat.lt_of_lt_of_le (h.identLt w hw) hp,
    h.handle, fun hpc => ?_⟩
  have : 0 < dep q := by rw [dep, hpc]; exact Nat.zero_lt_one
  rw [hp2 (h.lock.1 this)]; exact h.tmpPaths hpc

theorem InvA.step_lock (hA : InvA scripts s)
    (hp : s.procs[i]? = some p) (hprocs : s'.procs = s.procs.set i p')
    (hlock : ∀ j, j ≠ i → (s'.lock = some j ↔ s.lock = some j))
    (hpaths : s'.paths = s.paths) (hid : p'.ident = p.ident) (hloc : LocA scripts s' i p') : InvA scripts s' := by
  constructor
  · intro j q hq
    rw [hprocs, getElem?_set_iff hp] at hq
    rcases hq with ⟨rfl, rfl⟩ | ⟨hji, hq⟩
    · exact hloc
    · exact (hA.loc j q hq).frame (hlock j hji) (by rw [hpaths]; exact Nat.le_refl _) (fun _ => hpaths)
  · intro j k q r w hq hr hqw hrw
    rw [hprocs, getElem?_set_iff hp] at hq hr
    rcases hq with ⟨rfl, rfl⟩ | ⟨hji, hq⟩ <;> rcases hr with ⟨rfl, rfl⟩ | ⟨hki, hr⟩
    · rfl
    · exact hA.uniq _ _ _ _ w hp hr (hid ▸ hqw) hrw
    · exact hA.uniq _ _ _ _ w hq hp hqw (hid ▸ hrw)
    · exact hA.uniq _ _ _ _ w hq hr hqw hrw

theorem InvA.step_local (hA : InvA scripts s)
    (hp : s.procs[i]? = some p) (hprocs : s'.procs = s.procs.set i p') (hlock : s'.lock = s.lock)
    (hpaths : s'.paths = s.paths) (hid : p'.ident = p.ident) (hloc : LocA scripts s' i p') : InvA scripts s' :=
  hA.step_lock hp hprocs (fun _ _ => by rw [hlock]) hpaths hid hloc

theorem LocA.lock_release (hL : LocA scripts s i p) :
    1 < dep p ↔ (if p.depth ≤ 1 then none else s.lock) = some i := by
  rw [hL.depth]
  split
  · rename_i h; exact iff_of_false (Nat.not_lt.2 h) nofun
  · rename_i h
    have h := Nat.not_le.1 h
    exact iff_of_true h (hL.lock.1 (Nat.lt_trans Nat.zero_lt_one h))

theorem InvA.step_release (hA : InvA scripts s)
    (hp : s.procs[i]? = some p) (hd : 0 < dep p) (hid : p'.ident = p.ident)
    (hloc : LocA scripts (setProc { s with lock := if p.depth ≤ 1 then none else s.lock } i p') i p') :
    InvA scripts (setProc { s with lock := if p.depth ≤ 1 then none else s.lock } i p') := by
  have hlk := ((hA.loc i p hp).lock.1 hd)
  refine hA.step_lock hp rfl (fun j hj => ?_) rfl hid hloc
  show (if p.depth ≤ 1 then none else s.lock) = some j ↔ _
  split
  · rw [hlk]; exact ⟨nofun, fun h => absurd (Option.some.inj h).symm hj⟩
  · exact Iff.rfl

theorem LocA.fits_of (hL : LocA scripts s i p) (hpc : p.pc = c) (h : ∀ w d, fits c w d = true → fits c' w d = true) : fits c' p.wOpen p.ident.isSome = true :=
  h _ _ (hpc ▸ hL.handle)

theorem LocA.ident_some (hL : LocA scripts s i p)
    (h : isS p.pc = true) : p.ident.isSome = true := by
  have := hL.handle
  rw [fits, if_pos h, Bool.and_eq_true] at this
  exact this.2

theorem LocA.move (hL : LocA scripts s i p)
    (hscript : p'.script = p.script) (hres : p'.results = p.results) (hid : p'.ident = p.ident)
    (hop : curOp p' = curOp p) (hF : isF p'.pc = false) (hdepth : p'.depth = dep p')
    (hlock : 0 < dep p' ↔ s'.lock = some i) (hpaths : s'.paths = s.paths)
    (hfit : fits p'.pc p'.wOpen p.ident.isSome = true) (hT : p'.pc = .oPathsAppend → p'.tmp = s'.paths.length) :
    LocA scripts s' i p' := by
  refine ⟨?_, hscript ▸ hL.noFs, hF, hdepth, hlock, ?_, hid ▸ hfit, hT⟩
  · rw [hres, hop, hscript]; exact hL.hist
  · rw [hid, hpaths]; exact hL.identLt

theorem LocA.stay (hL : LocA scripts s i p)
    (hscript : p'.script = p.script) (hres : p'.results = p.results) (hid : p'.ident = p.ident)
    (hdepth : p'.depth = p.depth) (hop : curOp p' = curOp p) (hdep : dep p' = dep p) (hF : isF p'.pc = false)
    (hlock : s'.lock = s.lock) (hpaths : s'.paths = s.paths)
    (hfit : fits p'.pc p'.wOpen p.ident.isSome = true) (hT : p'.pc = .oPathsAppend → p'.tmp = s'.paths.length) :
    LocA scripts s' i p' :=
  hL.move hscript hres hid hop hF (by rw [hdepth, hdep]; exact hL.depth) (by rw [hdep, hlock]; exact hL.lock) hpaths hfit hT

/-- `e` says which fields of `p'` are those of `p`; where the lemma is used it holds by `rfl`. -/
theorem InvA.local (hA : InvA scripts s) (hp : s.procs[i]? = some p) (hpc : p.pc = c)
    (ix : List (Option (Nat × Nat))) (n k : Nat) (fs : List (Nat × List (Option Nat)))
    (e : p' = { p' with script := p.script, ident := p.ident, wOpen := p.wOpen, results := p.results, depth := p.depth })
    (hop : curOp p' = curOp p) (hdep : dep p' = dep p) (hF : isF p'.pc = false)
    (hfit : ∀ w d, fits c w d = true → fits p'.pc w d = true) (hT : p'.pc = .oPathsAppend → p'.tmp = s.paths.length) :
    InvA scripts (setProc { s with index := ix, cnt := n, wf := k, files := fs } i p') := by
  have hL := hA.loc i p hp
  have hscript := congrArg Proc.script e
  have hres := congrArg Proc.results e
  have hid := congrArg Proc.ident e
  have hw := congrArg Proc.wOpen e
  have hdepth := congrArg Proc.depth e
  exact hA.step_local hp rfl rfl rfl hid
    (hL.stay hscript hres hid hdepth hop hdep hF rfl rfl (hw ▸ hL.fits_of hpc hfit) hT)

theorem InvA.acquire (hA : InvA scripts s)
    (hp : s.procs[i]? = some p) (hpc : p.pc = c) (hs : acquire s i p next = some s')
    (hop : ∀ d, curOp { p with depth := d, pc := next } = curOp p)
    (hdep : ∀ d, dep { p with depth := d, pc := next } = dep p + 1) (hF : isF next = false)
    (hfit : ∀ w d, fits c w d = true → fits next w d = true) (hT : next ≠ .oPathsAppend) : InvA scripts s' := by
  have hL := hA.loc i p hp
  rcases acquire_some hs with ⟨hl, rfl⟩ | ⟨hl, rfl⟩
  · have h0 : dep p = 0 := by
      rcases Nat.eq_zero_or_pos (dep p) with h | h
      · exact h
      · have := hL.lock.1 h; rw [hl] at this; cases this
    refine hA.step_lock hp rfl (fun j hj => ?_) rfl rfl
      (hL.move rfl rfl rfl (hop 1) hF ?_ ?_ rfl (hL.fits_of hpc hfit) (fun h => absurd h hT))
    · show some i = some j ↔ s.lock = some j
      rw [hl]; exact ⟨fun h => absurd (Option.some.inj h).symm hj, nofun⟩
    · rw [hdep, h0]
    · rw [hdep]; exact iff_of_true (Nat.succ_pos _) rfl
  · refine hA.step_local hp rfl rfl rfl rfl
      (hL.move rfl rfl rfl (hop _) hF ?_ ?_ rfl (hL.fits_of hpc hfit) (fun h => absurd h hT))
    · rw [hdep, ← hL.depth]
    · rw [hdep]; exact iff_of_true (Nat.succ_pos _) hl

theorem InvA.release (hA : InvA scripts s)
    (hp : s.procs[i]? = some p) (hpc : p.pc = c) (c' : Pc)
    (hop : ∀ d, curOp { p with depth := d, pc := c' } = curOp p)
    (hdep : ∀ d, dep { p with depth := d, pc := c' } + 1 = dep p) (hF : isF c' = false)
    (hfit : ∀ w d, fits c w d = true → fits c' w d = true) (hT : c' ≠ .oPathsAppend) :
    InvA scripts (setProc { s with lock := if p.depth ≤ 1 then none else s.lock } i { p with depth := p.depth - 1, pc := c' }) := by
  have hL := hA.loc i p hp
  have hd := hdep 0
  refine hA.step_release hp (hd ▸ Nat.succ_pos _) rfl
    (hL.move rfl rfl rfl (hop _) hF ?_ ?_ rfl (hL.fits_of hpc hfit) (fun h => absurd h hT))
  · show p.depth - 1 = _
    rw [hL.depth, ← hdep (p.depth - 1)]; rfl
  · refine Iff.trans ?_ hL.lock_release
    rw [← hdep (p.depth - 1)]; exact Nat.succ_lt_succ_iff.symm

theorem fetch_LocA {sc : List Op}
    (hsc : scripts[i]? = some sc) (hd : sc.drop p.results.length = p.script) (hnf : Op.flush ∉ p.script)
    (hpc : p.pc = .idle) (hdep : p.depth = 0) (hlock : s.lock ≠ some i) (hid : ∀ w, p.ident = some w → w < s.paths.length)
    (hfit : fits .idle p.wOpen p.ident.isSome = true) : LocA scripts s i (fetch p) := by
  have hl : 0 < 0 ↔ s.lock = some i := iff_of_false (Nat.lt_irrefl 0) hlock
  unfold fetch
  split
  · rename_i hs
    refine ⟨⟨sc, hsc, ?_⟩, hnf, ?_, ?_, ?_, hid, ?_, ?_⟩
    · rw [hd, curOp, hpc, hs]; rfl
    · rw [hpc]; rfl
    · rw [dep, hpc]; exact hdep
    · rw [dep, hpc]; exact hl
    · rw [hpc]; exact hfit
    · rw [hpc]; nofun
  · rename_i op rest hs
    rw [hs] at hd hnf
    have hnf' : Op.flush ∉ rest := fun h => hnf (List.mem_cons_of_mem _ h)
    cases op
    case flush => exact absurd (List.mem_cons_self ..) hnf
    case store =>
      -- `self.open()` first: what it has to do depends on the handle and the identifier
      dsimp only
      split
      · rename_i hw
        exact ⟨⟨sc, hsc, hd⟩, hnf', rfl, hdep, hl, hid, by rw [hw] at hfit ⊢; exact hfit, nofun⟩
      · rename_i hw
        split <;> rename_i hi <;>
        exact ⟨⟨sc, hsc, hd⟩, hnf', rfl, hdep, hl, hid, by rw [Bool.eq_false_iff.2 hw, hi]; rfl, nofun⟩
    all_goals exact ⟨⟨sc, hsc, hd⟩, hnf', rfl, hdep, hl, hid, hfit, nofun⟩

theorem LocA.fits_idle (hL : LocA scripts s i p)
    (hO : isO p.pc = false) : fits .idle p.wOpen p.ident.isSome = true := by
  have h := hL.handle
  cases hS : isS p.pc
  · simp only [fits, hS, hO, Bool.false_eq_true, if_false] at h; exact h
  · simp only [fits, hS, if_true, Bool.and_eq_true] at h
    rw [h.1, h.2]; rfl

/-- `p0` is `p` after the last visible operation of the operation that ends with result `r`. -/
theorem finish_LocA (r : Res)
    (hL : LocA scripts s i p) (hop : (curOp p).isSome = true)
    (e1 : p0.script = p.script) (e2 : p0.results = p.results) (e3 : p0.ident = p.ident)
    (e4 : fits .idle p0.wOpen p.ident.isSome = true)
    (e5 : p0.depth = 0) (hl : s'.lock ≠ some i) (hpaths : s'.paths = s.paths) : LocA scripts s' i (finish p0 r) := by
  obtain ⟨sc, hsc, hd⟩ := hL.hist
  obtain ⟨op, hop⟩ := Option.isSome_iff_exists.1 hop
  rw [hop] at hd
  refine fetch_LocA hsc ?_ (e1 ▸ hL.noFs) rfl e5 hl ?_ (e3 ▸ e4)
  · show sc.drop (p0.results ++ [r]).length = p0.script
    rw [List.length_append, e2, e1]; exact drop_succ_of_drop_cons hd
  · show ∀ w, p0.ident = some w → _
    rw [e3, hpaths]; exact hL.identLt

/-- An operation ends: at a pc at which the lock is not held, or with the release of its one hold (`h`). -/
theorem InvA.step_finish {l : Option Nat} (hA : InvA scripts s) (hp : s.procs[i]? = some p)
    (hop : (curOp p).isSome = true) (hO : isO p.pc = false)
    (h : dep p = 0 ∧ l = s.lock ∧ p0.depth = p.depth ∨
      dep p = 1 ∧ l = (if p.depth ≤ 1 then none else s.lock) ∧ p0.depth = p.depth - 1)
    (e1 : p0.script = p.script) (e2 : p0.results = p.results) (e3 : p0.ident = p.ident)
    (e4 : p0.wOpen = p.wOpen ∨ p0.wOpen = false) :
    InvA scripts (setProc { s with lock := l } i (finish p0 r)) := by
  have hL := hA.loc i p hp
  have hfit : fits .idle p0.wOpen p.ident.isSome = true := by
    rcases e4 with e4 | e4 <;> rw [e4]
    · exact hL.fits_idle hO
    · rfl
  have hid := (finish_ident p0 r).trans e3
  rcases h with ⟨hd, rfl, e5⟩ | ⟨hd, rfl, e5⟩
  · refine hA.step_local hp rfl rfl rfl hid
      (finish_LocA r hL hop e1 e2 e3 hfit (by rw [e5, hL.depth, hd]) (fun h => ?_) rfl)
    have := hL.lock.2 h
    rw [hd] at this; exact Nat.lt_irrefl 0 this
  · refine hA.step_release hp (hd ▸ Nat.one_pos) hid
      (finish_LocA r hL hop e1 e2 e3 hfit (by rw [e5, hL.depth, hd]) (fun h => ?_) rfl)
    have := hL.lock_release.2 h
    rw [hd] at this; exact Nat.lt_irrefl 1 this

theorem iterAdvance_LocA {p p0 : Proc}
    (hL : LocA scripts s i p) (hop : curOp p = some .iter) (hO : isO p.pc = false)
    (e1 : p0.script = p.script) (e2 : p0.results = p.results) (e3 : p0.ident = p.ident) (e4 : p0.wOpen = p.wOpen)
    (e5 : p0.depth = 1) (hl : s'.lock = some i) (hpaths : s'.paths = s.paths) :
    LocA scripts s' i (iterAdvance p0) := by
  have hfit := hL.fits_idle hO
  unfold iterAdvance
  dsimp only
  split
  · exact hL.move e1 e2 e3 hop.symm rfl e5 (iff_of_true Nat.zero_lt_one hl) hpaths (e4 ▸ hfit) nofun
  · exact hL.move e1 e2 e3 hop.symm rfl e5 (iff_of_true Nat.zero_lt_one hl) hpaths (e4 ▸ hfit) nofun

set_option linter.unusedSimpArgs false in
theorem InvA.step (hA : InvA scripts s) (hs : step s i = some s') :
    InvA scripts s' := by
  obtain ⟨p, hp⟩ := step_proc hs
  have hL := hA.loc i p hp
  cases hpc : p.pc
  case fAcq | fPathsGet | fRemove | fPathsClear | fIdxClear | fCntZero | fWfZero | fRel =>
    exact absurd hL.noF (by rw [hpc]; decide)
  all_goals simp only [Storage.step, getProc_eq, hp, hpc, Option.some.injEq, reduceCtorEq, release_fst, release_snd] at hs
  -- steps inside an operation that leave `curOp`, `dep` and `fits` as they are
  case oPathsGet | sIdxLen2 | sIdxExtend | sTell | sWriteText | sWriteNl | sFlush | sIdxSet | sCntRead | sCntWrite
      | sWfRead2 | sWfWrite1 | sLoopWf | sLoopWf2 | sLoopWfR | sLoopWfW | gPathsGet | gOpenR | gSeek | cWf =>
    subst hs
    exact hA.local hp hpc _ _ _ _ rfl (by simp only [curOp, hpc]) (by simp only [dep, hpc]) rfl (fun _ _ h => h) nofun
  case sIdxLen1 | sIdxGet | sWfRead1 | sLoopCnt | sLoopIdx | gIdxLen | gIdxGet =>
    split at hs <;> cases hs <;>
    exact hA.local hp hpc _ _ _ _ rfl (by simp only [curOp, hpc]) (by simp only [dep, hpc]) rfl (fun _ _ h => h) nofun
  case oAcq | sAcq | iAcq =>
    exact hA.acquire hp hpc hs (fun _ => by simp only [curOp, hpc]) (fun _ => by simp only [dep, hpc]) rfl (by decide) nofun
  case gAcq =>
    exact hA.acquire hp hpc hs (fun _ => by simp only [curOp, hpc]) (fun _ => by simp only [dep, hpc]; split <;> rfl) rfl
      (by decide) nofun
  case oRel =>
    subst hs
    exact hA.release hp hpc _ (fun _ => by simp only [curOp, hpc]) (fun _ => by simp only [dep, hpc]) rfl (by decide) nofun
  case gRel =>
    split at hs <;> cases hs <;>
    exact hA.release hp hpc _ (fun _ => by simp only [curOp, hpc]) (fun _ => by simp only [dep, hpc]; split <;> rfl) rfl
      (by decide) nofun
  case sRel | sRelErr | iRel =>
    subst hs
    exact hA.step_finish hp (by rw [curOp, hpc]; rfl) (by rw [hpc]; rfl) (.inr ⟨by rw [dep, hpc], rfl, rfl⟩) rfl rfl rfl (.inl rfl)
  case lCnt | cCnt =>
    subst hs
    exact hA.step_finish hp (by rw [curOp, hpc]; rfl) (by rw [hpc]; rfl) (.inl ⟨by rw [dep, hpc], rfl, rfl⟩) rfl rfl rfl (.inl rfl)
  case xClose =>
    subst hs
    exact hA.step_finish hp (by rw [curOp, hpc]; rfl) (by rw [hpc]; rfl) (.inl ⟨by rw [dep, hpc], rfl, rfl⟩) rfl rfl rfl (.inr rfl)
  case oPathsLen =>
    subst hs
    exact hA.local hp hpc _ _ _ _ rfl (by simp only [curOp, hpc]) (by simp only [dep, hpc]) rfl (fun _ _ h => h) (fun _ => rfl)
  case oOpenW | oOpenA =>
    -- the handle is opened: from here on `fits` wants it open
    subst hs
    exact hA.step_local hp rfl rfl rfl rfl (hL.stay rfl rfl rfl rfl (by simp only [curOp, hpc]) (by simp only [dep, hpc]) rfl
      rfl rfl ((by decide : ∀ w d, fits _ w d = true → fits .sAcq true d = true) _ _ (hpc ▸ hL.handle)) nofun)
  case iIdxLen =>
    split at hs <;> cases hs <;>
    exact hA.local hp hpc _ _ _ _ rfl (by simp only [curOp, hpc, ↓reduceIte]) (by simp only [dep, hpc, ↓reduceIte]) rfl
      (fun _ _ h => h) nofun
  case gReadline =>
    cases hin : p.inIter
    · simp only [hin, Bool.false_eq_true, if_false, Option.some.injEq] at hs
      subst hs
      exact hA.step_finish hp (by rw [curOp, hpc, hin]; rfl) (by rw [hpc]; rfl) (.inl ⟨by rw [dep, hpc, hin]; rfl, rfl, rfl⟩) rfl rfl rfl (.inl rfl)
    · simp only [hin, if_true, Option.some.injEq] at hs
      subst hs
      have hd : dep p = 1 := by rw [dep, hpc, hin]; rfl
      exact hA.step_local hp rfl rfl rfl (iterAdvance_ident _) (iterAdvance_LocA hL (by rw [curOp, hpc, hin]; rfl)
        (by rw [hpc]; rfl) rfl rfl rfl rfl (hL.depth.trans hd) (hL.lock.1 (hd ▸ Nat.one_pos)) rfl)
  case gRelErr =>
    cases hin : p.inIter
    · simp only [hin, Bool.false_eq_true, if_false, Option.some.injEq] at hs
      subst hs
      exact hA.step_finish hp (by rw [curOp, hpc, hin]; rfl) (by rw [hpc]; rfl) (.inr ⟨by rw [dep, hpc, hin]; rfl, rfl, rfl⟩) rfl rfl rfl (.inl rfl)
    · simp only [hin, if_true, Option.some.injEq] at hs
      subst hs
      have hd : dep p = 2 := by rw [dep, hpc, hin]; rfl
      exact hA.step_release hp (hd ▸ Nat.succ_pos 1) (iterAdvance_ident _) (iterAdvance_LocA hL (by rw [curOp, hpc, hin]; rfl)
        (by rw [hpc]; rfl) rfl rfl rfl rfl (by show p.depth - 1 = 1; rw [hL.depth, hd]) (hL.lock_release.1 (hd ▸ Nat.lt_succ_self 1)) rfl)
  case oPathsAppend =>
    -- the new identifier is the old length of the paths: beyond every identifier in use
    subst hs
    have hlk : s.lock = some i := hL.lock.1 (by rw [dep, hpc]; exact Nat.one_pos)
    have htmp := hL.tmpPaths hpc
    have hw : p.wOpen = false := (by decide : ∀ w d, fits .oPathsAppend w d = true → w = false) _ _ (hpc ▸ hL.handle)
    have hlen : (s.paths ++ [some p.tmp]).length = s.paths.length + 1 := List.length_append
    have hnew : ∀ {j : Nat} {q : Proc} {w : Nat}, s.procs[j]? = some q → q.ident = some w → some p.tmp ≠ some w := by
      intro j q w hq hqw h
      have := (hA.loc _ _ hq).identLt _ hqw
      rw [← Option.some.inj h, htmp] at this
      exact Nat.lt_irrefl _ this
    constructor
    · intro j q hq
      rw [setProc_procs, getElem?_set_iff hp] at hq
      rcases hq with ⟨rfl, rfl⟩ | ⟨hji, hq⟩
      · refine ⟨?_, hL.noFs, rfl, hL.depth.trans (by rw [dep, hpc]; rfl), iff_of_true Nat.one_pos hlk, ?_, ?_, nofun⟩
        · simpa only [curOp, hpc] using hL.hist
        · intro w hw
          cases hw
          show p.tmp < (s.paths ++ [some p.tmp]).length
          rw [hlen, htmp]; exact Nat.lt_succ_self _
        · show fits .oRel p.wOpen true = true
          rw [hw]; rfl
      · exact (hA.loc j q hq).frame Iff.rfl (hlen ▸ Nat.le_succ _)
          (fun h => absurd (Option.some.inj (hlk.symm.trans h)).symm hji)
    · intro j k q r w hq hr hqw hrw
      rw [setProc_procs, getElem?_set_iff hp] at hq hr
      rcases hq with ⟨rfl, rfl⟩ | ⟨hji, hq⟩ <;> rcases hr with ⟨rfl, rfl⟩ | ⟨hki, hr⟩
      · rfl
      · exact absurd hqw (hnew hr hrw)
      · exact absurd hrw (hnew hq hqw)
      · exact hA.uniq _ _ _ _ w hq hr hqw hrw

theorem InvA.init (hnf : ∀ sc ∈ scripts, Op.flush ∉ sc) (presize : Nat) :
    InvA scripts (start (init presize scripts)) := by
  constructor
  · intro i p hp
    simp only [start, Storage.init, List.map_map, List.getElem?_map, Option.map_eq_some_iff] at hp
    obtain ⟨sc, hsc, rfl⟩ := hp
    exact fetch_LocA (p := mkProc sc) hsc rfl (hnf sc (List.mem_of_getElem? hsc)) rfl rfl nofun nofun rfl
  · intro i j p q w hp hq hpw
    simp only [start, Storage.init, List.map_map, List.getElem?_map, Option.map_eq_some_iff] at hp
    obtain ⟨sc, hsc, rfl⟩ := hp
    simp [mkProc] at hpw

end WindVerif.Storage
