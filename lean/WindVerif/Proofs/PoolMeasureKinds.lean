import WindVerif.Proofs.PoolMeasureThreads
/-! Termination of the pool model (C02): how the steps of the consumer change the measure, kind by kind (a move inside a
phase, an item taken from the result queue, the end of a `_get_results`, the next call or `__exit__`, the start of a worker). -/
namespace WindVerif.Pool

variable {s s' t : St}

theorem midB_le_of (h1 : t.procs.length = s.procs.length)
    (h2 : t.callsLeft.length + (if t.cur.isSome ∧ t.finished = 0 then 1 else 0) ≤
      s.callsLeft.length + (if s.cur.isSome ∧ s.finished = 0 then 1 else 0)) : midB t ≤ midB s := by
  unfold midB; rw [h1]; exact Nat.mul_le_mul_left _ h2

theorem midB_mono_fin (h1 : t.procs.length = s.procs.length) (h2 : t.callsLeft = s.callsLeft) (h3 : t.cur = s.cur)
    (h4 : s.finished ≤ t.finished) : midB t ≤ midB s := by
  apply midB_le_of h1
  rw [h2, h3]
  apply Nat.add_le_add_left
  by_cases hc : s.cur.isSome ∧ t.finished = 0
  · have : s.cur.isSome ∧ s.finished = 0 := ⟨hc.1, by have := hc.2; omega⟩
    rw [if_pos hc, if_pos this]; exact Nat.le_refl _
  · rw [if_neg hc]; exact Nat.zero_le _

theorem midB_release (h1 : t.procs.length = s.procs.length) (h2 : t.callsLeft = s.callsLeft) (h3 : t.cur = s.cur)
    (hc : s.cur.isSome = true) (h0 : s.finished = 0) (h4 : 0 < t.finished) : midB t + (s.procs.length + 1) = midB s := by
  unfold midB
  rw [h1, h2, h3]
  have e1 : (if s.cur.isSome ∧ t.finished = 0 then 1 else 0) = 0 := if_neg (fun h => by have := h.2; omega)
  have e2 : (if s.cur.isSome ∧ s.finished = 0 then 1 else 0) = 1 := if_pos ⟨hc, h0⟩
  rw [e1, e2]
  simp only [Nat.add_zero, Nat.mul_add, Nat.mul_one]

/-- a step of the consumer inside a phase (the calls to come are the same): only its position, the room for the mid-call
`until_all_ready()`, the replace thread's part and the queues count -/
theorem meas_lt_CM (e1 : t.cur = s.cur) (e2 : t.callsLeft = s.callsLeft) (e3 : t.procs.length = s.procs.length)
    (e4 : preStart t = preStart s) (e5 : mF t = mF s) (e6 : mW t = mW s)
    (h : pos t.cpc (fresh t) s.procs.length + midB t + mR t + mQ t <
      pos s.cpc (fresh s) s.procs.length + midB s + mR s + mQ s) :
    meas t < meas s := by
  unfold meas mC futW pendCall
  rw [e1, e2, e3, e4, e5, e6]
  omega

/-- what the measure reads besides the consumer's position, the replace thread's part and the queues -/
def mview (s : St) := (s.cur, s.callsLeft, s.procs.length, s.finished, mF s, mW s)

theorem mview_eq (hv : mview t = mview s) : t.cur = s.cur ∧ t.callsLeft = s.callsLeft ∧
    t.procs.length = s.procs.length ∧ t.finished = s.finished ∧ mF t = mF s ∧ mW t = mW s := by
  simpa only [mview, Prod.mk.injEq] using hv

theorem meas_lt_V (hv : mview t = mview s)
    (h : pos t.cpc (fresh t) s.procs.length + mR t + mQ t < pos s.cpc (fresh s) s.procs.length + mR s + mQ s)
    (hp : preStart t = preStart s := by simp [preStart, *]) : meas t < meas s := by
  obtain ⟨e1, e2, e3, e4, e5, e6⟩ := mview_eq hv
  have em : midB t = midB s := by unfold midB; rw [e1, e2, e3, e4]
  exact meas_lt_CM e1 e2 e3 hp e5 e6 (by rw [em]; omega)

theorem meas_move {c : CPc} (hpc : s.cpc = c) (hv : mview t = mview s)
    (h : pos t.cpc (fresh t) s.procs.length < pos c (fresh s) s.procs.length)
    (hq : mQ t = mQ s := by rfl) (hr : mR t = mR s := by rfl)
    (hp : preStart t = preStart s := by simp [preStart, *]) : meas t < meas s :=
  meas_lt_V hv (by rw [hr, hq, hpc]; exact Nat.add_lt_add_right (Nat.add_lt_add_right h _) _) hp

theorem mQ_pop {a : Option Nat} {r : List (Option Nat)} (hq : s.resQ = a :: r) (e0 : t.resQ = r) (e8 : t.workQ = s.workQ) :
    mQ s = mQ t + 20 := by
  unfold mQ; rw [hq, e0, e8, List.length_cons]; omega

/-- taking an item from the result queue (20) pays for the consumer's next round -/
theorem meas_take {c : CPc} {a : Option Nat} {r : List (Option Nat)} (hpc : s.cpc = c) (hq : s.resQ = a :: r)
    (hv : mview t = mview s) (h : pos t.cpc (fresh t) s.procs.length < pos c (fresh s) s.procs.length + 20)
    (e0 : t.resQ = r := by rfl) (ew : t.workQ = s.workQ := by rfl) (hr : mR t = mR s := by rfl)
    (hp : preStart t = preStart s := by simp [preStart, *]) : meas t < meas s :=
  meas_lt_V hv (by rw [hr, mQ_pop hq e0 ew, hpc]; omega) hp

theorem pos_drain (b : Bool) (n : Nat) : pos .lockRel b n < pos .getNowait b n ∧ pos .getNowait b n < pos .qsize2 b n ∧
    pos .qsize2 b n < pos .lockAcq b n ∧ pos .getBlock b n < pos .lockRel b n := by
  cases b <;> exact ⟨Nat.lt_succ_self _, Nat.lt_succ_self _, Nat.lt_succ_self _, Nat.add_lt_add_left (by decide) _⟩

theorem pos_take (b b' : Bool) (n : Nat) : pos .qsize2 b' n < pos .getNowait b n + 20 := by
  cases b <;> cases b' <;> simp [pos]

theorem pos_enter {i n : Nat} (h : i < n) (b b' : Bool) :
    pos (.enterStart (i + 1)) b n < pos (.enterStart i) b' n ∧ pos (.readyWait 0) b n < pos (.enterStart i) b' n ∧
    2 * n + 2 + 12 ≤ pos (.enterStart i) b' n := by
  simp only [pos]; omega

theorem pos_ready {i n : Nat} (h : i < n) (b b' : Bool) :
    pos (.readyWait (i + 1)) b n < pos (.readyWait i) b' n ∧ 2 * n + 2 + 12 ≤ pos (.readyWait i) b' n := by
  simp only [pos]; omega

theorem pos_mid {i n : Nat} (wid wid' : Nat) (b b' : Bool) :
    (i < n → pos (.midReady (i + 1) wid') b n < pos (.midReady i wid) b' n) ∧
    2 * n + 2 + 27 < pos (.midReady i wid) b' n := by
  simp only [pos]; omega

theorem pos_exit {i n : Nat} (b b' : Bool) :
    (i < n → pos (.exitPut (i + 1)) b n < pos (.exitPut i) b' n) ∧ n - 0 < pos (.exitPut i) b' n ∧
    (i < n → n - (i + 1) < pos (.exitJoin i) b' n) := by
  simp only [pos]; omega

theorem exitJoinFrom_pos (s0 : St) (fuel i : Nat) (b : Bool) (n : Nat) :
    pos (exitJoinFrom s0 fuel i) b n ≤ n - i ∧ ∀ {t : St}, t.cpc = exitJoinFrom s0 fuel i → preStart t = false := by
  rcases exitJoinFrom_spec s0 fuel i with ⟨h, _⟩ | ⟨k, h, hk, _⟩ <;> rw [h]
  · exact ⟨Nat.zero_le _, fun e => by unfold preStart; rw [e]⟩
  · exact ⟨Nat.sub_le_sub_left hk n, fun e => by unfold preStart; rw [e]⟩

theorem pos_after {c' : CPc} (h : c' = .flowClear ∨ c' = .flowIsSet ∨ c' = .rdSending) (b : Bool) (n : Nat) :
    pos c' b n ≤ 2 * n + 2 + 27 ∧ ∀ {t : St}, t.cpc = c' → preStart t = false := by
  rcases h with h | h | h <;> subst h <;> exact ⟨by simp [pos], fun e => by unfold preStart; rw [e]⟩

/-- `afterResults` touches only the consumer's local data and its pc; it goes on in the result loop (`finished` does not
decrease) or — on the first emission of a call only — into the mid-call `until_all_ready()` -/
theorem afterResults_view (s0 : St) :
    (afterResults s0).cur = s0.cur ∧ (afterResults s0).callsLeft = s0.callsLeft ∧ (afterResults s0).procs = s0.procs ∧
    mF (afterResults s0) = mF s0 ∧ mW (afterResults s0) = mW s0 ∧ mR (afterResults s0) = mR s0 ∧
    mQ (afterResults s0) = mQ s0 ∧
    ((((afterResults s0).cpc = .flowClear ∨ (afterResults s0).cpc = .flowIsSet ∨ (afterResults s0).cpc = .rdSending) ∧
        s0.finished ≤ (afterResults s0).finished) ∨
     (∃ wid, (afterResults s0).cpc = .midReady 0 wid ∧ s0.cur.isSome = true ∧ s0.finished = 0 ∧
        0 < (afterResults s0).finished)) := by
  obtain ⟨c', heq, hcl⟩ := afterResults_eq s0
  rcases Option.eq_none_or_eq_some s0.cur with hc | ⟨call, hc⟩
  · have hcb : consumeBatch s0 = s0 := by unfold consumeBatch; rw [hc]
    rw [hcb] at heq hcl
    rw [heq]
    refine ⟨rfl, rfl, rfl, mF_congr rfl rfl rfl rfl, mW_congr rfl, mR_congr rfl rfl, mQ_congr rfl rfl, ?_⟩
    rcases hcl with ⟨h, _⟩ | ⟨wid, _, _, _, h0, hpos⟩
    · exact Or.inl ⟨h, Nat.le_refl _⟩
    · exact absurd hpos (h0 ▸ Nat.lt_irrefl 0)
  · obtain ⟨buf, wf, fin, out, hcb, hfin⟩ := consumeBatch_view0 s0 call hc
    rw [hcb] at heq hcl
    rw [heq]
    refine ⟨rfl, rfl, rfl, mF_congr rfl rfl rfl rfl, mW_congr rfl, mR_congr rfl rfl, mQ_congr rfl rfl, ?_⟩
    rcases hcl with ⟨h, _⟩ | ⟨wid, h, _, _, h0, hpos⟩
    · exact Or.inl ⟨h, hfin⟩
    · exact Or.inr ⟨wid, h, by rw [hc]; rfl, h0, hpos⟩

/-- the state after a `_get_results` costs no more than position 27 of the result loop would: on the first emission of a
call the waits of the mid-call `until_all_ready()` are paid for by the room of that call -/
theorem meas_afterResults_lt {s0 : St} {c : CPc} (hpc : s.cpc = c) (hv : mview s0 = mview s)
    (h : 2 * s.procs.length + 2 + 27 + mQ s0 < pos c (fresh s) s.procs.length + mQ s)
    (e7 : mR s0 = mR s := by rfl) (hpre : preStart s = false := by simp [preStart, *]) :
    meas (afterResults s0) < meas s := by
  obtain ⟨e1, e2, e3, e4, e5, e6⟩ := mview_eq hv
  obtain ⟨a1, a2, a3, a5, a6, a7, a8, hcl⟩ := afterResults_view s0
  have a3' : (afterResults s0).procs.length = s.procs.length := (congrArg _ a3).trans e3
  refine meas_lt_CM (a1.trans e1) (a2.trans e2) a3' ?_ (a5.trans e5) (a6.trans e6) ?_
  · rw [hpre]
    rcases hcl with ⟨hc, _⟩ | ⟨wid, hc, _⟩
    · exact (pos_after hc true 0).2 rfl
    · unfold preStart; rw [hc]
  · rw [a7, a8, e7, hpc]
    rcases hcl with ⟨hc, hfin⟩ | ⟨wid, hc, hcur, h0, hpos⟩
    · have hp := (pos_after hc (fresh (afterResults s0)) s.procs.length).1
      have hm := midB_mono_fin a3' (a2.trans e2) (a1.trans e1) (e4 ▸ hfin)
      omega
    · have hm := midB_release a3' (a2.trans e2) (a1.trans e1) (e1 ▸ hcur) (e4 ▸ h0) hpos
      rw [hc]
      show 2 * s.procs.length + 2 + 28 + (s.procs.length - 0) + _ + _ + _ < _
      omega

/-- … when an item (20) has just been taken from the result queue, from position 18 on -/
theorem take_lt {s0 : St} {a : Option Nat} {r : List (Option Nat)} {p : Nat} (hq : s.resQ = a :: r) (e0 : s0.resQ = r)
    (hp : 2 * s.procs.length + 2 + 18 ≤ p) (e8 : s0.workQ = s.workQ := by rfl) :
    2 * s.procs.length + 2 + 27 + mQ s0 < p + mQ s := by
  rw [mQ_pop hq e0 e8]; omega

/-- the next call (its 40 are set free, and its weight becomes that of the pending call) or `__exit__` (no call is left):
from any position of at least 12 the consumer's part gets smaller; nothing else changes -/
theorem meas_toNextCall (hp : 2 * s.procs.length + 2 + 12 ≤ pos s.cpc (fresh s) s.procs.length) :
    meas (toNextCall s) < meas s := by
  have hfw : (s.callsLeft.map (fun c => callW c.chunks)).sum ≤ futW s := Nat.le_add_left ..
  -- it suffices that the calls to come and the new position weigh at most what the calls to come did, plus `2n + 1`
  have key : ∀ {t : St}, t.procs = s.procs → mF t = mF s → mW t = mW s → mR t = mR s → mQ t = mQ s → midB t ≤ midB s →
      futW t + 40 * t.callsLeft.length + pos t.cpc (fresh t) s.procs.length ≤
        futW s + 40 * s.callsLeft.length + (2 * s.procs.length + 1) → meas t < meas s := by
    intro t e4 e5 e6 e7 e8 hm hA
    unfold meas mC
    rw [e4, e5, e6, e7, e8]
    omega
  rcases toNextCall_cases s with ⟨call, rest, hcl, heq⟩ | ⟨hcl, heq⟩ <;> rw [heq] <;>
    refine key rfl (mF_congr rfl rfl rfl rfl) (mW_congr rfl) (mR_congr rfl rfl) (mQ_congr rfl rfl) ?_ ?_
  · refine midB_le_of rfl ?_
    rw [hcl]
    exact Nat.le_add_right (rest.length + 1) _
  · rw [hcl, List.map_cons, List.sum_cons] at hfw
    rw [hcl, List.length_cons]
    cases s.cfg.factory <;>
      (show callW call.chunks + (rest.map _).sum + 40 * rest.length + (2 * s.procs.length + 2 + _) ≤ _; omega)
  · refine midB_le_of rfl ?_
    rw [hcl]
    exact Nat.zero_le _
  · rw [hcl]
    by_cases hn : s.procs.length = 0 <;> simp only [hn, if_true, if_false] <;>
      (show 0 + 0 + 40 * 0 + _ ≤ _; simp only [pos]; omega)

theorem meas_startWorker {k : Nat} {w : Worker} (hL : LInv s) (hg : getWorker s k = some w) (hpc : w.pc = .notStarted) :
    meas (setWorker s { w with pc := .bfClear }) < meas s := by
  have hmw := mW_start (t := setWorker s { w with pc := .bfClear }) hL (getWorker_some hg).1 hpc rfl
  have e1 : mC (setWorker s { w with pc := .bfClear }) = mC s := mC_congr rfl rfl rfl rfl rfl rfl rfl
  unfold meas
  rw [e1]
  show _ + mF s + _ + mR s + mQ s < _
  omega

end WindVerif.Pool
