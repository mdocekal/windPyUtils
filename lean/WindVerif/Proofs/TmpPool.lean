import WindVerif.Model.TmpPool
/-!
Theorems about the model of `TmpPool` / `FilePool` (C20).

The operations of `Pool` do not care which list object the processes share, nor what else is in the heap.  Their effect on
the invariant is therefore proved once, for `TmpPoolCtx.Shape` (all references point to one object `r`, whose content `l`
is related to the disk as `Listing` says); `Inv` below is the case `r = 0` in a heap of one object, and the histories with
`enter` / `exit` (`Proofs/TmpPoolCtx.lean`) and with refused removals (`Proofs/TmpPoolRefuse.lean`) add only their own steps.
-/
namespace WindVerif.TmpPool

inductive Op
  | create (pid : Nat) | remove (pid : Nat) (p : Path) | flush (pid : Nat) | fork (pid : Nat)
  | unlink (p : Path)          -- a file deleted behind the pool's back

/-- apply an operation; an operation that raises leaves what it had already done (the file removal of `remove` when the
path is not listed; a `remove` by a process that does not exist does nothing at all) -/
def applyOp (s : Pool) : Op → Pool
  | .create pid => match s.create pid with | .ok (s', _) => s' | .error _ => s
  | .remove pid p => match s.remove pid p with | .ok s' => s' | .error .valueError => s.unlink p | .error _ => s
  | .flush pid => match s.flush pid with | .ok s' => s' | .error _ => s
  | .fork pid => match s.fork pid with | .ok (s', _) => s' | .error _ => s
  | .unlink p => s.unlink p

def run (s : Pool) (ops : List Op) : Pool := ops.foldl applyOp s

def NoUnlink : List Op → Prop
  | [] => True
  | .unlink _ :: _ => False
  | _ :: r => NoUnlink r

structure Inv (s : Pool) : Prop where
  heap   : s.heap.length = 1
  refs   : ∀ r ∈ s.refs, r = 0
  owner  : s.refs ≠ []
  nodup  : ∀ l, s.heap[0]? = some l → l.Nodup
  below  : ∀ l, s.heap[0]? = some l → ∀ p ∈ l, p < s.fresh
  fsLt   : ∀ p ∈ s.fs, p < s.fresh
  fsNodup : s.fs.Nodup
  listedOfExisting : ∀ l, s.heap[0]? = some l → ∀ p ∈ s.fs, p ∈ l

/-- `strict` adds "every listed path exists", which is lost when a file is deleted behind the pool's back -/
structure Listing (strict : Bool) (l fs : List Path) (n : Path) : Prop where
  nodup  : l.Nodup
  below  : ∀ p ∈ l, p < n
  fsLt   : ∀ p ∈ fs, p < n
  fsNodup : fs.Nodup
  listed : ∀ p ∈ fs, p ∈ l
  existing : strict = true → ∀ p ∈ l, p ∈ fs

theorem nodup_snoc {l : List Path} {n : Path} (hn : l.Nodup) (hb : ∀ p ∈ l, p < n) : (l ++ [n]).Nodup := by
  refine List.nodup_append.mpr ⟨hn, List.pairwise_singleton _ _, ?_⟩
  intro a ha b hb'
  rw [List.mem_singleton.mp hb']
  exact Nat.ne_of_lt (hb a ha)

theorem lt_snoc {l : List Path} {n : Path} (hb : ∀ p ∈ l, p < n) : ∀ p ∈ l ++ [n], p < n + 1 := by
  intro p hp
  rcases List.mem_append.mp hp with hp | hp
  · exact Nat.lt_succ_of_lt (hb p hp)
  · exact List.mem_singleton.mp hp ▸ Nat.lt_succ_self n

theorem mem_snoc {a b : List Path} (n : Path) (h : ∀ p ∈ a, p ∈ b) : ∀ p ∈ a ++ [n], p ∈ b ++ [n] :=
  fun p hp => List.mem_append.mpr ((List.mem_append.mp hp).imp_left (h p))

namespace Listing
variable {strict : Bool} {l fs : List Path} {n : Path}

theorem nil : Listing strict [] [] n := ⟨.nil, nofun, nofun, .nil, nofun, fun _ => nofun⟩

theorem create (h : Listing strict l fs n) : Listing strict (l ++ [n]) (fs ++ [n]) (n + 1) :=
  ⟨nodup_snoc h.nodup h.below, lt_snoc h.below, lt_snoc h.fsLt, nodup_snoc h.fsNodup h.fsLt, mem_snoc n h.listed,
    fun hs => mem_snoc n (h.existing hs)⟩

theorem remove (h : Listing strict l fs n) (p : Path) : Listing strict (l.erase p) (fs.filter (· ≠ p)) n where
  nodup := h.nodup.erase p
  below := fun q hq => h.below q (List.mem_of_mem_erase hq)
  fsLt := fun q hq => h.fsLt q (List.mem_filter.mp hq).1
  fsNodup := h.fsNodup.filter _
  listed := fun q hq =>
    have hq := List.mem_filter.mp hq
    (List.mem_erase_of_ne (of_decide_eq_true hq.2)).mpr (h.listed q hq.1)
  existing := fun hs q hq =>
    have hq := h.nodup.mem_erase_iff.mp hq
    List.mem_filter.mpr ⟨h.existing hs q hq.2, decide_eq_true hq.1⟩

theorem filter (h : Listing strict l fs n) (f : Path → Bool) (hs : strict = true → ∀ p ∈ l, f p = true) :
    Listing strict l (fs.filter f) n where
  nodup := h.nodup
  below := h.below
  fsLt := fun q hq => h.fsLt q (List.mem_filter.mp hq).1
  fsNodup := h.fsNodup.filter _
  listed := fun q hq => h.listed q (List.mem_filter.mp hq).1
  existing := fun hst q hq => List.mem_filter.mpr ⟨h.existing hst q hq, hs hst q hq⟩

theorem flush (h : Listing strict l fs n) : fs.filter (fun p => !l.contains p) = [] :=
  List.filter_eq_nil_iff.mpr (fun q hq => by simpa using h.listed q hq)

end Listing

theorem refs_none {s : Pool} {pid : Nat} (hp : ¬ pid < s.refs.length) : s.refs[pid]? = none :=
  List.getElem?_eq_none (Nat.le_of_not_lt hp)

theorem listOf_none {s : Pool} {pid : Nat} (hp : ¬ pid < s.refs.length) : s.listOf pid = none := by
  simp only [Pool.listOf, refs_none hp]

theorem NoUnlink.cons {op : Op} {ops : List Op} (h : NoUnlink (op :: ops)) : (∀ p, op ≠ .unlink p) ∧ NoUnlink ops := by
  cases op with
  | unlink p => exact h.elim
  | _ => exact ⟨nofun, h⟩

end WindVerif.TmpPool

namespace WindVerif.TmpPoolCtx
open WindVerif.TmpPool

/-- the invariant with its witnesses (the owner's reference `r`, the list `l` it denotes).  It is in the namespace of the model
in which `r` changes (`Model/TmpPoolCtx.lean`: `enter` / `exit` rebind the owner's list) -/
structure Shape (strict : Bool) (s : Pool) (r : Nat) (l : List Path) : Prop where
  r0     : s.refs[0]? = some r
  hl     : s.heap[r]? = some l
  all    : ∀ r' ∈ s.refs, r' = r
  nodup  : l.Nodup
  below  : ∀ p ∈ l, p < s.fresh
  fsLt   : ∀ p ∈ s.fs, p < s.fresh
  fsNodup : s.fs.Nodup
  listed : ∀ p ∈ s.fs, p ∈ l
  existing : strict = true → ∀ p ∈ l, p ∈ s.fs

def InvG (strict : Bool) (s : Pool) : Prop := ∃ r l, Shape strict s r l

namespace Shape
variable {strict : Bool} {s : Pool} {r : Nat} {l : List Path}

theorem listing (h : Shape strict s r l) : Listing strict l s.fs s.fresh :=
  ⟨h.nodup, h.below, h.fsLt, h.fsNodup, h.listed, h.existing⟩

theorem of (r0 : s.refs[0]? = some r) (hl : s.heap[r]? = some l) (all : ∀ r' ∈ s.refs, r' = r)
    (h : Listing strict l s.fs s.fresh) : Shape strict s r l :=
  ⟨r0, hl, all, h.nodup, h.below, h.fsLt, h.fsNodup, h.listed, h.existing⟩

theorem rlt (h : Shape strict s r l) : r < s.heap.length := (List.getElem?_eq_some_iff.mp h.hl).1

theorem pos (h : Shape strict s r l) : 0 < s.refs.length := (List.getElem?_eq_some_iff.mp h.r0).1

theorem listOf_zero (h : Shape strict s r l) : s.listOf 0 = some l := by
  simp only [Pool.listOf, h.r0, h.hl]

theorem refs_get (h : Shape strict s r l) {pid : Nat} (hp : pid < s.refs.length) : s.refs[pid]? = some r :=
  (List.getElem?_eq_getElem hp).trans (congrArg some (h.all _ (List.getElem_mem hp)))

theorem listOf (h : Shape strict s r l) {pid : Nat} (hp : pid < s.refs.length) : s.listOf pid = some l := by
  simp only [Pool.listOf, h.refs_get hp, h.hl]

theorem weaken (h : Shape strict s r l) : Shape false s r l :=
  { h with existing := nofun }

theorem put (h : Shape strict s r l) {l' fs' : List Path} {n' : Path} (hL : Listing strict l' fs' n') :
    Shape strict { s with heap := s.heap.set r l', fs := fs', fresh := n' } r l' :=
  .of h.r0 (List.getElem?_set_self h.rlt) h.all hL

theorem create_eq (h : Shape strict s r l) {pid : Nat} (hp : pid < s.refs.length) :
    s.create pid = .ok ({ s with heap := s.heap.set r (l ++ [s.fresh]), fs := s.fs ++ [s.fresh], fresh := s.fresh + 1 },
      s.fresh) := by
  simp only [Pool.create, h.listOf hp, Pool.setList, h.refs_get hp]

theorem remove_eq (h : Shape strict s r l) {pid : Nat} (hp : pid < s.refs.length) (p : Path) :
    s.remove pid p =
      if l.contains p then .ok { s with fs := s.fs.filter (· ≠ p), heap := s.heap.set r (l.erase p) }
      else .error .valueError := by
  simp only [Pool.remove, h.listOf hp, Pool.setList, h.refs_get hp]

theorem flush_eq (h : Shape strict s r l) {pid : Nat} (hp : pid < s.refs.length) :
    s.flush pid = .ok { s with fs := [], heap := s.heap.set r [] } := by
  simp only [Pool.flush, h.listOf hp, Pool.setList, h.refs_get hp, h.listing.flush]

end Shape

theorem shape_new (strict : Bool) : Shape strict Pool.new 0 [] :=
  .of rfl rfl (fun _ h => List.mem_singleton.mp h) .nil

theorem Shape.filter_fs {strict : Bool} {s : Pool} {r : Nat} {l : List Path} (h : Shape strict s r l) (f : Path → Bool)
    (hs : strict = true → ∀ p ∈ l, f p = true) : Shape strict { s with fs := s.fs.filter f } r l :=
  .of h.r0 h.hl h.all (h.listing.filter f hs)

theorem Shape.step {strict : Bool} {s : Pool} {r : Nat} {l : List Path} (h : Shape strict s r l) (op : Op)
    (hu : strict = true → ∀ p, op ≠ .unlink p) :
    ∃ l', Shape strict (applyOp s op) r l' ∧ (applyOp s op).heap.length = s.heap.length ∧
      ((∀ pid, op ≠ .fork pid) → (applyOp s op).refs = s.refs) := by
  have same : ∃ l', Shape strict s r l' ∧ s.heap.length = s.heap.length ∧ ((∀ pid, op ≠ .fork pid) → s.refs = s.refs) :=
    ⟨l, h, rfl, fun _ => rfl⟩
  have unlink : ∀ p, (strict = true → p ∉ l) → ∃ l', Shape strict (s.unlink p) r l' ∧
      (s.unlink p).heap.length = s.heap.length ∧ ((∀ pid, op ≠ .fork pid) → (s.unlink p).refs = s.refs) :=
    fun p hp => ⟨l, h.filter_fs _ (fun hs q hq => decide_eq_true fun hc => hp hs (hc ▸ hq)), rfl, fun _ => rfl⟩
  cases op with
  | create pid =>
    by_cases hp : pid < s.refs.length
    · rw [show applyOp s (.create pid) = _ by simp only [applyOp, h.create_eq hp]; rfl]
      exact ⟨_, h.put h.listing.create, List.length_set, fun _ => rfl⟩
    · simpa only [applyOp, Pool.create, listOf_none hp] using same
  | remove pid p =>
    by_cases hp : pid < s.refs.length
    · by_cases hc : l.contains p = true
      · rw [show applyOp s (.remove pid p) = _ by simp only [applyOp, h.remove_eq hp, hc, if_true]; rfl]
        exact ⟨_, h.put (h.listing.remove p), List.length_set, fun _ => rfl⟩
      · rw [show applyOp s (.remove pid p) = _ by simp only [applyOp, h.remove_eq hp, hc, Bool.false_eq_true, if_false]; rfl]
        exact unlink p (fun _ hm => hc (List.contains_iff_mem.mpr hm))
    · simpa only [applyOp, Pool.remove, listOf_none hp] using same
  | flush pid =>
    by_cases hp : pid < s.refs.length
    · rw [show applyOp s (.flush pid) = _ by simp only [applyOp, h.flush_eq hp]; rfl]
      exact ⟨_, h.put .nil, List.length_set, fun _ => rfl⟩
    · simpa only [applyOp, Pool.flush, listOf_none hp] using same
  | fork pid =>
    by_cases hp : pid < s.refs.length
    · rw [show applyOp s (.fork pid) = _ by simp only [applyOp, Pool.fork, h.refs_get hp]; rfl]
      refine ⟨l, .of ((List.getElem?_append_left h.pos).trans h.r0) h.hl ?_ h.listing, rfl, fun hf => absurd rfl (hf pid)⟩
      intro r' hr'
      exact (List.mem_append.mp hr').elim (h.all r') List.mem_singleton.mp
    · simpa only [applyOp, Pool.fork, refs_none hp] using same
  | unlink p => exact unlink p (fun hs => absurd rfl (hu hs p))

theorem Shape.run {strict : Bool} (ops : List Op) {s : Pool} {r : Nat} {l : List Path} (h : Shape strict s r l)
    (hn : strict = true → NoUnlink ops) :
    ∃ l', Shape strict (run s ops) r l' ∧ (run s ops).heap.length = s.heap.length := by
  induction ops generalizing s l with
  | nil => exact ⟨l, h, rfl⟩
  | cons op ops ih =>
    obtain ⟨l1, h1, hlen, -⟩ := h.step op (fun hs => (hn hs).cons.1)
    obtain ⟨l', h', hlen'⟩ := ih h1 (fun hs => (hn hs).cons.2)
    exact ⟨l', h', hlen'.trans hlen⟩

end WindVerif.TmpPoolCtx

namespace WindVerif.TmpPool
open WindVerif.TmpPoolCtx

theorem Inv.shape {s : Pool} (h : Inv s) : ∃ l, s.heap = [l] ∧ Shape false s 0 l := by
  match hh : s.heap, h.heap with
  | [l], _ =>
    have h0 : s.heap[0]? = some l := by rw [hh]; rfl
    refine ⟨l, rfl, .of ?_ h0 h.refs ⟨h.nodup l h0, h.below l h0, h.fsLt, h.fsNodup, h.listedOfExisting l h0, nofun⟩⟩
    rw [List.getElem?_eq_getElem (List.length_pos_iff.mpr h.owner)]
    exact congrArg some (h.refs _ (List.getElem_mem _))

theorem Inv.of_shape {strict : Bool} {s : Pool} {r : Nat} {l : List Path} (h : Shape strict s r l)
    (hh : s.heap.length = 1) : Inv s := by
  obtain rfl : r = 0 := Nat.lt_one_iff.mp (hh ▸ h.rlt)
  have hl : ∀ l', s.heap[0]? = some l' → l' = l := fun l' hl' => Option.some.inj (hl'.symm.trans h.hl)
  exact ⟨hh, h.all, List.length_pos_iff.mp h.pos, fun l' hl' => hl l' hl' ▸ h.nodup, fun l' hl' => hl l' hl' ▸ h.below,
    h.fsLt, h.fsNodup, fun l' hl' => hl l' hl' ▸ h.listed⟩

theorem zero_lt_refs {s : Pool} (h : Inv s) : 0 < s.refs.length :=
  List.length_pos_iff.mpr h.owner

theorem inv_new : Inv Pool.new := .of_shape (shape_new false) rfl

theorem inv_step (s : Pool) (op : Op) (h : Inv s) : Inv (applyOp s op) := by
  obtain ⟨l, hh, hs⟩ := h.shape
  obtain ⟨l', hs', hlen, -⟩ := hs.step op nofun
  exact .of_shape hs' (hlen.trans h.heap)

theorem inv_filter_fs {s : Pool} (h : Inv s) (f : Path → Bool) : Inv { s with fs := s.fs.filter f } := by
  obtain ⟨l, hh, hs⟩ := h.shape
  exact .of_shape (hs.filter_fs f nofun) h.heap

theorem inv_run (ops : List Op) : Inv (run Pool.new ops) := by
  obtain ⟨l, hs, hlen⟩ := (shape_new false).run ops nofun
  exact .of_shape hs hlen

theorem create_fresh (s : Pool) (h : Inv s) (pid : Nat) (hp : pid < s.refs.length) :
    ∃ s' p, s.create pid = .ok (s', p) ∧ p ∉ s.fs ∧ p ∈ s'.fs ∧ (∀ l, s.listOf 0 = some l → p ∉ l) ∧
      (∀ l', s'.listOf 0 = some l' → p ∈ l') := by
  obtain ⟨l, -, hs⟩ := h.shape
  refine ⟨_, _, hs.create_eq hp, fun hm => Nat.lt_irrefl _ (h.fsLt _ hm), List.mem_append_right _ (List.mem_singleton_self _),
    ?_, ?_⟩
  · intro l0 hl0 hm
    cases hs.listOf_zero.symm.trans hl0
    exact Nat.lt_irrefl _ (hs.below _ hm)
  · intro l' hl'
    cases (hs.put hs.listing.create).listOf_zero.symm.trans hl'
    exact List.mem_append_right _ (List.mem_singleton_self _)

theorem listed_eq_existing (ops : List Op) (hn : NoUnlink ops) :
    ∃ l, (run Pool.new ops).listOf 0 = some l ∧ ∀ p, p ∈ l ↔ p ∈ (run Pool.new ops).fs := by
  obtain ⟨l, hs, -⟩ := (shape_new true).run ops (fun _ => hn)
  exact ⟨l, hs.listOf_zero, fun p => ⟨hs.existing rfl p, hs.listed p⟩⟩

theorem flush_nothing_left {s : Pool} (h : Inv s) {pid : Nat} (hp : pid < s.refs.length) :
    ∃ s', s.flush pid = .ok s' ∧ s'.fs = [] ∧ s'.listOf 0 = some [] := by
  obtain ⟨l, -, hs⟩ := h.shape
  exact ⟨_, hs.flush_eq hp, rfl, (hs.put .nil).listOf_zero⟩

theorem nothing_left_flush (ops : List Op) (pid : Nat) (hp : pid < (run Pool.new ops).refs.length) :
    ∃ s', (run Pool.new ops).flush pid = .ok s' ∧ s'.fs = [] ∧ s'.listOf 0 = some [] :=
  flush_nothing_left (inv_run ops) hp

theorem nothing_left_exit (ops : List Op) :
    ∃ s', (run Pool.new ops).exit = .ok s' ∧ s'.fs = [] ∧ s'.listOf 0 = some [] :=
  flush_nothing_left (inv_run ops) (zero_lt_refs (inv_run ops))

theorem remove_unlisted (s : Pool) (h : Inv s) (pid : Nat) (hp : pid < s.refs.length) (p : Path)
    (hnot : ∀ l, s.listOf 0 = some l → p ∉ l) : s.remove pid p = .error .valueError := by
  obtain ⟨l, -, hs⟩ := h.shape
  rw [hs.remove_eq hp, if_neg (fun hc => hnot l hs.listOf_zero (List.contains_iff_mem.mp hc))]

theorem filepool_open (files : List Nat) :
    (FPool.new files).open.handles = some (files.map (fun _ => true)) := rfl

end WindVerif.TmpPool
