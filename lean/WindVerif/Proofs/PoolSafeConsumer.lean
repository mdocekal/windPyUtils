import WindVerif.Proofs.PoolSafeShapes
/-!
The safety invariant is preserved by every step of the consumer.
-/
namespace WindVerif.Pool
open List

theorem safe_stepC (s s' : St) (h : SafeInv s) (hs : stepC s = some s') : SafeInv s' := by
  obtain ⟨hc, hd, ho, hw⟩ := (safe_iff s).1 h
  -- `p.start()` in `__enter__`: nothing is in flight yet and there is no replace thread
  have start : ∀ {i wid w}, s.cpc = .enterStart i → getWorker s wid = some w →
      SafeInv (setWorker s { w with pc := .bfClear }) ∧ s.rpc = .idle ∧ (csig s.cpc).pre = true := by
    intro i wid w hpc hg
    have hpre : (csig s.cpc).pre = true := by rw [hpc]; rfl
    have hquiet := data_quiet hd (by intro _; rw [hpre]; simp [sentV])
    have hheld : w.held = none :=
      held_none_of_heldL_nil s.workers ((flight_nil_iff _ _ _).1 hquiet.1).2.1 w (mem_of_find?_eq_some hg)
    have hridle : s.rpc = .idle := hw.enterR (by rw [hpc]; rfl)
    exact ⟨safe_setWorkerG h hg (by rfl) (by rfl) (by exact heldOk_of_none hheld)
      (by intro nw hr; rw [hridle] at hr; simp at hr) fun _ => hridle, hridle, hpre⟩
  cases stepC_cases hs with
  | enterNext hpc _ hg =>
    obtain ⟨h1, hridle, -⟩ := start hpc hg
    exact safe_pc h1 hpc _ rfl nofun fun _ => hridle
  | enterLast hpc _ hg =>
    obtain ⟨h1, -, hpre⟩ := start hpc hg
    unfold afterEnter
    split
    · exact safe_pc h1 hpc (.readyWait 0) rfl nofun nofun
    · rw [toNextCall_setCpc]
      exact safe_toNextCall _ h1 (Or.inl hpre)
  | readyLast hpc =>
    rw [toNextCall_setCpc]
    exact safe_toNextCall s h (Or.inl (by rw [hpc]; rfl))
  | nextCall hpc => exact safe_toNextCall s h (Or.inl (by rw [hpc]; rfl))
  | readyNext hpc | sendingUp hpc | qsize1Zero hpc | qsize2Pos hpc | qsize2Zero hpc | getNowaitEmpty hpc
  | flowIsSetYes hpc | flowIsSetNo hpc | exitPutGiveUp hpc | midNext hpc =>
    exact safe_pc h hpc _ rfl nofun nofun
  | rInitSet hpc | lockAcq hpc | flowClear hpc | flowSet hpc | rPutNone hpc | rStopSet hpc =>
    exact safe_move h hpc rfl rfl rfl rfl rfl nofun (fun _ hr => hr) nofun
  | rStart hpc => exact safe_move h hpc rfl rfl rfl rfl rfl nofun (by intro nw hr; simp at hr) nofun
  | fInitSet hpc =>
    rw [hpc] at hc hd hw
    obtain ⟨hf, ha⟩ := ctl_before hc rfl
    exact (safe_iff _).2 ⟨ctl_idle (sigOk_csig _) (Or.inl rfl) (fun _ => Or.inl rfl) rfl rfl hf ha (fun _ => rfl) nofun nofun, hd, ho, hw⟩
  | wrSending hpc =>
    rw [hpc] at hc hd hw
    obtain ⟨hf, ha⟩ := ctl_before hc rfl
    exact (safe_iff _).2 ⟨ctl_idle (sigOk_csig _) (Or.inl rfl) (fun _ => Or.inl rfl) rfl rfl hf ha (fun _ => hc.setupStop (Or.inl rfl))
      (fun _ => rfl) nofun, hd, ho, hw⟩
  | wrDataCnt hpc =>
    rw [hpc] at hc hd hw
    obtain ⟨hf, ha⟩ := ctl_before hc rfl
    exact (safe_iff _).2 ⟨ctl_idle (sigOk_csig _) (Or.inl rfl) (fun _ => Or.inl rfl) rfl rfl hf ha
      (fun _ => hc.setupStop (Or.inr (Or.inl rfl))) (fun _ => hc.setupSending (Or.inl rfl)) (fun _ => rfl), hd, ho, hw⟩
  | @fStart call hpc hcur =>
    rw [hpc] at hc hd hw
    refine (safe_iff _).2 ⟨ctl_fStart hcur hc, data_n hd fun _ => ?_, ho, hw⟩
    show sentV false s.cur _ _ _ = sentV true s.cur _ _ _
    rw [hcur]
    by_cases hz : call.chunks = 0 <;> simp [sentV, hz]
  | sendingDown hpc hsend =>
    rw [hpc] at hc hd hw
    exact (safe_iff _).2 ⟨ctl_sig hc (sigOk_csig _) rfl rfl rfl rfl rfl nofun (fun _ => by simpa using hsend) nofun,
      hd, ho, hw⟩
  | cntMore hpc =>
    rw [hpc] at hc hd hw
    exact (safe_iff _).2 ⟨ctl_sig hc (sigOk_csig _) rfl rfl rfl rfl rfl nofun nofun nofun, hd, ho, hw⟩
  | cntAll hpc hn =>
    rw [hpc] at hc hd hw
    -- leaving the loop: the flag is down, so the counter is final; everything sent has been emitted
    have hcur := ctl_in_call hc rfl rfl
    have hsend := hc.readCnt rfl
    obtain ⟨hall, hcnt⟩ := sentV_of_not_sending hc hsend rfl hcur
    have hle := data_fin_le hd hcur
    rw [hall] at hle
    have hfin : s.finished = s.fTotal := by omega
    exact (safe_iff _).2 ⟨ctl_sig hc (sigOk_csig _) rfl rfl rfl rfl rfl nofun nofun fun _ => ⟨hsend, hfin⟩, hd, ho,
      hw⟩
  | qsize1Pos hpc =>
    have hbt : s.batch = [] := hd.batchEmpty (by rw [hpc]; rfl)
    exact safe_move h hpc rfl rfl rfl rfl hbt.symm nofun (fun _ hr => hr) nofun
  | getNowaitToken hpc hq => exact safe_move h hpc rfl rfl rfl (by rw [hq]; simp) rfl nofun (fun _ hr => hr) nofun
  | getNowaitChunk hpc hq =>
    rw [hpc] at hc hd hw
    refine (safe_iff _).2 ⟨hc, data_take hd ?_ rfl, ho, hw⟩
    rw [hq]; unfold flightL; perm_solve
  | lockRelResults hpc => exact safe_afterResults { s with lock := none } hpc rfl hc (data_be hd nofun) ho hw
  | lockRelNothing hpc hno =>
    have hbt : s.batch = [] := by
      have : ¬ s.batch.length > 0 := fun hb => hno (Or.inl hb)
      exact length_eq_zero_iff.1 (by omega)
    exact safe_move h hpc rfl rfl rfl rfl rfl (fun _ _ => hbt) (fun _ hr => hr) nofun
  | @getBlockToken r hpc hq =>
    have hbt : s.batch = [] := hd.batchEmpty (by rw [hpc]; rfl)
    rw [hbt] at hd
    refine safe_afterResults { s with resQ := r, batch := [] } hpc rfl hc ?_ ho hw
    refine data_batch_nil (data_perm hd ?_) rfl
    rw [hq]
    show (flightL s.workQ s.workers r).Perm _
    simp [flightL]
  | @getBlockChunk i r hpc hq =>
    have hbt : s.batch = [] := hd.batchEmpty (by rw [hpc]; rfl)
    rw [hbt] at hd
    refine safe_afterResults { s with resQ := r, batch := [i] } hpc rfl hc ?_ ho hw
    refine data_take (batch := []) hd ?_ rfl
    rw [hq]; unfold flightL; perm_solve
  | fStopSet hpc =>
    rw [hpc] at hc hd hw
    have hf : s.fpc = .token ∨ s.fpc = .idle := by
      have hfeed := hc.feed rfl (ctl_in_call hc rfl rfl)
      rw [(hc.post rfl).1] at hfeed
      exact hfeed.of_not_sending.1
    exact (safe_iff _).2 ⟨{ hc with stopF := fun _ => hf, setupStop := nofun }, hd, ho, hw⟩
  | fJoinFactory hpc ha =>
    have ha' : s.fAlive = false := by simpa using ha
    rw [hpc] at hc hd hw
    exact (safe_iff _).2 ⟨ctl_sig hc (sigOk_csig _) rfl rfl rfl rfl rfl (fun _ => ctl_idle_of_dead hc ha') nofun
      fun _ => hc.post rfl, hd, ho, hw⟩
  | fJoinPlain hpc ha =>
    have ha' : s.fAlive = false := by simpa using ha
    rw [toNextCall_setCpc]
    exact safe_toNextCall s h (Or.inr ⟨by rw [hpc]; rfl, ctl_idle_of_dead hc ha'⟩)
  | rJoin hpc =>
    rw [toNextCall_setCpc]
    exact safe_toNextCall s h (Or.inr ⟨by rw [hpc]; rfl, hc.quiet (Or.inr (Or.inl (by rw [hpc]; rfl)))⟩)
  | exitPutNext hpc => exact safe_move h hpc rfl rfl (by simp) rfl rfl nofun (fun _ hr => hr) nofun
  | exitPutLast hpc =>
    exact safe_move h hpc rfl (by rw [exitJoinFrom_sig]; rfl) (by simp) rfl rfl nofun (fun _ hr => hr)
      (by rw [exitJoinFrom_sig]; nofun)
  | exitJoin hpc => exact safe_pc h hpc _ (by rw [exitJoinFrom_sig]; rfl) nofun (by rw [exitJoinFrom_sig]; nofun)
  | midLast hpc =>
    obtain ⟨c', heq, hcl⟩ := afterBatch_eq s
    rw [heq]
    rcases hcl with rfl | rfl | rfl <;> exact safe_pc h hpc _ rfl nofun nofun

end WindVerif.Pool
