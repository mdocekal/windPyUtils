import WindVerif.Proofs.PoolSafeLists
/-!
Preservation of three of the four parts of the invariant over plain values (`CtlV`, `DataV`, `WrkV`; `OutLe` changes only
where a batch is consumed), one lemma for each shape a step can have.
-/
namespace WindVerif.Pool
open List

section ctl
variable {g : CSig} {cur : Option Call} {fpc : FPc} {sending : Bool} {dataCnt fNext fTotal fRead : Nat}
  {fAlive fStop : Bool} {finished : Nat}

theorem FeedV.of_not_sending (h : FeedV fpc false dataCnt fNext fTotal fRead) :
    (fpc = .token ∨ fpc = .idle) ∧ dataCnt = fTotal := by
  cases fpc with
  | token => exact ⟨Or.inl rfl, h.2⟩
  | idle => exact ⟨Or.inr rfl, h.2⟩
  | _ => exact absurd h.1 (by decide)

theorem ctl_idle_of_dead (h : CtlV g cur fpc sending dataCnt fNext fTotal fRead fAlive fStop finished)
    (ha : fAlive = false) : fpc = .idle :=
  bne_eq_false_iff_eq.1 (h.alive.symm.trans ha)

theorem ctl_before (h : CtlV g cur fpc sending dataCnt fNext fTotal fRead fAlive fStop finished) (hp : g.pre = true) :
    fpc = .idle ∧ fAlive = false :=
  ⟨h.quiet (Or.inl hp), by rw [h.alive, h.quiet (Or.inl hp)]; rfl⟩

theorem ctl_in_call (h : CtlV g cur fpc sending dataCnt fNext fTotal fRead fAlive fStop finished) (hp : g.pre = false)
    (he : g.exit = false) : cur.isSome = true :=
  Option.isSome_iff_ne_none.2 fun hn =>
    (h.noCall hn).elim (fun p => absurd (hp.symm.trans p) (by decide)) fun e => absurd (he.symm.trans e) (by decide)

theorem ctl_running (h : CtlV g cur fpc sending dataCnt fNext fTotal fRead fAlive fStop finished) (hf : fpc ≠ .idle) :
    g.pre = false ∧ cur.isSome = true :=
  ⟨Bool.eq_false_iff.2 fun hp => hf (h.quiet (Or.inl hp)),
   Option.isSome_iff_ne_none.2 fun hc => hf (h.quiet (Or.inr (Or.inr hc)))⟩

/-- A step of the feeder.  It runs, so the consumer is inside the loop of a call (`quiet`), where the clauses about the
consumer's own pc say nothing about what the feeder writes, except that `_sending_work` must stay down once it is down:
what is left to show is the feeder's row of the table `FeedV`, `alive` and `stopF`. -/
theorem ctl_feeder {fpc' : FPc} {sending' : Bool} {dataCnt' fNext' fRead' : Nat} {fAlive' : Bool}
    (h : CtlV g cur fpc sending dataCnt fNext fTotal fRead fAlive fStop finished) (hf : fpc ≠ .idle)
    (hfeed : FeedV fpc' sending' dataCnt' fNext' fTotal fRead') (ha : fAlive' = (fpc' != .idle))
    (hst : fStop = true → fpc' = .token ∨ fpc' = .idle) (hs : sending = false → sending' = false) :
    CtlV g cur fpc' sending' dataCnt' fNext' fTotal fRead' fAlive' fStop finished :=
  have hq : ¬(g.pre = true ∨ g.rj = true ∨ cur = none) := fun q => hf (h.quiet q)
  have hsetup : ¬(g.wd = true ∨ g.fs = true) := fun q => hq (Or.inl (h.sigOk.setupPre q))
  { h with
    feed := fun _ _ => hfeed, alive := ha, quiet := fun q => absurd q hq, stopF := hst
    readCnt := fun r => hs (h.readCnt r), post := fun p => ⟨hs (h.post p).1, (h.post p).2⟩
    setupSending := fun q => absurd q hsetup, setupCnt := fun q => absurd (Or.inr q) hsetup }

/-- The consumer moves on without writing anything the control part looks at.  The clauses guarded by `pre`, `exit` and
the setup flags carry over when these bits stay; those guarded by `rj`, `rd`, `post` are owed where the new pc raises the
bit. -/
theorem ctl_sig {g' : CSig} (h : CtlV g cur fpc sending dataCnt fNext fTotal fRead fAlive fStop finished)
    (hg : SigOk g') (e1 : g'.pre = g.pre) (e3 : g'.exit = g.exit) (e6 : g'.ws = g.ws) (e7 : g'.wd = g.wd)
    (e8 : g'.fs = g.fs) (hrj : g'.rj = true → fpc = .idle) (hrd : g'.rd = true → sending = false)
    (hpost : g'.post = true → sending = false ∧ finished = fTotal) :
    CtlV g' cur fpc sending dataCnt fNext fTotal fRead fAlive fStop finished where
  sigOk := hg
  total := e1 ▸ h.total
  feed := e1 ▸ h.feed
  alive := h.alive
  quiet q := q.elim (fun p => h.quiet (Or.inl (e1 ▸ p))) fun q => q.elim hrj fun c => h.quiet (Or.inr (Or.inr c))
  stopF := h.stopF
  readCnt := hrd
  post := hpost
  noCall := e1 ▸ e3 ▸ h.noCall
  setupStop := e6 ▸ e7 ▸ e8 ▸ h.setupStop
  setupSending := e7 ▸ e8 ▸ h.setupSending
  setupCnt := e8 ▸ h.setupCnt

theorem ctl_congr {g' : CSig} (h : CtlV g cur fpc sending dataCnt fNext fTotal fRead fAlive fStop finished)
    (hg : SigOk g') (e1 : g'.pre = g.pre) (e2 : g'.post = g.post) (e3 : g'.exit = g.exit) (e4 : g'.rd = g.rd)
    (e5 : g'.rj = g.rj) (e6 : g'.ws = g.ws) (e7 : g'.wd = g.wd) (e8 : g'.fs = g.fs) :
    CtlV g' cur fpc sending dataCnt fNext fTotal fRead fAlive fStop finished :=
  ctl_sig h hg e1 e3 e6 e7 e8 (fun r => h.quiet (Or.inr (Or.inl (e5 ▸ r)))) (fun r => h.readCnt (e4 ▸ r))
    fun p => h.post (e2 ▸ p)

theorem ctl_fin {finished' : Nat} (h : CtlV g cur fpc sending dataCnt fNext fTotal fRead fAlive fStop finished)
    (hp : g.post = false) : CtlV g cur fpc sending dataCnt fNext fTotal fRead fAlive fStop finished' :=
  { h with post := fun p => absurd (hp.symm.trans p) (by decide) }

/-- No feeder, and no call under way: before `fStart`, or outside a call.  Only what the consumer has written so far to
set up the next feeder matters. -/
theorem ctl_idle (hg : SigOk g) (hin : g.pre = true ∨ cur = none) (hnc : cur = none → g.pre = true ∨ g.exit = true)
    (hrd : g.rd = false) (hpost : g.post = false) (hf : fpc = .idle) (ha : fAlive = false)
    (h1 : g.ws = true ∨ g.wd = true ∨ g.fs = true → fStop = false) (h2 : g.wd = true ∨ g.fs = true → sending = true)
    (h3 : g.fs = true → dataCnt = 0) :
    CtlV g cur fpc sending dataCnt fNext fTotal fRead fAlive fStop finished := by
  have hin' : g.pre = false → cur.isSome = true → False := fun hp hc =>
    hin.elim (fun p => absurd (p.symm.trans hp) (by decide)) fun hn => by rw [hn] at hc; exact absurd hc (by decide)
  exact
    { sigOk := hg, total := fun c hc hp => (hin' hp (by rw [hc]; rfl)).elim, feed := fun hp hc => (hin' hp hc).elim
      alive := by rw [ha, hf]; rfl
      quiet := fun _ => hf, stopF := fun _ => Or.inr hf
      readCnt := fun r => absurd (hrd.symm.trans r) (by decide)
      post := fun p => absurd (hpost.symm.trans p) (by decide)
      noCall := hnc, setupStop := h1, setupSending := h2, setupCnt := h3 }

theorem ctl_fStart {call : Call} (hcur : cur = some call)
    (h : CtlV (csig .fStart) cur fpc sending dataCnt fNext fTotal fRead fAlive fStop finished) :
    CtlV (csig .rdSending) cur (if call.chunks = 0 then .wrSending else .put) sending dataCnt 0 call.chunks
      fRead true fStop finished where
  sigOk := sigOk_csig _
  total c hc _ := by cases hcur.symm.trans hc; rfl
  feed _ _ := by
    have hs := h.setupSending (Or.inr rfl)
    have hd := h.setupCnt rfl
    split
    · next hz => exact ⟨hs, hd.trans hz.symm⟩
    · next hz => exact ⟨hs, hd, Nat.pos_of_ne_zero hz⟩
  alive := by split <;> rfl
  quiet q := q.elim nofun fun q => q.elim nofun fun hn => nomatch hcur.symm.trans hn
  stopF q := absurd ((h.setupStop (Or.inr (Or.inr rfl))).symm.trans q) (by decide)
  readCnt := nofun
  post := nofun
  noCall hn := nomatch hcur.symm.trans hn
  setupStop := nofun
  setupSending := nofun
  setupCnt := nofun

end ctl

section data
variable {be : Bool} {cur : Option Call} {n : Nat} {fl batch buffer : List Nat} {fin wf : Nat} {co : List Nat}

theorem data_perm {fl' : List Nat} (h : DataV be cur n fl batch buffer fin wf co) (hp : fl'.Perm fl) :
    DataV be cur n fl' batch buffer fin wf co := by
  refine ⟨fun hc => ?_, fun hc => ?_, h.fin, h.ordered, h.unordered, h.batchEmpty⟩
  · exact (((hp.append_right _).append_right _).append_right _).trans (h.conserve hc)
  · have := h.idle hc
    refine ⟨?_, this.2⟩
    rw [this.1] at hp
    exact hp.eq_nil

theorem data_n {n' : Nat} (h : DataV be cur n fl batch buffer fin wf co) (hn : cur.isSome → n' = n) :
    DataV be cur n' fl batch buffer fin wf co := by
  refine ⟨fun hc => ?_, h.idle, h.fin, h.ordered, h.unordered, h.batchEmpty⟩
  rw [hn hc]; exact h.conserve hc

theorem data_be {be' : Bool} (h : DataV be cur n fl batch buffer fin wf co) (hb : be' = true → batch = []) :
    DataV be' cur n fl batch buffer fin wf co :=
  ⟨h.conserve, h.idle, h.fin, h.ordered, h.unordered, hb⟩

theorem data_put {fl' : List Nat} (h : DataV be cur n fl batch buffer fin wf co) (hc : cur.isSome = true)
    (hp : fl'.Perm (fl ++ [n])) : DataV be cur (n + 1) fl' batch buffer fin wf co := by
  refine ⟨fun _ => ?_, fun hn => by simp [hn] at hc, h.fin, h.ordered, h.unordered, h.batchEmpty⟩
  have h1 := h.conserve hc
  rw [range_succ]
  rw [perm_iff_count] at *
  intro x
  have := h1 x; have := hp x
  simp only [count_append] at *
  omega

theorem data_take {fl' : List Nat} {i : Nat} {be' : Bool} (h : DataV be cur n fl batch buffer fin wf co)
    (hp : fl.Perm (i :: fl')) (hb : be' = false) : DataV be' cur n fl' (batch ++ [i]) buffer fin wf co := by
  refine ⟨fun hc => ?_, fun hn => ?_, h.fin, h.ordered, h.unordered, fun h => by simp [hb] at h⟩
  · have h1 := h.conserve hc
    rw [perm_iff_count] at *
    intro x
    have := h1 x; have := hp x
    simp only [count_append, count_cons, count_nil] at *
    omega
  · have := (h.idle hn).1
    rw [this] at hp
    exact absurd hp.nil_eq (by simp)

theorem data_batch_nil {be' : Bool} (h : DataV be cur n fl batch buffer fin wf co) (hb : batch = []) :
    DataV be' cur n fl [] buffer fin wf co := by
  subst hb
  exact ⟨h.conserve, h.idle, h.fin, h.ordered, h.unordered, fun _ => rfl⟩

theorem data_consume {call : Call} {be' : Bool} {buf' em : List Nat} {wf' : Nat}
    (h : DataV be cur n fl batch buffer fin wf co) (hc : cur = some call)
    (hp : (batch ++ buffer).Perm (em ++ buf'))
    (ho : call.ordered = true → ∃ k, wf' = wf + k ∧ em = List.range' wf k)
    (hu : call.ordered = false → buf' = buffer ∧ wf' = wf ∧ em = batch) :
    DataV be' cur n fl [] buf' (fin + em.length) wf' (co ++ em) := by
  have hcs : cur.isSome = true := by simp [hc]
  refine ⟨fun _ => ?_, fun hn => by simp [hn] at hc, fun _ => ?_, fun c hcc hco => ?_, fun c hcc hco => ?_, fun _ => rfl⟩
  · have h1 := h.conserve hcs
    rw [perm_iff_count] at *
    intro x
    have := h1 x; have := hp x
    simp only [count_append, count_nil] at *
    omega
  · rw [h.fin hcs, length_append]
  · have e : c = call := by rw [hc] at hcc; exact (Option.some.inj hcc).symm
    subst e
    obtain ⟨k, rfl, rfl⟩ := ho hco
    rw [h.ordered c hc hco, range_eq_range', range_eq_range']
    have := @range'_append 0 wf k 1
    simpa using this
  · have e : c = call := by rw [hc] at hcc; exact (Option.some.inj hcc).symm
    subst e
    rw [(hu hco).1]
    exact h.unordered c hc hco

theorem data_quiet (h : DataV be cur n fl batch buffer fin wf co) (hn : cur.isSome → n ≤ fin) :
    fl = [] ∧ batch = [] ∧ buffer = [] ∧ (cur.isSome → co.Perm (List.range n)) := by
  cases hc : cur with
  | none => exact ⟨(h.idle hc).1, (h.idle hc).2.1, (h.idle hc).2.2, fun h => by simp at h⟩
  | some c =>
    have hcs : cur.isSome = true := by simp [hc]
    have h1 := h.conserve hcs
    have h2 := h.fin hcs
    have h3 := hn hcs
    have hl := h1.length_eq
    simp only [length_append, length_range] at hl
    have e1 : fl = [] := length_eq_zero_iff.1 (by omega)
    have e2 : batch = [] := length_eq_zero_iff.1 (by omega)
    have e3 : buffer = [] := length_eq_zero_iff.1 (by omega)
    refine ⟨e1, e2, e3, fun _ => ?_⟩
    simpa [e1, e2, e3] using h1

theorem data_fin_le (h : DataV be cur n fl batch buffer fin wf co) (hc : cur.isSome = true) : fin ≤ n := by
  have hl := (h.conserve hc).length_eq
  have := h.fin hc
  simp only [length_append, length_range] at hl
  omega

theorem data_next_some {call : Call} {wq : List Nat} (hq : wq = []) : DataV true (some call) 0 wq [] [] 0 0 [] := by
  subst hq
  exact ⟨fun _ => by simp, fun h => by simp at h, fun _ => rfl, fun _ _ _ => by simp, fun _ _ _ => rfl, fun _ => rfl⟩

theorem data_next_none {wq : List Nat} {be' : Bool} (hq : wq = []) : DataV be' none n wq [] [] fin wf co := by
  subst hq
  exact ⟨fun h => by simp at h, fun _ => ⟨rfl, rfl, rfl⟩, fun h => by simp at h, fun _ h => by simp at h,
    fun _ h => by simp at h, fun _ => rfl⟩

end data

section wrk
variable {en : Bool} {rpc : RPc} {ws : List Worker} {wc : Nat}

theorem wrk_rpc {en' : Bool} {rpc' : RPc} (h : WrkV en rpc ws wc) (hs : ∀ nw, rpc' = .start nw → rpc = .start nw)
    (he : en' = true → rpc' = .idle) : WrkV en' rpc' ws wc :=
  ⟨h.wids, h.widLt, h.heldPc, fun nw hr => h.startFresh nw (hs nw hr), he⟩

def HeldOk (w : Worker) : Prop :=
  w.held.isSome → (w.pc = .lockAcq ∨ w.pc = .putNowait ∨ w.pc = .putBlock ∨ (w.pc = .lockRel ∧ w.full = true))

theorem wrk_update {en' : Bool} {rpc' : RPc} {wid : Nat} {w w' : Worker} (h : WrkV en rpc ws wc)
    (hf : ws.find? (fun x => decide (x.wid = wid)) = some w) (hw' : w'.wid = w.wid) (hH : HeldOk w')
    (hs : ∀ nw, rpc' = .start nw → rpc = .start nw ∧ w.pc ≠ .notStarted)
    (he : en' = true → rpc' = .idle) :
    WrkV en' rpc' (ws.map (fun x => if x.wid = w'.wid then w' else x)) wc := by
  have hmem : w ∈ ws := mem_of_find?_eq_some hf
  refine ⟨?_, ?_, ?_, ?_, he⟩
  · exact (upd_wids (k := w'.wid) ws rfl) ▸ h.wids
  · intro x hx
    rcases mem_upd.1 hx with ⟨rfl, _⟩ | ⟨hx, _⟩
    · rw [hw']; exact h.widLt w hmem
    · exact h.widLt x hx
  · intro x hx
    rcases mem_upd.1 hx with ⟨rfl, _⟩ | ⟨hx, _⟩
    · exact hH
    · exact h.heldPc x hx
  · intro nw hr x hx hxn
    obtain ⟨hr', hns⟩ := hs nw hr
    rcases mem_upd.1 hx with ⟨rfl, _⟩ | ⟨hx, _⟩
    · exact absurd (h.startFresh nw hr' w hmem (by rw [← hw']; exact hxn)) hns
    · exact h.startFresh nw hr' x hx hxn

theorem wrk_join {cfg : Cfg} {wid : Nat} (h : WrkV en (.join wid) ws wc) :
    WrkV en (.start wc) (ws ++ [mkWorker cfg wc]) (wc + 1) := by
  refine ⟨?_, ?_, ?_, ?_, ?_⟩
  · rw [map_append, nodup_append]
    refine ⟨h.wids, by simp, ?_⟩
    intro a ha b hb
    rw [mem_map] at ha
    obtain ⟨x, hx, rfl⟩ := ha
    have := h.widLt x hx
    simp [mkWorker] at hb
    omega
  · intro x hx
    rw [mem_append] at hx
    rcases hx with hx | hx
    · have := h.widLt x hx; omega
    · simp at hx; subst hx; simp [mkWorker]
  · intro x hx
    rw [mem_append] at hx
    rcases hx with hx | hx
    · exact h.heldPc x hx
    · simp at hx; subst hx; simp [mkWorker]
  · intro nw hr x hx hxn
    injection hr with hr
    subst hr
    rw [mem_append] at hx
    rcases hx with hx | hx
    · have := h.widLt x hx; omega
    · simp at hx; subst hx; simp [mkWorker]
  · intro he
    have := h.enterR he
    simp at this

theorem flight_update {wid : Nat} {w w' : Worker} {wq wq' rq rq' : List (Option Nat)}
    (hnd : (ws.map (·.wid)).Nodup) (hf : ws.find? (fun x => decide (x.wid = wid)) = some w) (hw' : w'.wid = wid)
    (hp : (chunksOf wq' ++ w'.held.toList ++ chunksOf rq').Perm (chunksOf wq ++ w.held.toList ++ chunksOf rq)) :
    (flightL wq' (ws.map (fun x => if x.wid = w'.wid then w' else x)) rq').Perm (flightL wq ws rq) := by
  obtain ⟨rest, h1, h2⟩ := heldL_update ws wid w w' hnd hf hw'
  unfold flightL
  rw [perm_iff_count] at *
  intro x
  have := h1 x; have := h2 x; have := hp x
  simp only [count_append] at *
  omega

end wrk

end WindVerif.Pool
