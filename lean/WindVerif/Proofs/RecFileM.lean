import WindVerif.Model.RecFile
import WindVerif.Proofs.RecordFile
import WindVerif.Proofs.JsonRecords
/-!
Theorems about the model of mutable record files (`Model/RecFile.lean`), for ANY record format with a round trip, and the
csv / json instances (C12 / C13).
-/
namespace WindVerif.RecFile
open WindVerif.LineFile (refLines rstripNL takeLine index_lt index_nat)

theorem map_eraseIdx {α β} (g : α → β) (l : List α) (p : Nat) : (l.eraseIdx p).map g = (l.map g).eraseIdx p := by
  simp only [List.eraseIdx_eq_take_drop_succ, List.map_append, List.map_take, List.map_drop]

theorem map_insertAt {α β} (g : α → β) (l : List α) (p : Nat) (x : α) :
    (Py.insertAt l p x).map g = Py.insertAt (l.map g) p (g x) := by
  simp only [Py.insertAt, List.map_append, List.map_cons, List.map_take, List.map_drop]

theorem mem_insertAt {α} {l : List α} {p : Nat} {x y : α} (h : y ∈ Py.insertAt l p x) : y ∈ l ∨ y = x := by
  simp only [Py.insertAt, List.mem_append, List.mem_cons] at h
  rcases h with h | h | h
  · exact .inl (List.mem_of_mem_take h)
  · exact .inr h
  · exact .inl (List.mem_of_mem_drop h)

theorem getElem?_insertAt {α} {l : List α} {p : Nat} (x : α) (hp : p ≤ l.length) : (Py.insertAt l p x)[p]? = some x := by
  have : (l.take p).length = p := List.length_take_of_le hp
  rw [Py.insertAt, List.getElem?_append_right (Nat.le_of_eq this), this, Nat.sub_self, List.getElem?_cons_zero]

theorem insertPos_le (len : Nat) (i : Int) : Py.insertPos len i ≤ len := by
  unfold Py.insertPos
  split
  · exact Nat.min_le_right _ _
  · split
    · exact Nat.sub_le _ _
    · exact Nat.zero_le _

theorem insertPos_length (len : Nat) : Py.insertPos len (len : Int) = len := by
  simp [Py.insertPos]

theorem readLines_eq (content : Str) : readLines content = refLines content := by
  obtain ⟨h1, h2⟩ := WindVerif.LineFile.indexFile_spec content
  apply List.ext_getElem (by rw [readLines, List.length_map, h1])
  intro i _ hi
  obtain ⟨o, e1, e2⟩ := h2 i hi
  obtain ⟨ho, rfl⟩ := List.getElem?_eq_some_iff.mp e1
  rw [List.getElem?_eq_getElem hi, WindVerif.LineFile.lineAt] at e2
  simp only [readLines, List.getElem_map]
  cases hd : WindVerif.LineFile.dropBytes content (WindVerif.LineFile.indexFile content)[i] with
  | none => rw [hd] at e2; cases e2
  | some rest => rw [hd] at e2; exact Option.some.inj e2

theorem rstrip_takeLine_nonl (s : Str) : '\n' ∉ rstripNL (takeLine s) := by
  rcases WindVerif.LineFile.decomp s with ⟨body, rest, rfl, hb⟩ | h
  · rwa [WindVerif.LineFile.takeLine_append hb, WindVerif.LineFile.rstripNL_append hb]
  · rwa [WindVerif.LineFile.takeLine_nonl h, WindVerif.LineFile.rstripNL_nonl h]

theorem readLines_nonl (content : Str) : ∀ l ∈ readLines content, '\n' ∉ l := by
  intro l hl
  obtain ⟨o, -, rfl⟩ := List.mem_map.mp hl
  split
  · exact rstrip_takeLine_nonl _
  · exact List.not_mem_nil

theorem strip_nonl {s : Str} (h : '\n' ∉ s) : strip s = s := WindVerif.LineFile.rstripNL_nonl h

theorem raw_congr {f g : RecFile} (h : g.source = f.source) (s : Slot) : g.raw s = f.raw s := by
  cases s <;> simp only [RecFile.raw, h]

theorem raw_src (f : RecFile) {i : Nat} (h : i < f.source.length) : f.raw (.src i) = f.source[i] := by
  simp only [RecFile.raw, List.getD_eq_getElem?_getD, List.getElem?_eq_getElem h, Option.getD_some]

theorem open_slots_length (source : List Str) : (RecFile.open source).slots.length = source.length := by
  simp only [RecFile.open, List.length_map, List.length_range]

section fmt
variable {R : Type} (F : Fmt R)

theorem records_length (f : RecFile) : (f.records F).length = f.slots.length := List.length_map _

theorem records_open (source : List Str) : (RecFile.open source).records F = source.map F.load := by
  apply List.ext_getElem (by simp only [records_length, open_slots_length, List.length_map])
  intro i _ h
  rw [List.length_map] at h
  simp only [RecFile.records, RecFile.open, List.getElem_map, List.getElem_range]
  exact congrArg F.load (raw_src ⟨source, _⟩ h)

theorem getPos_eq (f : RecFile) (p : Nat) :
    f.getPos F p = match (f.records F)[p]? with
      | none => .error .indexError
      | some none => .error .loadError
      | some (some r) => .ok r := by
  simp only [RecFile.getPos, RecFile.records, List.getElem?_map]
  cases f.slots[p]? with
  | none => rfl
  | some s => simp only [Option.map_some]; cases F.load (f.raw s) <;> rfl

theorem save_slot (f : RecFile) (p : Nat) (s : Slot) (ending : Str) (hp : f.slots[p]? = some s) :
    f.lineAt p = some (strip (f.raw s)) ∧ (f.saveLines ending)[p]? = some (strip (f.raw s) ++ ending) := by
  simp only [RecFile.lineAt, RecFile.saveLines, List.getElem?_map, hp, Option.map_some, and_self]

/-- a position that still holds `src i` is written as source line `i` verbatim (`hnl`: the source lines carry no `"\n"`,
they were read with `readline().rstrip("\n")`) -/
theorem save_untouched (f : RecFile) (p i : Nat) (l ending : Str) (hp : f.slots[p]? = some (.src i))
    (hl : f.source[i]? = some l) (hnl : '\n' ∉ l) :
    f.lineAt p = some l ∧ (f.saveLines ending)[p]? = some (l ++ ending) := by
  have h := save_slot f p _ ending hp
  rwa [RecFile.raw, List.getD_eq_getElem?_getD, hl, Option.getD_some, strip_nonl hnl] at h

theorem save_edited (f f' : RecFile) (i : Int) (p : Nat) (r : R) (ending : Str)
    (hi : Py.index f.slots.length i = some p) (hs : f.setRec F i r = .ok f') :
    f'.lineAt p = some (strip (F.save r)) ∧ (f'.saveLines ending)[p]? = some (strip (F.save r) ++ ending) := by
  simp only [RecFile.setRec, hi, Except.ok.injEq] at hs
  subst hs
  exact save_slot _ p (.txt (F.save r)) ending (List.getElem?_set_self (index_lt hi))

theorem save_inserted (f : RecFile) (i : Int) (r : R) (ending : Str) :
    (f.insertRec F i r).lineAt (Py.insertPos f.slots.length i) = some (strip (F.save r)) ∧
    ((f.insertRec F i r).saveLines ending)[Py.insertPos f.slots.length i]? = some (strip (F.save r) ++ ending) :=
  save_slot _ _ (.txt (F.save r)) ending (getElem?_insertAt _ (insertPos_le _ _))

theorem getRec_spec (f : RecFile) (i : Int) :
    f.getRec F i = match Py.index (f.records F).length i with
      | none => .error .indexError
      | some p => match (f.records F)[p]? with
        | some (some r) => .ok r
        | _ => .error .loadError := by
  rw [records_length, RecFile.getRec]
  cases hi : Py.index f.slots.length i with
  | none => rfl
  | some p =>
    have hp : p < (f.records F).length := records_length F f ▸ index_lt hi
    simp only [getPos_eq, List.getElem?_eq_getElem hp]
    cases (f.records F)[p] <;> rfl

theorem records_setRec (f : RecFile) (i : Int) (r : R) :
    match Py.index (f.records F).length i with
    | some p => ∃ f', f.setRec F i r = .ok f' ∧ f'.records F = (f.records F).set p (F.load (F.save r)) ∧
        f'.source = f.source
    | none => f.setRec F i r = .error .indexError := by
  rw [records_length, RecFile.setRec]
  cases Py.index f.slots.length i with
  | none => rfl
  | some p => exact ⟨_, rfl, by simp only [RecFile.records, List.map_set, RecFile.raw], rfl⟩

theorem records_insertRec (f : RecFile) (i : Int) (r : R) :
    (f.insertRec F i r).records F =
      Py.insertAt (f.records F) (Py.insertPos (f.records F).length i) (F.load (F.save r)) ∧
    (f.insertRec F i r).source = f.source := by
  refine ⟨?_, rfl⟩
  rw [records_length]
  simp only [RecFile.records, RecFile.insertRec, map_insertAt, RecFile.raw]

theorem records_appendRec (f : RecFile) (r : R) :
    (f.appendRec F r).records F = f.records F ++ [F.load (F.save r)] ∧ (f.appendRec F r).source = f.source := by
  refine ⟨?_, rfl⟩
  rw [RecFile.appendRec, (records_insertRec F f _ r).1, records_length, insertPos_length, ← records_length F f,
    Py.insertAt, List.take_length, List.drop_length]

theorem records_delRec (f : RecFile) (i : Int) :
    match Py.index (f.records F).length i with
    | some p => ∃ f', f.delRec i = .ok f' ∧ f'.records F = (f.records F).eraseIdx p ∧ f'.source = f.source
    | none => f.delRec i = .error .indexError := by
  rw [records_length, RecFile.delRec]
  cases Py.index f.slots.length i with
  | none => rfl
  | some p => exact ⟨_, rfl, map_eraseIdx _ _ p, rfl⟩

theorem records_popRec (f : RecFile) (i : Int) :
    match Py.index (f.records F).length i with
    | some p => (match (f.records F)[p]? with
      | some (some r) => ∃ f', f.popRec F i = .ok (r, f') ∧ f'.records F = (f.records F).eraseIdx p ∧
          f'.source = f.source
      | _ => f.popRec F i = .error .loadError)
    | none => f.popRec F i = .error .indexError := by
  have hd := records_delRec F f i
  rw [RecFile.popRec, getRec_spec]
  revert hd
  cases Py.index (f.records F).length i with
  | none => intro _; rfl
  | some p =>
    rintro ⟨f', e1, e2⟩
    dsimp only
    cases (f.records F)[p]? with
    | none => rfl
    | some o =>
      cases o with
      | none => rfl
      | some r => exact ⟨f', by simp only [e1], e2⟩

end fmt

section reverse
variable {R : Type} (F : Fmt R)

theorem records_get {f : RecFile} {rs : List R} (hrs : f.records F = rs.map some) {j : Nat} {s : Slot}
    (hs : f.slots[j]? = some s) : ∃ r, rs[j]? = some r ∧ F.load (f.raw s) = some r := by
  have h := congrArg (·[j]?) hrs
  simp only [RecFile.records, List.getElem?_map, hs, Option.map_some] at h
  cases hr : rs[j]? with
  | none => rw [hr] at h; cases h
  | some r => rw [hr] at h; exact ⟨r, rfl, Option.some.inj h⟩

theorem records_len {f : RecFile} {rs : List R} (hrs : f.records F = rs.map some) : rs.length = f.slots.length := by
  rw [← records_length F f, hrs, List.length_map]

theorem setRec_nat (g : RecFile) (j : Nat) (hj : j < g.slots.length) (a : R) :
    g.setRec F (j : Int) a = .ok { g with slots := g.slots.set j (.txt (F.save a)) } := by
  simp only [RecFile.setRec, index_nat hj]

/-- the file in the middle of `reverse`, after the swaps `0 … k-1`: the outer `k` positions on both sides hold the
re-serialised record of the mirrored position, the rest is as it was -/
structure Mid (f : RecFile) (rs : List R) (k : Nat) (g : RecFile) : Prop where
  source : g.source = f.source
  len : g.slots.length = f.slots.length
  slot : ∀ j, j < f.slots.length → g.slots[j]? =
    if j < k ∨ f.slots.length - k ≤ j then (rs[f.slots.length - 1 - j]?).map (fun r => Slot.txt (F.save r))
    else f.slots[j]?

variable {F} {f : RecFile} {rs : List R} {k : Nat} {g : RecFile}

theorem Mid.getRec (hm : Mid F f rs k g) (hrs : f.records F = rs.map some) {j : Nat} (h1 : k ≤ j)
    (h2 : j + k < f.slots.length) : ∃ r, rs[j]? = some r ∧ g.getRec F (j : Int) = .ok r := by
  have hj : j < f.slots.length := Nat.lt_of_le_of_lt (Nat.le_add_right j k) h2
  have hin : ¬ (j < k ∨ f.slots.length - k ≤ j) :=
    fun h => h.elim (Nat.not_lt.mpr h1) fun h => Nat.not_le.mpr h2 (Nat.sub_le_iff_le_add.mp h)
  have hs := List.getElem?_eq_getElem hj
  obtain ⟨r, hr, hl⟩ := records_get F hrs hs
  have hg : g.slots[j]? = some f.slots[j] := by rw [hm.slot j hj, if_neg hin, hs]
  refine ⟨r, hr, ?_⟩
  simp only [RecFile.getRec, index_nat (hm.len ▸ hj), RecFile.getPos, hg, raw_congr hm.source, hl]

theorem mirror {n k q : Nat} (h : k + q + 1 = n) :
    k < n ∧ q < n ∧ n - 1 - k = q ∧ n - 1 - q = k ∧ n - k - 1 = q ∧ n - (k + 1) ≤ q ∧ q + k < n := by
  subst h
  refine ⟨Nat.lt_succ_of_le (Nat.le_add_right k q), Nat.lt_succ_of_le (Nat.le_add_left q k), ?_, ?_, ?_, ?_,
    Nat.lt_succ_of_le (Nat.le_of_eq (Nat.add_comm q k))⟩
  · rw [Nat.add_sub_cancel, Nat.add_sub_cancel_left]
  · rw [Nat.add_sub_cancel, Nat.add_sub_cancel]
  · rw [Nat.sub_right_comm, Nat.add_sub_cancel, Nat.add_sub_cancel_left]
  · rw [Nat.add_right_comm, Nat.add_sub_cancel_left]; exact Nat.le_refl q

theorem Mid.swap (hm : Mid F f rs k g) {q : Nat} (hq : k + q + 1 = f.slots.length) {a b : R}
    (ha : rs[q]? = some a) (hb : rs[k]? = some b) :
    Mid F f rs (k + 1) { g with slots := (g.slots.set k (.txt (F.save a))).set q (.txt (F.save b)) } := by
  refine ⟨hm.source, by simp only [List.length_set, hm.len], fun j hj => ?_⟩
  simp only [List.getElem?_set, List.length_set, hm.len]
  by_cases h1 : q = j
  · subst h1
    obtain ⟨-, hqn, -, e, -, hle, -⟩ := mirror hq
    rw [if_pos rfl, if_pos hqn, if_pos (.inr hle), e, hb]
    rfl
  · by_cases h2 : k = j
    · subst h2
      obtain ⟨hkn, -, e, -⟩ := mirror hq
      rw [if_neg h1, if_pos rfl, if_pos hkn, if_pos (.inl (Nat.lt_succ_self k)), e, ha]
      rfl
    · rw [if_neg h1, if_neg h2, hm.slot j hj]
      have c : (j < k + 1 ∨ f.slots.length - (k + 1) ≤ j) ↔ (j < k ∨ f.slots.length - k ≤ j) := by
        simp only [Nat.sub_le_iff_le_add]; omega
      simp only [c]

theorem Mid.mem (hm : Mid F f rs k g) {s : Slot} (hs : s ∈ g.slots) :
    s ∈ f.slots ∨ ∃ r ∈ rs, s = .txt (F.save r) := by
  obtain ⟨j, hj, rfl⟩ := List.getElem_of_mem hs
  have h := hm.slot j (hm.len ▸ hj)
  rw [List.getElem?_eq_getElem hj] at h
  split at h
  · obtain ⟨r, hr, e⟩ := Option.map_eq_some_iff.mp h.symm
    exact .inr ⟨r, List.mem_of_getElem? hr, e.symm⟩
  · exact .inl (List.mem_of_getElem? h.symm)

theorem Mid.slot_half (hm : Mid F f rs (f.slots.length / 2) g) {j : Nat} (hj : j < f.slots.length) :
    g.slots[j]? = if 2 * j + 1 = f.slots.length then f.slots[j]?
      else (rs[f.slots.length - 1 - j]?).map (fun r => Slot.txt (F.save r)) := by
  have c : (j < f.slots.length / 2 ∨ f.slots.length - f.slots.length / 2 ≤ j) ↔ ¬ 2 * j + 1 = f.slots.length := by
    simp only [Nat.sub_le_iff_le_add]; omega
  simp only [hm.slot j hj, c, ite_not]

variable (F)

/-- the loop from round `k` on, `m` rounds to go (`K` rounds in all, `d` the parity of the length) -/
theorem reverseLoop_mid (hrs : f.records F = rs.map some) {K d : Nat} (hn : 2 * K + d = f.slots.length) :
    ∀ (m k : Nat) (g : RecFile), k + m = K → Mid F f rs k g →
      ∃ g', RecFile.reverseLoop F f.slots.length (List.range' k m) g = (g', none) ∧ Mid F f rs K g' := by
  intro m
  induction m with
  | zero => intro k g hk hm; exact ⟨g, rfl, hk ▸ hm⟩
  | succ m ih =>
    intro k g hk hm
    obtain ⟨q, hq, hkq⟩ : ∃ q, k + q + 1 = f.slots.length ∧ k < q := ⟨k + 2 * m + d + 1, by omega⟩
    obtain ⟨hkn, hqn, -, -, e, -, hqk⟩ := mirror hq
    obtain ⟨a, ha, hga⟩ := hm.getRec hrs (Nat.le_of_lt hkq) hqk
    obtain ⟨b, hb, hgb⟩ := hm.getRec hrs (Nat.le_refl k) (Nat.lt_trans (Nat.add_lt_add_right hkq k) hqk)
    have hs1 := setRec_nat F g k (hm.len ▸ hkn) a
    have hs2 := setRec_nat F { g with slots := g.slots.set k (.txt (F.save a)) } q
      (by rw [List.length_set, hm.len]; exact hqn) b
    rw [List.range'_succ, RecFile.reverseLoop, e]
    simp only [hga, hgb, hs1, hs2]
    exact ih (k + 1) _ ((Nat.add_right_comm k 1 m).trans hk) (hm.swap hq ha hb)

theorem reverse_mid (f : RecFile) (rs : List R) (hrs : f.records F = rs.map some) :
    ∃ f', f.reverse F = (f', none) ∧ Mid F f rs (f.slots.length / 2) f' := by
  rw [RecFile.reverse, List.range_eq_range']
  exact reverseLoop_mid F hrs (Nat.div_add_mod _ 2) _ 0 f (Nat.zero_add _)
    ⟨rfl, rfl, fun j hj => (if_neg fun h => h.elim (Nat.not_lt_zero j) (Nat.not_le.mpr hj)).symm⟩

/-- after `reverse` on a file of length `n` every position except the middle one (`n` odd) is a `txt` slot: the
re-serialisation `save r` of the record `r` presented before at the mirrored position -/
theorem reverse_reserialises (f : RecFile) (rs : List R) (hrs : f.records F = rs.map some) (j : Nat)
    (hj : j < f.slots.length) :
    (2 * j + 1 ≠ f.slots.length → ∃ r, (f.records F)[f.slots.length - 1 - j]? = some (some r) ∧
      (f.reverse F).1.slots[j]? = some (.txt (F.save r))) ∧
    (2 * j + 1 = f.slots.length → (f.reverse F).1.slots[j]? = f.slots[j]?) := by
  obtain ⟨f', e, hm⟩ := reverse_mid F f rs hrs
  have hs := hm.slot_half hj
  rw [e]
  constructor
  · intro hmid
    have hlt : f.slots.length - 1 - j < rs.length := by
      rw [records_len F hrs]
      exact Nat.lt_of_le_of_lt (Nat.sub_le _ j) (Nat.sub_one_lt (Nat.ne_zero_of_lt hj))
    rw [if_neg hmid, List.getElem?_eq_getElem hlt] at hs
    exact ⟨rs[f.slots.length - 1 - j], by rw [hrs, List.getElem?_map, List.getElem?_eq_getElem hlt]; rfl, hs⟩
  · intro hmid
    rwa [if_pos hmid] at hs

theorem records_reverse (f : RecFile) (rs : List R) (hrs : f.records F = rs.map some)
    (hrt : ∀ r ∈ rs, F.load (F.save r) = some r) :
    ∃ f', f.reverse F = (f', none) ∧ f'.records F = (f.records F).reverse ∧ f'.source = f.source := by
  obtain ⟨f', e, hm⟩ := reverse_mid F f rs hrs
  refine ⟨f', e, ?_, hm.source⟩
  have hn := records_len F hrs
  rw [hrs, ← List.map_reverse]
  apply List.ext_getElem?
  intro j
  by_cases hj : j < f.slots.length
  · rw [List.getElem?_map, List.getElem?_reverse (hn ▸ hj), hn]
    simp only [RecFile.records, List.getElem?_map, hm.slot_half hj]
    split
    · -- the middle position, its own mirror image, still holds the text it held
      rename_i hmid
      obtain ⟨r, hr, hl⟩ := records_get F hrs (List.getElem?_eq_getElem hj)
      rw [show f.slots.length - 1 - j = j by rw [← hmid, Nat.add_sub_cancel, Nat.two_mul, Nat.add_sub_cancel], hr,
        List.getElem?_eq_getElem hj]
      simp only [Option.map_some, raw_congr hm.source, hl]
    · cases hr : rs[f.slots.length - 1 - j]? with
      | none => rfl
      | some r => exact congrArg some (hrt r (List.mem_of_getElem? hr))
  · rw [List.getElem?_eq_none (by rw [records_length, hm.len]; exact Nat.le_of_not_lt hj),
      List.getElem?_eq_none (by rw [List.length_map, List.length_reverse, hn]; exact Nat.le_of_not_lt hj)]

end reverse

section inv
variable {R : Type} (F : Fmt R) (P : R → Prop)

def SlotOk (source : List Str) : Slot → Prop
  | .src i => i < source.length
  | .txt t => ∃ r, P r ∧ t = F.save r

structure Inv (f : RecFile) : Prop where
  src_nl : ∀ l ∈ f.source, '\n' ∉ l
  slots_ok : ∀ s ∈ f.slots, SlotOk F P f.source s

/-- every source line is a record of the domain (needed as soon as `reverse` re-serialises source lines) -/
def Loads (source : List Str) : Prop := ∀ l ∈ source, ∃ r, F.load l = some r ∧ P r

theorem inv_open (source : List Str) (h : ∀ l ∈ source, '\n' ∉ l) : Inv F P (RecFile.open source) := by
  refine ⟨h, fun s hs => ?_⟩
  simp only [RecFile.open, List.mem_map, List.mem_range] at hs
  obtain ⟨i, hi, rfl⟩ := hs
  exact hi

theorem inv_ofContent (content : Str) : Inv F P (RecFile.ofContent content) :=
  inv_open F P _ (readLines_nonl content)

variable {F P}

theorem Inv.frame {f g : RecFile} (hf : Inv F P f) (hsrc : g.source = f.source)
    (h : ∀ s ∈ g.slots, s ∈ f.slots ∨ ∃ r, P r ∧ s = .txt (F.save r)) : Inv F P g ∧ g.source = f.source := by
  refine ⟨⟨hsrc ▸ hf.src_nl, fun s hs => ?_⟩, hsrc⟩
  rcases h s hs with h | ⟨r, hr, rfl⟩
  · exact hsrc ▸ hf.slots_ok s h
  · exact ⟨r, hr, rfl⟩

theorem Inv.raw {f : RecFile} (hf : Inv F P f) {s : Slot} (hs : s ∈ f.slots) :
    f.raw s ∈ f.source ∨ ∃ r, P r ∧ f.raw s = F.save r := by
  have h := hf.slots_ok s hs
  cases s with
  | src i => exact .inl (raw_src f h ▸ List.getElem_mem h)
  | txt t => exact .inr h

variable (F P)

theorem all_some (l : List (Option R)) (h : ∀ x ∈ l, ∃ r, x = some r ∧ P r) :
    ∃ rs : List R, l = rs.map some ∧ ∀ r ∈ rs, P r := by
  induction l with
  | nil => exact ⟨[], rfl, nofun⟩
  | cons x t ih =>
    obtain ⟨r, rfl, hr⟩ := h x (.head _)
    obtain ⟨rs, rfl, hrs⟩ := ih fun y hy => h y (.tail _ hy)
    exact ⟨r :: rs, rfl, List.forall_mem_cons.mpr ⟨hr, hrs⟩⟩

theorem records_all (hmem : F.OkMem P) {f : RecFile} (hf : Inv F P f) (hl : Loads F P f.source) :
    ∃ rs : List R, f.records F = rs.map some ∧ ∀ r ∈ rs, P r := by
  refine all_some P _ (List.forall_mem_map.mpr fun s hs => ?_)
  rcases hf.raw hs with h | ⟨r, hr, e⟩
  · exact hl _ h
  · exact ⟨r, e ▸ hmem r hr, hr⟩

theorem inv_step (hmem : F.OkMem P) {f : RecFile} (hf : Inv F P f) (op : Op R) (hop : ∀ r ∈ op.recs, P r)
    (hl : op = .reverse → Loads F P f.source) : Inv F P (f.step F op) ∧ (f.step F op).source = f.source := by
  cases op with
  | set i r =>
    simp only [RecFile.step, RecFile.setRec]
    cases Py.index f.slots.length i with
    | none => exact ⟨hf, rfl⟩
    | some p =>
      exact hf.frame rfl fun s hs => (List.mem_or_eq_of_mem_set hs).imp_right fun e => ⟨r, hop r (.head _), e⟩
  | insert _ r | append r =>
    exact hf.frame rfl fun s hs => (mem_insertAt hs).imp_right fun e => ⟨r, hop r (.head _), e⟩
  | del i =>
    simp only [RecFile.step, RecFile.delRec]
    cases Py.index f.slots.length i with
    | none => exact ⟨hf, rfl⟩
    | some p => exact hf.frame rfl fun s hs => .inl (List.mem_of_mem_eraseIdx hs)
  | pop i =>
    simp only [RecFile.step, RecFile.popRec, RecFile.delRec]
    cases f.getRec F i with
    | error e => exact ⟨hf, rfl⟩
    | ok v =>
      cases Py.index f.slots.length i with
      | none => exact ⟨hf, rfl⟩
      | some p => exact hf.frame rfl fun s hs => .inl (List.mem_of_mem_eraseIdx hs)
  | reverse =>
    -- every position loads, so `reverse` runs to its end, and `Mid` says what the positions hold then
    obtain ⟨rs, hrs, hP⟩ := records_all F P hmem hf (hl rfl)
    obtain ⟨f', e, hm⟩ := reverse_mid F f rs hrs
    rw [RecFile.step, e]
    exact hf.frame hm.source fun s hs => (hm.mem hs).imp_right fun ⟨r, hr, e⟩ => ⟨r, hP r hr, e⟩

theorem records_step (f : RecFile) (rs : List R) (hrs : f.records F = rs.map some) (op : Op R)
    (hop : ∀ r ∈ op.recs, F.load (F.save r) = some r) (hrev : op = .reverse → ∀ r ∈ rs, F.load (F.save r) = some r) :
    (f.step F op).records F = op.onList (f.records F) := by
  cases op with
  | set i r =>
    simp only [RecFile.step, RecFile.setRec, Op.onList, records_length]
    cases Py.index f.slots.length i with
    | none => rfl
    | some p => simp only [RecFile.records, List.map_set, RecFile.raw, hop r (.head _)]
  | insert i r => simp only [RecFile.step, Op.onList, (records_insertRec F f i r).1, hop r (.head _)]
  | append r => simp only [RecFile.step, Op.onList, (records_appendRec F f r).1, hop r (.head _)]
  | del i =>
    simp only [RecFile.step, RecFile.delRec, Op.onList, records_length]
    cases Py.index f.slots.length i with
    | none => rfl
    | some p => exact map_eraseIdx _ _ p
  | pop i =>
    simp only [RecFile.step, RecFile.popRec, RecFile.delRec, Op.onList, getRec_spec, records_length]
    cases hi : Py.index f.slots.length i with
    | none => rfl
    | some p =>
      -- the position loads, so it is removed
      have hp : p < rs.length := records_len F hrs ▸ index_lt hi
      have hx : (f.records F)[p]? = some (some rs[p]) := by
        rw [hrs, List.getElem?_map, List.getElem?_eq_getElem hp]; rfl
      simp only [hx]
      exact map_eraseIdx _ _ p
  | reverse =>
    obtain ⟨f', e1, e2, -⟩ := records_reverse F f rs hrs (hrev rfl)
    simp only [RecFile.step, Op.onList, e1, e2]

/-- LIST SEMANTICS (the C12 statement for the record variant): the presented record list after an operation is the Python
list operation applied to the presented list before -/
theorem records_list_semantics (hmem : F.OkMem P) (f : RecFile) (hf : Inv F P f) (hl : Loads F P f.source)
    (op : Op R) (hop : ∀ r ∈ op.recs, P r) : (f.step F op).records F = op.onList (f.records F) := by
  obtain ⟨rs, hrs, hP⟩ := records_all F P hmem hf hl
  exact records_step F f rs hrs op (fun r hr => hmem r (hop r hr)) fun _ r hr => hmem r (hP r hr)

/-! a history is a fold of steps: stated once for any set of operations `O` with its step function (`rev`: the operation
that needs the source lines to load) -/

section history
variable {O : Type} {st : RecFile → O → RecFile} {recs : O → List R} {rev : O}
  (hst : ∀ {f : RecFile}, Inv F P f → ∀ op, (∀ r ∈ recs op, P r) → (op = rev → Loads F P f.source) →
    Inv F P (st f op) ∧ (st f op).source = f.source)
include hst

theorem inv_foldl : ∀ (ops : List O) (f : RecFile), Inv F P f → (∀ op ∈ ops, ∀ r ∈ recs op, P r) →
    (rev ∈ ops → Loads F P f.source) → Inv F P (ops.foldl st f) ∧ (ops.foldl st f).source = f.source := by
  intro ops
  induction ops with
  | nil => intro f hf _ _; exact ⟨hf, rfl⟩
  | cons op rest ih =>
    intro f hf hops hl
    obtain ⟨h1, s1⟩ := hst hf op (hops op (.head _)) fun e => hl (e ▸ .head _)
    obtain ⟨h2, s2⟩ := ih (st f op) h1 (fun o ho => hops o (.tail _ ho)) fun hr => s1 ▸ hl (.tail _ hr)
    exact ⟨h2, s2.trans s1⟩

theorem records_foldl {onL : O → List (Option R) → List (Option R)}
    (hrec : ∀ f, Inv F P f → Loads F P f.source → ∀ op, (∀ r ∈ recs op, P r) →
      (st f op).records F = onL op (f.records F)) :
    ∀ (ops : List O) (f : RecFile), Inv F P f → Loads F P f.source → (∀ op ∈ ops, ∀ r ∈ recs op, P r) →
      (ops.foldl st f).records F = ops.foldl (fun l op => onL op l) (f.records F) := by
  intro ops
  induction ops with
  | nil => intro f _ _ _; rfl
  | cons op rest ih =>
    intro f hf hl hops
    obtain ⟨h1, s1⟩ := hst hf op (hops op (.head _)) fun _ => hl
    rw [List.foldl_cons, List.foldl_cons, ← hrec f hf hl op (hops op (.head _))]
    exact ih (st f op) h1 (s1 ▸ hl) fun o ho => hops o (.tail _ ho)

end history

theorem inv_run (hmem : F.OkMem P) : ∀ (ops : List (Op R)) (f : RecFile), Inv F P f →
    (∀ op ∈ ops, ∀ r ∈ op.recs, P r) → (Op.reverse ∈ ops → Loads F P f.source) →
    Inv F P (f.run F ops) ∧ (f.run F ops).source = f.source :=
  inv_foldl F P (inv_step F P hmem)

theorem records_run (hmem : F.OkMem P) : ∀ (ops : List (Op R)) (f : RecFile), Inv F P f → Loads F P f.source →
    (∀ op ∈ ops, ∀ r ∈ op.recs, P r) →
    (f.run F ops).records F = ops.foldl (fun l op => op.onList l) (f.records F) :=
  records_foldl F P (inv_step F P hmem) (records_list_semantics F P hmem)

theorem reopen_of_inv (hok : F.Ok P) (hmem : F.OkMem P) (h1 : F.OneLine P) (f : RecFile) (hf : Inv F P f) :
    (RecFile.ofContent (f.saveText ['\n'])).records F = f.records F := by
  -- what `save` writes for a position is one line, and loads as the position does
  have hline : ∀ s ∈ f.slots, '\n' ∉ strip (f.raw s) ∧ F.load (strip (f.raw s)) = F.load (f.raw s) := by
    intro s hs
    rcases hf.raw hs with h | ⟨r, hr, e⟩
    · have hn := hf.src_nl _ h
      rw [strip_nonl hn]; exact ⟨hn, rfl⟩
    · rw [e]; exact ⟨h1 r hr, (hok r hr).trans (hmem r hr).symm⟩
  have hsave : f.saveText ['\n'] =
      ((f.slots.map fun s => strip (f.raw s)).map fun l => rstripNL l ++ ['\n']).flatten := by
    rw [RecFile.saveText, RecFile.saveLines, List.map_map]
    congr 1
    exact List.map_congr_left fun s hs => by rw [Function.comp, WindVerif.LineFile.rstripNL_nonl (hline s hs).1]
  rw [RecFile.ofContent, readLines_eq, hsave,
    WindVerif.LineFile.reopen_roundtrip _ (List.forall_mem_map.mpr fun s hs => (hline s hs).1), records_open, List.map_map]
  exact List.map_congr_left fun s hs => (hline s hs).2

/-- EDIT, SAVE, REOPEN (C13): after any sequence of `set` / `insert` / `append` / `del` / `pop` / `reverse` with records of
the domain, opening the file that `save(out, "\n")` wrote presents exactly the records the edited file presents.  If
`reverse` occurs every source line must load into the domain, because `reverse` re-serialises what it loads. -/
theorem reopen_roundtrip (hok : F.Ok P) (hmem : F.OkMem P) (h1 : F.OneLine P) (source : List Str)
    (hsrc : ∀ l ∈ source, '\n' ∉ l) (ops : List (Op R)) (hops : ∀ op ∈ ops, ∀ r ∈ op.recs, P r)
    (hl : Op.reverse ∈ ops → Loads F P source) :
    (RecFile.ofContent (((RecFile.open source).run F ops).saveText ['\n'])).records F =
      ((RecFile.open source).run F ops).records F :=
  reopen_of_inv F P hok hmem h1 _ (inv_run F P hmem ops _ (inv_open F P source hsrc) hops hl).1

end inv

section csv
open WindVerif.Records (IsDelim Clean writeRow parseRow)

def csvP (k : Nat) (r : List Str) : Prop := r.length = k ∧ ∀ fld ∈ r, Clean fld

/-- through a saved line: `save` strips the `"\n"` of `"\r\n"`, the reader copes with the trailing `"\r"`
(`csv_roundtrip_cr`) -/
theorem csvFmt_ok (d : Char) (hd : IsDelim d) (k : Nat) : (csvFmt d k).Ok (csvP k) := by
  intro r ⟨hk, hc⟩
  have h1 := (WindVerif.Records.rstripNL_writeRow d hd r hc).1
  have h2 := WindVerif.Records.csv_roundtrip_cr d hd r hc
  simp only [csvFmt, strip, h1, h2, hk, Nat.le_refl, if_true]
  rw [← hk, List.take_length]

theorem csvFmt_okMem (d : Char) (hd : IsDelim d) (k : Nat) : (csvFmt d k).OkMem (csvP k) := by
  intro r ⟨hk, hc⟩
  have h2 := WindVerif.Records.csv_roundtrip d hd r hc
  simp only [csvFmt, h2, hk, Nat.le_refl, if_true]
  rw [← hk, List.take_length]

theorem csvFmt_oneLine (d : Char) (hd : IsDelim d) (k : Nat) : (csvFmt d k).OneLine (csvP k) := by
  intro r ⟨_, hc⟩
  have h := WindVerif.Records.rstripNL_writeRow d hd r hc
  simp only [csvFmt, strip, h.1]
  exact h.2

/-- a mutable csv / tsv record file (`k` string fields): edit with records whose fields carry no line breaks, save,
reopen — the same records -/
theorem csv_recfile_reopen (d : Char) (hd : IsDelim d) (k : Nat) (content : Str) (ops : List (Op (List Str)))
    (hops : ∀ op ∈ ops, ∀ r ∈ op.recs, csvP k r)
    (hl : Op.reverse ∈ ops → Loads (csvFmt d k) (csvP k) (readLines content)) :
    (RecFile.ofContent (((RecFile.ofContent content).run (csvFmt d k) ops).saveText ['\n'])).records (csvFmt d k) =
      ((RecFile.ofContent content).run (csvFmt d k) ops).records (csvFmt d k) :=
  reopen_roundtrip (csvFmt d k) (csvP k) (csvFmt_ok d hd k) (csvFmt_okMem d hd k) (csvFmt_oneLine d hd k) _
    (readLines_nonl content) ops hops hl

end csv

section json
open WindVerif.Records (jsonRecordLoad jsonRecordSave)

def jsonFmt (names : List Str) : Fmt (List (Str × WindVerif.Json.JVal)) where
  load := jsonRecordLoad names
  save := jsonRecordSave

def jsonP (names : List Str) (r : List (Str × WindVerif.Json.JVal)) : Prop :=
  r.map (·.1) = names ∧ ∀ kv ∈ r, WindVerif.Json.WF kv.2

/-- the saved text carries no line break at all, so the stripped text is the text -/
theorem jsonFmt_roundtrip (names : List Str) (hn : names.Nodup) :
    (jsonFmt names).Ok (jsonP names) ∧ (jsonFmt names).OkMem (jsonP names) ∧ (jsonFmt names).OneLine (jsonP names) := by
  have h := fun r (hr : jsonP names r) => WindVerif.Records.json_record_roundtrip names hn r hr.1 hr.2
  have hs : ∀ r, jsonP names r → strip (jsonRecordSave r) = jsonRecordSave r := fun r hr => strip_nonl (h r hr).2.1
  exact ⟨fun r hr => (congrArg _ (hs r hr)).trans (h r hr).1, fun r hr => (h r hr).1,
    fun r hr => (hs r hr).symm ▸ (h r hr).2.1⟩

theorem json_recfile_reopen (names : List Str) (hn : names.Nodup) (content : Str)
    (ops : List (Op (List (Str × WindVerif.Json.JVal)))) (hops : ∀ op ∈ ops, ∀ r ∈ op.recs, jsonP names r)
    (hl : Op.reverse ∈ ops → Loads (jsonFmt names) (jsonP names) (readLines content)) :
    (RecFile.ofContent (((RecFile.ofContent content).run (jsonFmt names) ops).saveText ['\n'])).records (jsonFmt names) =
      ((RecFile.ofContent content).run (jsonFmt names) ops).records (jsonFmt names) :=
  have ⟨hok, hmem, h1⟩ := jsonFmt_roundtrip names hn
  reopen_roundtrip (jsonFmt names) (jsonP names) hok hmem h1 _ (readLines_nonl content) ops hops hl

end json

end WindVerif.RecFile
