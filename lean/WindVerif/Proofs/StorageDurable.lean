import WindVerif.Proofs.StorageData
/-! Consequences of the control and data layers of the invariant of the storage model: published entries are durable and
stable; running a schedule. -/
namespace WindVerif.Storage

/-- `entryLine` (`Spec/Storage.lean`, in which the theorems are stated) under the name the layers use; the two unfold to the
same term -/
def entryLine' (s : St) (g : Nat) : Option (List (Option Nat)) :=
  match s.index[g]? with
  | some (some (w, off)) => some (readlineAt ((fileOf s w).getD []) off)
  | _ => none

theorem entryLine'_some {s : St} {g : Nat} {l : List (Option Nat)} (h : entryLine' s g = some l) :
    ∃ w off, s.index[g]? = some (some (w, off)) ∧ l = readlineAt ((fileOf s w).getD []) off := by
  unfold entryLine' at h
  split at h
  · rename_i w off hi
    exact ⟨w, off, hi, by simpa using h.symm⟩
  · cases h

theorem entryLine'_of_entry {s : St} {g w off : Nat} (h : s.index[g]? = some (some (w, off))) :
    entryLine' s g = some (readlineAt ((fileOf s w).getD []) off) := by
  unfold entryLine'; rw [h]

theorem entryLine'_none {s : St} {g : Nat} (h : ∀ w off, s.index[g]? ≠ some (some (w, off))) : entryLine' s g = none := by
  unfold entryLine'
  split
  · rename_i w off hi; exact absurd hi (h w off)
  · rfl

theorem InvB.entry_line {s : St} (hB : InvB s) {g w off : Nat} (h : s.index[g]? = some (some (w, off))) :
    ∃ c t, fileOf s w = some c ∧ c[off]? = some (some t) ∧ c[off + 1]? = some none ∧
      entryLine' s g = some [some t, none] := by
  obtain ⟨c, t, h1, h2, h3⟩ := hB.ent g w off h
  refine ⟨c, t, h1, h2, h3, ?_⟩
  rw [entryLine'_of_entry h, h1]
  simp only [Option.getD_some]
  exact congrArg some (readlineAt_complete c off t h2 h3)

theorem InvB.durable {s : St} (hB : InvB s) {g : Nat} {l : List (Option Nat)} (h : entryLine' s g = some l) :
    ∃ t, l = [some t, none] := by
  obtain ⟨w, off, hi, _⟩ := entryLine'_some h
  obtain ⟨c, t, _, _, _, h4⟩ := hB.entry_line hi
  rw [h] at h4
  exact ⟨t, by simpa using h4⟩

theorem InvB.stable {s s' : St} (hB : InvB s) (hB' : InvB s') (hS : StepB s s') {g : Nat} {l : List (Option Nat)}
    (h : entryLine' s g = some l) : entryLine' s' g = some l ∧ s'.index[g]? = s.index[g]? := by
  obtain ⟨w, off, hi, _⟩ := entryLine'_some h
  obtain ⟨c, t, h1, h2, h3, h4⟩ := hB.entry_line hi
  have hi' := hS.idxMono g (w, off) hi
  obtain ⟨c', t', h1', h2', h3', h4'⟩ := hB'.entry_line hi'
  obtain ⟨d, hd⟩ := hS.fileMono w c h1
  rw [hd] at h1'
  cases h1'
  rw [getElem?_append_of_some h2] at h2'
  cases h2'
  rw [h] at h4
  rw [h4', h4, hi', hi]
  exact ⟨rfl, rfl⟩

theorem StepB.refl (s : St) : StepB s s := ⟨fun _ _ h => h, fun _ c h => ⟨[], by rw [h, List.append_nil]⟩⟩

theorem StepB.trans {a b c : St} (h1 : StepB a b) (h2 : StepB b c) : StepB a c := by
  refine ⟨fun g e h => h2.idxMono g e (h1.idxMono g e h), fun w x h => ?_⟩
  obtain ⟨d1, e1⟩ := h1.fileMono w x h
  obtain ⟨d2, e2⟩ := h2.fileMono w _ e1
  exact ⟨d1 ++ d2, by rw [e2, List.append_assoc]⟩

theorem run_preserves (P : St → Prop) (hstep : ∀ s i s', P s → step s i = some s' → P s') {s s' : St}
    {sched : List Nat} (h0 : P s) (hr : run s sched = some s') : P s' := by
  induction sched generalizing s with
  | nil => simp only [run, Option.some.injEq] at hr; exact hr ▸ h0
  | cons i r ih =>
    simp only [run] at hr
    split at hr
    · cases hr
    · rename_i s'' hs; exact ih (hstep _ _ _ h0 hs) hr

theorem run_AB {scripts : List (List Op)} {s s' : St} (hA : InvA scripts s) (hB : InvB s) {sched : List Nat}
    (hs : run s sched = some s') : InvB s' ∧ StepB s s' := by
  have := run_preserves (fun t => InvA scripts t ∧ InvB t ∧ StepB s t)
    (fun _ _ _ h hs => ⟨h.1.step hs, h.2.1.step h.1 hs, h.2.2.trans (StepB.of_step h.1 h.2.1 hs)⟩) ⟨hA, hB, .refl s⟩ hs
  exact this.2

end WindVerif.Storage
