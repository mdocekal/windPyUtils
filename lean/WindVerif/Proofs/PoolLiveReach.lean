import WindVerif.Proofs.PoolLiveConsumer
import WindVerif.Proofs.PoolLiveProgress
/-! Liveness of the pool model (C02): the liveness invariant holds in the initial state and is kept by every step. -/
namespace WindVerif.Pool

theorem LiveInv_init (cfg : Cfg) (hw : WellCfg cfg) : LiveInv (init cfg) := by
  have hn : cfg.nWorkers ≠ 0 := by have := hw.1; omega
  have hcpc : (init cfg).cpc = .enterStart 0 := by unfold init; simp [hn]
  have hwk : ∀ w ∈ (init cfg).workers, ∃ k, k < cfg.nWorkers ∧ w = mkWorker cfg k := by
    intro w hw
    obtain ⟨k, hk, rfl⟩ := List.mem_map.1 hw
    exact ⟨k, List.mem_range.1 hk, rfl⟩
  have hlive : liveCnt (init cfg) = cfg.nWorkers := by
    unfold liveCnt
    have : ∀ w ∈ (init cfg).workers, (!gone w.pc) = true := by
      intro w hm; obtain ⟨k, _, rfl⟩ := hwk w hm; rfl
    rw [List.countP_eq_length.2 this]
    simp [init]
  have hpend : pending (init cfg) = [] := rfl
  have hprocs : (init cfg).procs = List.range cfg.nWorkers := rfl
  refine ⟨?_, ?_, ?_, ?_, ?_⟩
  · constructor
    · intro t ht; cases ht
    · rw [hcpc]; intro hh; cases hh
    · intro w hm hin; obtain ⟨k, _, rfl⟩ := hwk w hm; cases hin
    · intro w hm hp; obtain ⟨k, _, rfl⟩ := hwk w hm; simp [mkWorker] at hp
  · constructor
    · intro k hk
      rw [hprocs] at hk
      exact ⟨mkWorker cfg k, List.mem_map.2 ⟨k, hk, rfl⟩, rfl⟩
    · rw [hprocs]; simp [init]
    · rw [hcpc, hprocs]; simp [idxV]; omega
    · intro nw hh; cases hh
    · intro w hm _; obtain ⟨k, _, rfl⟩ := hwk w hm; exact Or.inl rfl
    · intro w hm hp; obtain ⟨k, _, rfl⟩ := hwk w hm; cases hp
  · constructor
    · rw [hcpc]; intro _ hh; cases hh
    · intro hh; cases hh
    · rw [hcpc]; rfl
    · intro w hm hp; obtain ⟨k, _, rfl⟩ := hwk w hm; cases hp
    · intro _ hh; cases hh
    · rw [hcpc]; intro hh; rcases hh with hh | hh | hh <;> cases hh
  · constructor
    · rw [hcpc]; intro hh; cases hh
    · rw [hcpc]; intro hh; cases hh
    · intro hh; cases hh
    · rw [hcpc]; intro hh; cases hh
    · intro hh; cases hh
    · rw [hcpc]; intro hh; cases hh
    · rw [hcpc]; intro hh; cases hh
  · have hss : stopsSent (init cfg) = 0 := by unfold stopsSent; rw [hcpc]; rfl
    have hnq : noneCount (init cfg).workQ = 0 := rfl
    have hpl : (init cfg).procs.length = cfg.nWorkers := by rw [hprocs]; simp
    constructor
    · rw [hlive, hpend, hpl]; simp
    · rw [hcpc]; intro hh; cases hh
    · rw [hcpc]; intro hh; cases hh
    · intro _; rw [hlive, hss, hnq, hpl]; omega

theorem LiveInv_step {s s' : St} {t : Tid} (hf : NoFaults s.cfg) (hw : WellCfg s.cfg) (hS : SafeInv s) (hL : LInv s)
    (hV : LiveInv s) (hM : MidI s) (h : step s t = some s') : LiveInv s' := by
  cases t with
  | c => exact LiveInv_stepC hS hL hV hM hw h
  | f => exact LiveInv_stepF hS hV h
  | r => exact LiveInv_stepR hL hV h
  | w wid => exact LiveInv_stepW hf hw hL hV h

end WindVerif.Pool
