import WindVerif.Proofs.PoolContinuations
/-!
The step functions of the four kinds of thread taken apart once: `stepX s = some s'` holds exactly along one of the leaves of
`stepX`, and each leaf is a constructor that carries the guards passed on the way and has the new state as its index.  The
invariant proofs do `cases` on these instead of unfolding the step functions.
-/
namespace WindVerif.Pool

theorem getWorker_some {s : St} {wid : Nat} {w : Worker} (h : getWorker s wid = some w) : w ∈ s.workers ∧ w.wid = wid := by
  unfold getWorker at h
  exact ⟨List.mem_of_find?_eq_some h, by simpa using List.find?_some h⟩

/-- what `setWorker` does to the list of workers -/
def upd (k : Nat) (w' : Worker) (l : List Worker) : List Worker := l.map (fun x => if x.wid = k then w' else x)

theorem setWorker_workers (s : St) (w : Worker) : (setWorker s w).workers = upd w.wid w s.workers := rfl

theorem mem_upd {k : Nat} {w' x' : Worker} {l : List Worker} :
    x' ∈ upd k w' l ↔ (x' = w' ∧ ∃ x ∈ l, x.wid = k) ∨ (x' ∈ l ∧ x'.wid ≠ k) := by
  unfold upd
  simp only [List.mem_map]
  constructor
  · rintro ⟨x, hx, rfl⟩
    by_cases h : x.wid = k
    · rw [if_pos h]; exact Or.inl ⟨rfl, x, hx, h⟩
    · rw [if_neg h]; exact Or.inr ⟨hx, h⟩
  · rintro (⟨rfl, x, hx, h⟩ | ⟨hx, h⟩)
    · exact ⟨x, hx, by simp [h]⟩
    · exact ⟨x', hx, by simp [h]⟩

theorem upd_wids {k : Nat} {w' : Worker} (l : List Worker) (h : w'.wid = k) : (upd k w' l).map (·.wid) = l.map (·.wid) := by
  unfold upd
  rw [List.map_map]
  apply List.map_congr_left
  intro x _
  by_cases hx : x.wid = k <;> simp [hx, h]

inductive FCase (s : St) : St → Prop
  | put (hf : s.fpc = .put) (hcap : capFull s.cfg.workCap s.workQ = false) :
      FCase s { s with workQ := s.workQ ++ [some s.fNext], fpc := .rdCnt }
  | rdCnt (hf : s.fpc = .rdCnt) : FCase s { s with fRead := s.dataCnt, fpc := .wrCnt }
  | wrCnt (hf : s.fpc = .wrCnt) : FCase s { s with dataCnt := s.fRead + 1, fpc := .stopIsSet }
  | stopped (hf : s.fpc = .stopIsSet) (hst : s.fStop = true) : FCase s { s with fpc := .wrSending }
  | notStopped (hf : s.fpc = .stopIsSet) (hst : s.fStop = false) : FCase s { s with fpc := .runWait }
  | next (hf : s.fpc = .runWait) (hrun : s.fRun = true) (hlt : s.fNext + 1 < s.fTotal) :
      FCase s { s with fNext := s.fNext + 1, fpc := .put }
  | last (hf : s.fpc = .runWait) (hrun : s.fRun = true) (hlt : ¬ s.fNext + 1 < s.fTotal) :
      FCase s { s with fNext := s.fNext + 1, fpc := .wrSending }
  | wrSending (hf : s.fpc = .wrSending) : FCase s { s with sending := false, fpc := .token }
  | tokenFull (hf : s.fpc = .token) (hcap : capFull s.cfg.resCap s.resQ = true) :
      FCase s { s with fpc := .idle, fAlive := false }
  | token (hf : s.fpc = .token) (hcap : capFull s.cfg.resCap s.resQ = false) :
      FCase s { s with resQ := s.resQ ++ [none], fpc := .idle, fAlive := false }

theorem stepF_cases {s s' : St} (h : stepF s = some s') : s.fAlive = true ∧ FCase s s' := by
  unfold stepF at h
  split at h
  · cases h
  next hal =>
  refine ⟨by simpa using hal, ?_⟩
  split at h
  · cases h
  next hf =>
    split at h
    · cases h
    next hcap => cases h; exact .put hf (by simpa using hcap)
  next hf => cases h; exact .rdCnt hf
  next hf => cases h; exact .wrCnt hf
  next hf =>
    split at h
    next hst => cases h; exact .stopped hf hst
    next hst => cases h; exact .notStopped hf (by simpa using hst)
  next hf =>
    split at h
    next hrun =>
      split at h
      next hlt => cases h; exact .next hf hrun hlt
      next hlt => cases h; exact .last hf hrun hlt
    · cases h
  next hf => cases h; exact .wrSending hf
  next hf =>
    cases h
    split
    next hcap => exact .tokenFull hf hcap
    next hcap => exact .token hf (by simpa using hcap)

theorem FCase.fpc_ne_idle {s s' : St} (h : FCase s s') : s.fpc ≠ .idle := by
  intro q
  cases h with
  | put hf | rdCnt hf | wrCnt hf | stopped hf | notStopped hf | next hf | last hf | wrSending hf | tokenFull hf | token hf =>
    rw [q] at hf; cases hf

inductive CCase (s : St) : St → Prop
  | enterNext {i wid w} (hpc : s.cpc = .enterStart i) (hp : s.procs[i]? = some wid) (hg : getWorker s wid = some w)
      (hlt : i + 1 < s.procs.length) : CCase s { setWorker s { w with pc := .bfClear } with cpc := .enterStart (i + 1) }
  | enterLast {i wid w} (hpc : s.cpc = .enterStart i) (hp : s.procs[i]? = some wid) (hg : getWorker s wid = some w)
      (hlt : ¬ i + 1 < s.procs.length) : CCase s (afterEnter (setWorker s { w with pc := .bfClear }))
  | readyNext {i wid w} (hpc : s.cpc = .readyWait i) (hp : s.procs[i]? = some wid) (hg : getWorker s wid = some w)
      (hbf : w.bf = true) (hlt : i + 1 < s.procs.length) : CCase s { s with cpc := .readyWait (i + 1) }
  | readyLast {i wid w} (hpc : s.cpc = .readyWait i) (hp : s.procs[i]? = some wid) (hg : getWorker s wid = some w)
      (hbf : w.bf = true) (hlt : ¬ i + 1 < s.procs.length) : CCase s (toNextCall { s with cpc := .nextCall })
  | nextCall (hpc : s.cpc = .nextCall) : CCase s (toNextCall s)
  | rInitSet (hpc : s.cpc = .rInitSet) : CCase s { s with rRun := true, rStop := false, cpc := .rStart }
  | rStart (hpc : s.cpc = .rStart) : CCase s { s with rAlive := true, rpc := .get, cpc := .fInitSet }
  | fInitSet (hpc : s.cpc = .fInitSet) : CCase s { s with fRun := true, fStop := false, cpc := .wrSending }
  | wrSending (hpc : s.cpc = .wrSending) : CCase s { s with sending := true, cpc := .wrDataCnt }
  | wrDataCnt (hpc : s.cpc = .wrDataCnt) : CCase s { s with dataCnt := 0, cpc := .fStart }
  | fStart {call} (hpc : s.cpc = .fStart) (hcur : s.cur = some call) :
      CCase s { s with fAlive := true, fNext := 0, fTotal := call.chunks,
                       fpc := if call.chunks = 0 then .wrSending else .put, cpc := .rdSending }
  | sendingUp (hpc : s.cpc = .rdSending) (hsend : s.sending = true) : CCase s { s with cpc := .qsize1 }
  | sendingDown (hpc : s.cpc = .rdSending) (hsend : ¬ s.sending = true) : CCase s { s with cpc := .rdDataCnt }
  | cntMore (hpc : s.cpc = .rdDataCnt) (hlt : s.finished < s.dataCnt) : CCase s { s with cpc := .qsize1 }
  | cntAll (hpc : s.cpc = .rdDataCnt) (hlt : ¬ s.finished < s.dataCnt) : CCase s { s with cpc := .fStopSet }
  | qsize1Pos (hpc : s.cpc = .qsize1) (hq : s.resQ.length > 0) :
      CCase s { s with cpc := .lockAcq, batch := [], woken := false }
  | qsize1Zero (hpc : s.cpc = .qsize1) (hq : ¬ s.resQ.length > 0) : CCase s { s with cpc := .getBlock }
  | lockAcq (hpc : s.cpc = .lockAcq) (hl : s.lock.isNone = true) : CCase s { s with lock := some .c, cpc := .qsize2 }
  | qsize2Pos (hpc : s.cpc = .qsize2) (hq : s.resQ.length > 0) : CCase s { s with cpc := .getNowait }
  | qsize2Zero (hpc : s.cpc = .qsize2) (hq : ¬ s.resQ.length > 0) : CCase s { s with cpc := .lockRel }
  | getNowaitEmpty (hpc : s.cpc = .getNowait) (hq : s.resQ = []) : CCase s { s with cpc := .lockRel }
  | getNowaitToken {r} (hpc : s.cpc = .getNowait) (hq : s.resQ = none :: r) :
      CCase s { s with resQ := r, woken := true, cpc := .qsize2 }
  | getNowaitChunk {i r} (hpc : s.cpc = .getNowait) (hq : s.resQ = some i :: r) :
      CCase s { s with resQ := r, batch := s.batch ++ [i], cpc := .qsize2 }
  | lockRelResults (hpc : s.cpc = .lockRel) (hb : s.batch.length > 0 ∨ s.woken = true) :
      CCase s (afterResults { s with lock := none })
  | lockRelNothing (hpc : s.cpc = .lockRel) (hb : ¬ (s.batch.length > 0 ∨ s.woken = true)) :
      CCase s { s with lock := none, cpc := .getBlock }
  | getBlockToken {r} (hpc : s.cpc = .getBlock) (hq : s.resQ = none :: r) :
      CCase s (afterResults { s with resQ := r, batch := [] })
  | getBlockChunk {i r} (hpc : s.cpc = .getBlock) (hq : s.resQ = some i :: r) :
      CCase s (afterResults { s with resQ := r, batch := [i] })
  | flowClear (hpc : s.cpc = .flowClear) : CCase s { s with fRun := false, cpc := .rdSending }
  | flowIsSetYes (hpc : s.cpc = .flowIsSet) (hrun : s.fRun = true) : CCase s { s with cpc := .rdSending }
  | flowIsSetNo (hpc : s.cpc = .flowIsSet) (hrun : ¬ s.fRun = true) : CCase s { s with cpc := .flowSet }
  | flowSet (hpc : s.cpc = .flowSet) : CCase s { s with fRun := true, cpc := .rdSending }
  | fStopSet (hpc : s.cpc = .fStopSet) : CCase s { s with fStop := true, cpc := .fJoin }
  | fJoinFactory (hpc : s.cpc = .fJoin) (hal : ¬ s.fAlive = true) (hfac : s.cfg.factory = true) :
      CCase s { s with cpc := .rPutNone }
  | fJoinPlain (hpc : s.cpc = .fJoin) (hal : ¬ s.fAlive = true) (hfac : ¬ s.cfg.factory = true) :
      CCase s (toNextCall { s with cpc := .nextCall })
  | rPutNone (hpc : s.cpc = .rPutNone) : CCase s { s with replQ := s.replQ ++ [none], cpc := .rStopSet }
  | rStopSet (hpc : s.cpc = .rStopSet) : CCase s { s with rStop := true, cpc := .rJoin }
  | rJoin (hpc : s.cpc = .rJoin) (hal : ¬ s.rAlive = true) : CCase s (toNextCall { s with cpc := .nextCall })
  | exitPutGiveUp {i} (hpc : s.cpc = .exitPut i) (hcap : capFull s.cfg.workCap s.workQ = true)
      (hall : s.procs.all (workerExited s) = true) : CCase s { s with cpc := .done }
  | exitPutNext {i} (hpc : s.cpc = .exitPut i) (hcap : ¬ capFull s.cfg.workCap s.workQ = true)
      (hlt : i + 1 < s.procs.length) : CCase s { s with workQ := s.workQ ++ [none], cpc := .exitPut (i + 1) }
  | exitPutLast {i} (hpc : s.cpc = .exitPut i) (hcap : ¬ capFull s.cfg.workCap s.workQ = true)
      (hlt : ¬ i + 1 < s.procs.length) :
      CCase s { s with workQ := s.workQ ++ [none],
                       cpc := exitJoinFrom { s with workQ := s.workQ ++ [none] } (s.procs.length + 1) 0 }
  | exitJoin {i wid} (hpc : s.cpc = .exitJoin i) (hp : s.procs[i]? = some wid)
      (hj : (workerExited s wid || s.cfg.joinTimeout) = true) :
      CCase s { s with cpc := exitJoinFrom s (s.procs.length + 1) (i + 1) }
  | midNext {i wid w wid'} (hpc : s.cpc = .midReady i wid) (hg : getWorker s wid = some w) (hbf : w.bf = true)
      (hp : s.procs[i + 1]? = some wid') : CCase s { s with cpc := .midReady (i + 1) wid' }
  | midLast {i wid w} (hpc : s.cpc = .midReady i wid) (hg : getWorker s wid = some w) (hbf : w.bf = true)
      (hp : s.procs[i + 1]? = none) : CCase s (afterBatch s)

theorem stepC_cases {s s' : St} (h : stepC s = some s') : CCase s s' := by
  unfold stepC at h
  split at h
  next hpc =>  -- enterStart
    split at h
    · cases h
    next hp =>
      split at h
      · cases h
      next hg =>
        dsimp only at h
        split at h
        next hlt => cases h; exact .enterNext hpc hp hg hlt
        next hlt => cases h; exact .enterLast hpc hp hg hlt
  next hpc =>  -- readyWait
    split at h
    · cases h
    next hp =>
      split at h
      · cases h
      next hg =>
        split at h
        next hbf =>
          split at h
          next hlt => cases h; exact .readyNext hpc hp hg hbf hlt
          next hlt => cases h; exact .readyLast hpc hp hg hbf hlt
        · cases h
  next hpc => cases h; exact .nextCall hpc
  next hpc => cases h; exact .rInitSet hpc
  next hpc => cases h; exact .rStart hpc
  next hpc => cases h; exact .fInitSet hpc
  next hpc => cases h; exact .wrSending hpc
  next hpc => cases h; exact .wrDataCnt hpc
  next hpc =>  -- fStart
    split at h
    · cases h
    next hcur => cases h; exact .fStart hpc hcur
  next hpc =>  -- rdSending
    split at h
    next hsend => cases h; exact .sendingUp hpc hsend
    next hsend => cases h; exact .sendingDown hpc hsend
  next hpc =>  -- rdDataCnt
    split at h
    next hlt => cases h; exact .cntMore hpc hlt
    next hlt => cases h; exact .cntAll hpc hlt
  next hpc =>  -- qsize1
    split at h
    next hq => cases h; exact .qsize1Pos hpc hq
    next hq => cases h; exact .qsize1Zero hpc hq
  next hpc =>  -- lockAcq
    split at h
    next hl => cases h; exact .lockAcq hpc hl
    · cases h
  next hpc =>  -- qsize2
    split at h
    next hq => cases h; exact .qsize2Pos hpc hq
    next hq => cases h; exact .qsize2Zero hpc hq
  next hpc =>  -- getNowait
    split at h
    next hq => cases h; exact .getNowaitEmpty hpc hq
    next hq => cases h; exact .getNowaitToken hpc hq
    next hq => cases h; exact .getNowaitChunk hpc hq
  next hpc =>  -- lockRel
    dsimp only at h
    split at h
    next hb => cases h; exact .lockRelResults hpc hb
    next hb => cases h; exact .lockRelNothing hpc hb
  next hpc =>  -- getBlock
    split at h
    · cases h
    next hq => cases h; exact .getBlockToken hpc hq
    next hq => cases h; exact .getBlockChunk hpc hq
  next hpc => cases h; exact .flowClear hpc
  next hpc =>  -- flowIsSet
    split at h
    next hrun => cases h; exact .flowIsSetYes hpc hrun
    next hrun => cases h; exact .flowIsSetNo hpc hrun
  next hpc => cases h; exact .flowSet hpc
  next hpc => cases h; exact .fStopSet hpc
  next hpc =>  -- fJoin
    split at h
    · cases h
    next hal =>
      split at h
      next hfac => cases h; exact .fJoinFactory hpc hal hfac
      next hfac => cases h; exact .fJoinPlain hpc hal hfac
  next hpc => cases h; exact .rPutNone hpc
  next hpc => cases h; exact .rStopSet hpc
  next hpc =>  -- rJoin
    split at h
    · cases h
    next hal => cases h; exact .rJoin hpc hal
  next hpc =>  -- exitPut
    split at h
    next hcap =>
      split at h
      next hall => cases h; exact .exitPutGiveUp hpc hcap hall
      · cases h
    next hcap =>
      dsimp only at h
      split at h
      next hlt => cases h; exact .exitPutNext hpc hcap hlt
      next hlt => cases h; exact .exitPutLast hpc hcap hlt
  next hpc =>  -- exitJoin
    split at h
    · cases h
    next hp =>
      split at h
      next hj => cases h; exact .exitJoin hpc hp hj
      · cases h
  next hpc =>  -- midReady
    split at h
    · cases h
    next hg =>
      split at h
      next hbf =>
        split at h
        next hp => cases h; exact .midNext hpc hg hbf hp
        next hp => cases h; exact .midLast hpc hg hbf hp
      · cases h
  · cases h

/-- `w` is the record of worker `wid` before the step -/
inductive WCase (s : St) (wid : Nat) (w : Worker) : St → Prop
  | beginFault (hpc : w.pc = .bfClear) (hb : s.cfg.beginFault.contains wid = true) :
      WCase s wid w (setWorker s (workerEnding { w with bf := false, log := w.log ++ [.begin] } true))
  | begin (hpc : w.pc = .bfClear) (hb : ¬ s.cfg.beginFault.contains wid = true) :
      WCase s wid w (setWorker s { w with bf := false, log := w.log ++ [.begin], pc := .bfSet })
  | bfSet (hpc : w.pc = .bfSet) : WCase s wid w (setWorker s (workerLoopTop s.cfg.factory { w with bf := true }))
  | getStop {r} (hpc : w.pc = .get) (hq : s.workQ = none :: r) :
      WCase s wid w (setWorker { s with workQ := r } (workerEnding w false))
  | itemFault {i r} (hpc : w.pc = .get) (hq : s.workQ = some i :: r)
      (hi : s.cfg.itemFault.contains (wid, w.done) = true) :
      WCase s wid w (setWorker { s with workQ := r } (workerEnding { w with log := w.log ++ [.item i] } true))
  | item {i r} (hpc : w.pc = .get) (hq : s.workQ = some i :: r) (hi : ¬ s.cfg.itemFault.contains (wid, w.done) = true) :
      WCase s wid w (setWorker { s with workQ := r } { w with log := w.log ++ [.item i], held := some i, pc := .lockAcq })
  | lockAcq (hpc : w.pc = .lockAcq) (hl : s.lock.isNone = true) :
      WCase s wid w (setWorker { s with lock := some (.w wid) } { w with pc := .putNowait })
  | putFull {i} (hpc : w.pc = .putNowait) (hh : w.held = some i) (hcap : capFull s.cfg.resCap s.resQ = true) :
      WCase s wid w (setWorker s { w with full := true, pc := .lockRel })
  | putNowait {i} (hpc : w.pc = .putNowait) (hh : w.held = some i) (hcap : ¬ capFull s.cfg.resCap s.resQ = true) :
      WCase s wid w (setWorker { s with resQ := s.resQ ++ [some i] } { w with full := false, held := none, pc := .lockRel })
  | relFull (hpc : w.pc = .lockRel) (hfull : w.full = true) :
      WCase s wid w (setWorker { s with lock := none } { w with pc := .putBlock })
  | relDone (hpc : w.pc = .lockRel) (hfull : ¬ w.full = true) :
      WCase s wid w (setWorker { s with lock := none }
        (workerLoopTop s.cfg.factory { w with done := w.done + 1, quota := w.quota.map (· - 1) }))
  | putBlock {i} (hpc : w.pc = .putBlock) (hh : w.held = some i) (hcap : ¬ capFull s.cfg.resCap s.resQ = true) :
      WCase s wid w (setWorker { s with resQ := s.resQ ++ [some i] }
        (workerLoopTop s.cfg.factory
          { w with full := false, held := none, done := w.done + 1, quota := w.quota.map (· - 1) }))
  | retire (hpc : w.pc = .retire) :
      WCase s wid w (setWorker { s with replQ := s.replQ ++ [some wid] } (workerEnding w false))
  | ending (hpc : w.pc = .ending) : WCase s wid w (setWorker s (workerExit w w.crashed))

theorem stepW_cases' {s s' : St} {wid : Nat} (h : stepW s wid = some s') :
    ∃ w, getWorker s wid = some w ∧ WCase s wid w s' := by
  unfold stepW at h
  split at h
  · cases h
  next w hg =>
  refine ⟨w, hg, ?_⟩
  split at h
  · cases h
  · cases h
  next hpc =>  -- bfClear
    dsimp only at h
    split at h
    next hb => cases h; exact .beginFault hpc hb
    next hb => cases h; exact .begin hpc hb
  next hpc => cases h; exact .bfSet hpc
  next hpc =>  -- get
    split at h
    · cases h
    next hq => cases h; exact .getStop hpc hq
    next hq =>
      dsimp only at h
      split at h
      next hi => cases h; exact .itemFault hpc hq hi
      next hi => cases h; exact .item hpc hq hi
  next hpc =>  -- lockAcq
    split at h
    next hl => cases h; exact .lockAcq hpc hl
    · cases h
  next hpc =>  -- putNowait
    split at h
    · cases h
    next hh =>
      split at h
      next hcap => cases h; exact .putFull hpc hh hcap
      next hcap => cases h; exact .putNowait hpc hh hcap
  next hpc =>  -- lockRel
    dsimp only at h
    split at h
    next hfull => cases h; exact .relFull hpc hfull
    next hfull => cases h; exact .relDone hpc hfull
  next hpc =>  -- putBlock
    split at h
    · cases h
    next hh =>
      split at h
      · cases h
      next hcap => cases h; exact .putBlock hpc hh hcap
  next hpc => cases h; exact .retire hpc
  next hpc => cases h; exact .ending hpc

theorem stepR_cases {s s' : St} (h : stepR s = some s') : s.rAlive = true ∧
    ((∃ r, s.rpc = .get ∧ s.replQ = none :: r ∧ s' = { s with replQ := r, rpc := .idle, rAlive := false }) ∨
     (∃ wid r, s.rpc = .get ∧ s.replQ = some wid :: r ∧ s' = { s with replQ := r, rpc := .join wid }) ∨
     (∃ wid, s.rpc = .join wid ∧ (workerExited s wid || s.cfg.joinTimeout) = true ∧
       s' = { s with workers := s.workers ++ [mkWorker s.cfg s.widCounter], widCounter := s.widCounter + 1,
                     procs := s.procs.map (fun x => if x = wid then s.widCounter else x), rpc := .start s.widCounter }) ∨
     (∃ nw w, s.rpc = .start nw ∧ getWorker s nw = some w ∧
       s' = { (setWorker s { w with pc := .bfClear }) with rpc := .get })) := by
  unfold stepR at h
  split at h
  · cases h
  · rename_i hal
    have hal : s.rAlive = true := by simpa using hal
    split at h
    · cases h
    · rename_i hr
      split at h
      · cases h
      · rename_i r hq; cases h; exact ⟨hal, Or.inl ⟨r, hr, hq, rfl⟩⟩
      · rename_i wid r hq; cases h; exact ⟨hal, Or.inr (Or.inl ⟨wid, r, hr, hq, rfl⟩)⟩
    · rename_i wid hr
      split at h
      · rename_i hj; cases h; exact ⟨hal, Or.inr (Or.inr (Or.inl ⟨wid, hr, hj, rfl⟩))⟩
      · cases h
    · rename_i nw hr
      split at h
      · cases h
      · rename_i w hg; cases h; exact ⟨hal, Or.inr (Or.inr (Or.inr ⟨nw, w, hr, hg, rfl⟩))⟩

theorem toNextCall_cfg (s : St) : (toNextCall s).cfg = s.cfg := by
  unfold toNextCall
  split <;> simp only [] <;> split <;> rfl

theorem afterBatch_cfg (s : St) : (afterBatch s).cfg = s.cfg := by
  obtain ⟨c', h, _⟩ := afterBatch_eq s
  rw [h]

theorem afterEnter_cfg (s : St) : (afterEnter s).cfg = s.cfg := by
  unfold afterEnter
  split
  · rfl
  · exact toNextCall_cfg _

theorem afterResults_cfg (s : St) : (afterResults s).cfg = s.cfg := by
  obtain ⟨c', h, _⟩ := afterResults_pc s
  rw [h]
  show (consumeBatch s).cfg = s.cfg
  unfold consumeBatch
  split
  · rfl
  · split <;> rfl

theorem step_cfg {s s' : St} {t : Tid} (h : step s t = some s') : s'.cfg = s.cfg := by
  cases t with
  | c =>
    cases stepC_cases h with
    | enterLast => exact afterEnter_cfg _
    | readyLast | nextCall | fJoinPlain | rJoin => exact toNextCall_cfg _
    | lockRelResults | getBlockToken | getBlockChunk => exact afterResults_cfg _
    | midLast => exact afterBatch_cfg _
    | _ => rfl
  | f => cases (stepF_cases h).2 <;> rfl
  | r => obtain ⟨_, ⟨r, _, _, rfl⟩ | ⟨wid, r, _, _, rfl⟩ | ⟨wid, _, _, rfl⟩ | ⟨nw, w, _, _, rfl⟩⟩ := stepR_cases h <;> rfl
  | w wid =>
    obtain ⟨w, _, hc⟩ := stepW_cases' h
    cases hc <;> rfl

end WindVerif.Pool
