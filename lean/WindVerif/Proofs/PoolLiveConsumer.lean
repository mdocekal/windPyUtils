import WindVerif.Proofs.PoolLiveMoves
/-! Liveness of the pool model (C02): every step of the consumer, and of the feeder, keeps the liveness invariant. -/
namespace WindVerif.Pool

variable {s s' : St}

/-- evaluates the pc classes at concrete pcs -/
macro "cls " h:ident : tactic => `(tactic|
  simp [$h:ident, cIn, idxV, rCall, rStopping, exitPhasePc, rJoinPc, stopsV, setupPc, getPathPc, loopPc, flowChk, runSetPc])

theorem cur_isSome_of (hS : SafeInv s) (h1 : preStart s = false) (h2 : exitPhasePc s.cpc = false) : s.cur.isSome = true := by
  cases hc : s.cur with
  | none =>
    have := hS.noCall hc
    rw [h1] at this
    cases hcp : s.cpc <;> simp [hcp, exitPhasePc] at h2 this
  | some c => rfl

/-- in a call that is not ordered the flow control never engages -/
theorem fRun_of_unordered (hS : SafeInv s) (hV : LiveInv s) (hw : WellCfg s.cfg) (h1 : loopPc s.cpc = true)
    (h2 : flowChk s.cpc = false) {call : Call} (hc : s.cur = some call) (ho : call.ordered = false) : s.fRun = true := by
  cases hr : s.fRun
  · exfalso
    have hb := hV.cs.flow h1 h2 (Or.inl hr)
    have hbuf := hS.unordered call hc ho
    unfold bufferFull at hb
    cases hrc : s.cfg.resCap with
    | none => rw [hrc] at hb; cases hb
    | some c =>
      rw [hrc, hbuf] at hb
      have := hw.2.1 c hrc
      simp at hb; omega
  · rfl

/-- the pc after the last stop order / after a join: `done` or a valid `exitJoin` -/
theorem exitJoinFrom_cls (s0 : St) (i : Nat) (hi : i ≤ s0.procs.length) :
    ∀ c', c' = exitJoinFrom s0 (s0.procs.length + 1) i →
      cIn c' = false ∧ idxV c' s0.procs.length ∧ rCall c' = false ∧ rStopping c' = false ∧ exitPhasePc c' = true ∧
      rJoinPc c' = false ∧ stopsV c' s0.procs.length = s0.procs.length ∧ setupPc c' = false ∧ getPathPc c' = false ∧
      loopPc c' = false ∧ runSetPc c' = false := by
  intro c' hc'
  rcases exitJoinFrom_idx s0 (s0.procs.length + 1) i hi (by omega) with h | ⟨k, h, hk⟩ <;> rw [hc', h]
  · exact ⟨rfl, trivial, rfl, rfl, rfl, rfl, rfl, rfl, rfl, rfl, rfl⟩
  · exact ⟨rfl, hk, rfl, rfl, rfl, rfl, rfl, rfl, rfl, rfl, rfl⟩

theorem LiveInv_exitPut (hV : LiveInv s) {i : Nat} (hpc : s.cpc = .exitPut i) (c' : CPc) (q1 : idxV c' s.procs.length)
    (q2 : cIn c' = false) (q3 : rCall c' = false) (q4 : rStopping c' = false) (q5 : exitPhasePc c' = true)
    (q6 : rJoinPc c' = false) (q7 : stopsV c' s.procs.length = i + 1) (q8 : setupPc c' = false)
    (q9 : getPathPc c' = false) (q10 : loopPc c' = false) (q11 : runSetPc c' = false) :
    LiveInv { s with workQ := s.workQ ++ [none], cpc := c' } := by
  have hwk := woken_false_of hV (by rw [hpc]; rfl)
  obtain ⟨lk, pr, rp, cs, ct⟩ := hV
  refine ⟨LockI_congr lk rfl (by rw [hpc]; exact q2) rfl, ProcI_congr pr rfl rfl rfl (fun _ hh => hh) q1,
    ReplI_congr rp rfl rfl rfl rfl rfl rfl (by rw [q5]; exact nofun) (by rw [q3]; exact nofun) (by rw [hpc]; exact q4)
      (by rw [hpc]; exact q5) (fun hh => absurd ((rJoinPc_iff c').2 hh) (by rw [q6]; exact nofun)),
    ConsI_gen cs hpc rfl rfl rfl rfl rfl (by rw [q8]; exact nofun) (fun _ => rfl) (.inl hwk) (by rw [q9]; exact nofun)
      (by rw [q10]; exact nofun) (by rw [q11]; exact nofun), ?_⟩
  obtain ⟨k1, k2, k3, k4⟩ := ct
  have hex : exitPhasePc s.cpc = true := by rw [hpc]; rfl
  have hss : stopsSent s = i := by unfold stopsSent; rw [hpc]; rfl
  have hss' : stopsSent { s with workQ := s.workQ ++ [none], cpc := c' } = i + 1 := q7
  have hn : noneCount (s.workQ ++ [none]) = noneCount s.workQ + 1 := noneCount_append_none _
  have h2 := k2 hex
  have h3 := k3 hex
  rw [hss] at h2 h3
  constructor
  · exact k1
  · intro _; rw [hss']; show liveCnt s + (i + 1) ≤ noneCount (s.workQ ++ [none]) + s.procs.length; omega
  · intro _; rw [hss']; show noneCount (s.workQ ++ [none]) ≤ i + 1; omega
  · intro hf; rw [hss']
    have h4 := k4 hf; rw [hss] at h4
    show noneCount (s.workQ ++ [none]) + s.procs.length ≤ liveCnt s + (i + 1); omega

/-- the loop of stop orders is left on a full queue only when every listed worker has an exit code, i.e. nobody is alive
(in a plain pool this cannot happen: `cnt4`) -/
theorem LiveInv_exitSkip (hL : LInv s) (hV : LiveInv s) {i : Nat} (hpc : s.cpc = .exitPut i)
    (hall : s.procs.all (workerExited s) = true) : LiveInv { s with cpc := .done } := by
  have hwk := woken_false_of hV (by rw [hpc]; rfl)
  have hlive : liveCnt s = 0 := liveCnt_zero_of_all hL hall
  obtain ⟨lk, pr, rp, cs, ct⟩ := hV
  refine ⟨LockI_congr lk rfl (by rw [hpc]; rfl) rfl, ProcI_congr pr rfl rfl rfl (fun _ hh => hh) trivial,
    ReplI_congr rp rfl rfl rfl rfl rfl rfl nofun nofun (by rw [hpc]; rfl) (by rw [hpc]; rfl) nofun,
    ConsI_gen cs hpc rfl rfl rfl rfl rfl nofun (fun _ => rfl) (.inl hwk) nofun nofun nofun, ?_⟩
  obtain ⟨k1, k2, k3, k4⟩ := ct
  have hex : exitPhasePc s.cpc = true := by rw [hpc]; rfl
  have hss : stopsSent s = i := by unfold stopsSent; rw [hpc]; rfl
  have hss' : stopsSent { s with cpc := .done } = s.procs.length := rfl
  have hlive' : liveCnt { s with cpc := .done } = 0 := hlive
  have hidx : i < s.procs.length := by have := pr.idx; rw [hpc] at this; exact this
  have h3 := k3 hex
  rw [hss] at h3
  constructor
  · exact k1
  · intro _; rw [hss', hlive']; show 0 + s.procs.length ≤ noneCount s.workQ + s.procs.length; omega
  · intro _; rw [hss']; show noneCount s.workQ ≤ s.procs.length; omega
  · intro hf; rw [hss', hlive']
    have h4 := k4 hf; rw [hss, hlive] at h4
    show noneCount s.workQ + s.procs.length ≤ 0 + s.procs.length; omega

/-- the replace thread has been started (the pc is still to move) -/
theorem LiveInv_rStart (hL : LInv s) (hV : LiveInv s) (hpc : s.cpc = .rStart) :
    LiveInv { s with rAlive := true, rpc := .get } := by
  have hidle := hL.rIdle (rAlive_false hL (by rw [hpc]; rfl))
  refine LiveInv_replUpd hV (by unfold pending; simp [hidle]) nofun (fun _ _ => rfl) nofun ?_
  have := hV.rp.tokR
  rw [hpc] at this ⊢
  exact this

theorem LiveInv_stepC (hS : SafeInv s) (hL : LInv s) (hV : LiveInv s) (hM : MidI s) (hw : WellCfg s.cfg)
    (h : stepC s = some s') : LiveInv s' := by
  have hloop : loopPc s.cpc = true → ∃ call, s.cur = some call ∧ preStart s = false ∧
      (flowChk s.cpc = false → call.ordered = false → s.fRun = true) := by
    intro hc
    have hpre : preStart s = false := by
      unfold preStart; cases hcp : s.cpc <;> first | rfl | (rw [hcp] at hc; cases hc)
    have hex : exitPhasePc s.cpc = false := by
      cases hcp : s.cpc <;> first | rfl | (rw [hcp] at hc; cases hc)
    obtain ⟨call, hcall⟩ := Option.isSome_iff_exists.1 (cur_isSome_of hS hpre hex)
    exact ⟨call, hcall, hpre, fun h2 ho => fRun_of_unordered hS hV hw hc h2 hcall ho⟩
  -- `p.start()` in `__enter__`
  have start : ∀ {i wid w}, s.cpc = .enterStart i → s.procs[i]? = some wid → getWorker s wid = some w →
      LiveInv (setWorker s { w with pc := .bfClear }) := by
    intro i wid w hpc hwd hg
    have hpre := hL.pre (by rw [hpc]; trivial)
    rw [hpre.1] at hwd
    obtain ⟨rfl, hin⟩ := range_getElem?_some hwd
    obtain ⟨hwm, hwid⟩ := getWorker_some hg
    exact LiveInv_startWorker hL hV hg (hL.starting wid hpc w hwm (by omega))
  cases stepC_cases h with
  | enterNext hpc hwd hg hlt =>
    exact LiveInv_move (start hpc hwd hg) hpc rfl hlt nofun rfl rfl nofun rfl nofun nofun nofun nofun
  | enterLast hpc hwd hg =>
    have hV1 := start hpc hwd hg
    unfold afterEnter
    split
    · rename_i hcnd
      exact LiveInv_move hV1 hpc rfl hcnd.2 nofun rfl rfl nofun rfl nofun nofun nofun nofun
    · rw [toNextCall_setCpc]
      exact LiveInv_toNextCall hV1 hpc rfl rfl nofun
  | readyNext hpc _ _ _ hlt => exact LiveInv_move hV hpc rfl hlt nofun rfl rfl nofun rfl nofun nofun nofun nofun
  | readyLast hpc | fJoinPlain hpc =>
    rw [toNextCall_setCpc]
    exact LiveInv_toNextCall hV hpc rfl rfl nofun
  | nextCall hpc => exact LiveInv_toNextCall hV hpc rfl rfl nofun
  | rInitSet hpc => exact LiveInv_move hV hpc rfl trivial nofun rfl rfl nofun rfl (fun _ => rfl) nofun nofun nofun
  | rStart hpc =>
    exact LiveInv_move (LiveInv_rStart hL hV hpc) hpc rfl trivial
      (fun _ _ => .inr rfl) rfl rfl nofun rfl (fun _ => rfl) nofun nofun nofun
  | fInitSet hpc =>
    have hwk := woken_false_of hV (by rw [hpc]; rfl)
    exact LiveInv_updCall hV hpc rfl rfl rfl (.inl ⟨rfl, rfl⟩) (fun _ => rfl) (.inl hwk) nofun nofun (fun _ => rfl)
  | wrSending hpc | wrDataCnt hpc =>
    exact LiveInv_moveCall hV hpc rfl rfl nofun rfl (fun _ => rfl) nofun nofun (fun _ => rfl)
  | fStart hpc =>
    have hrun := hV.cs.runSetup (by rw [hpc]; rfl)
    have hwk := woken_false_of hV (by rw [hpc]; rfl)
    exact LiveInv_updCall hV hpc rfl rfl rfl (.inl ⟨rfl, rfl⟩) nofun (.inl hwk) nofun
      (fun _ _ x => by rw [hrun] at x; rcases x with x | x <;> cases x) nofun
  | sendingUp hpc hsend =>
    obtain ⟨call, hcall, hpre, _⟩ := hloop (by rw [hpc]; rfl)
    -- the feeder has not cleared `_sending_work`: it is not idle
    refine LiveInv_moveCall hV hpc rfl rfl nofun rfl nofun ?_ (flow_keep rfl rfl nofun) nofun
    intro _ _ _ hf _
    have := (hS.sendingTrue hpre (by rw [hcall]; rfl)).1 hsend
    rw [hf] at this; exact absurd this nofun
  | sendingDown hpc => exact LiveInv_moveCall hV hpc rfl rfl nofun rfl nofun nofun (flow_keep rfl rfl nofun) nofun
  | cntMore hpc hlt =>
    obtain ⟨call, hcall, hpre, _⟩ := hloop (by rw [hpc]; rfl)
    -- not everything the feeder has counted is emitted
    refine LiveInv_moveCall hV hpc rfl rfl nofun rfl nofun ?_ (flow_keep rfl rfl nofun) nofun
    intro _ _ _ hf hfin
    have := hS.cntDone hpre (by rw [hcall]; rfl) (Or.inr (Or.inr hf))
    omega
  | cntAll hpc | fStopSet hpc | midNext hpc => exact LiveInv_moveCall hV hpc rfl rfl nofun rfl nofun nofun nofun nofun
  | qsize1Pos hpc =>
    have hb : s.batch = [] := hS.batchEmpty (by rw [hpc]; trivial)
    have hwk := woken_false_of hV (by rw [hpc]; rfl)
    have hfl := fun x => hV.cs.flow (by rw [hpc]; rfl) (by rw [hpc]; rfl) (.inl x)
    exact LiveInv_updCall hV hpc rfl rfl rfl (.inl ⟨rfl, rfl⟩) nofun (.inl rfl)
      (fun _ _ _ => hV.cs.token (by rw [hpc]; rfl) hb hwk) (fun _ _ x => hfl (x.resolve_right nofun)) nofun
  | qsize1Zero hpc | qsize2Pos hpc | qsize2Zero hpc | getNowaitEmpty hpc =>
    exact LiveInv_moveCall hV hpc rfl rfl nofun rfl nofun (fun _ _ _ _ _ => rfl) (flow_keep rfl rfl nofun) nofun
  | lockAcq hpc hl =>
    exact LiveInv_updCall hV hpc rfl rfl rfl (.inr (.inl ⟨by simpa using hl, rfl, rfl⟩)) nofun (.inr rfl)
      (fun _ => hV.cs.token (by rw [hpc]; rfl))
      (fun _ _ x => hV.cs.flow (by rw [hpc]; rfl) (by rw [hpc]; rfl) (.inl (x.resolve_right nofun))) nofun
  | getNowaitToken hpc =>
    have hfl := fun x => hV.cs.flow (by rw [hpc]; rfl) (by rw [hpc]; rfl) (.inl x)
    exact LiveInv_updCall hV hpc rfl rfl rfl (.inl ⟨rfl, rfl⟩) nofun (.inr rfl) nofun
      (fun _ _ x => hfl (x.resolve_right nofun)) nofun
  | getNowaitChunk hpc =>
    have hfl := fun x => hV.cs.flow (by rw [hpc]; rfl) (by rw [hpc]; rfl) (.inl x)
    exact LiveInv_updCall hV hpc rfl rfl rfl (.inl ⟨rfl, rfl⟩) nofun (.inr rfl) (fun _ hb => by simp at hb)
      (fun _ _ x => hfl (x.resolve_right nofun)) nofun
  | lockRelResults hpc =>
    obtain ⟨call, hcall, _, hun⟩ := hloop (by rw [hpc]; rfl)
    exact LiveInv_afterResults hV hpc rfl ⟨rfl, rfl, rfl, rfl, rfl, rfl⟩ rfl rfl rfl hcall (hun (by rw [hpc]; rfl))
      (fun t h1 h2 h3 => LockI_release hV.lk (by rw [hpc]; rfl) h1 h3 h2)
  | lockRelNothing hpc hnb =>
    -- nothing drained and no token seen: the token clause passes on to the blocking `get()`
    have hb : s.batch = [] := by
      cases hbb : s.batch with
      | nil => rfl
      | cons a r => exfalso; apply hnb; left; show s.batch.length > 0; rw [hbb]; simp
    have hwk : s.woken = false := by
      cases hww : s.woken
      · rfl
      · exact absurd (.inr hww) hnb
    exact LiveInv_updCall hV hpc rfl rfl rfl (.inr (.inr ⟨rfl, rfl, rfl⟩)) nofun (.inl hwk)
      (fun _ => hV.cs.token (by rw [hpc]; rfl))
      (fun _ _ x => hV.cs.flow (by rw [hpc]; rfl) (by rw [hpc]; rfl) (.inl (x.resolve_right nofun))) nofun
  | getBlockToken hpc | getBlockChunk hpc =>
    obtain ⟨call, hcall, _, hun⟩ := hloop (by rw [hpc]; rfl)
    exact LiveInv_afterResults hV hpc rfl ⟨rfl, rfl, rfl, rfl, rfl, rfl⟩ rfl rfl rfl hcall (hun (by rw [hpc]; rfl))
      (fun t h1 h2 h3 => LockI_congr hV.lk h1 (by rw [h3, hpc]; rfl) h2)
  | flowClear hpc =>
    have hbf := hV.cs.flow (by rw [hpc]; rfl) (by rw [hpc]; rfl) (Or.inr hpc)
    have hwk := woken_false_of hV (by rw [hpc]; rfl)
    exact LiveInv_updCall hV hpc rfl rfl rfl (.inl ⟨rfl, rfl⟩) nofun (.inl hwk) nofun (fun _ _ _ => hbf) nofun
  | flowIsSetYes hpc hrun =>
    exact LiveInv_moveCall hV hpc rfl rfl nofun rfl nofun nofun
      (fun _ _ x => by rw [hrun] at x; rcases x with x | x <;> cases x) nofun
  | flowIsSetNo hpc => exact LiveInv_moveCall hV hpc rfl rfl nofun rfl nofun nofun (fun _ => nofun) nofun
  | flowSet hpc =>
    have hwk := woken_false_of hV (by rw [hpc]; rfl)
    exact LiveInv_updCall hV hpc rfl rfl rfl (.inl ⟨rfl, rfl⟩) nofun (.inl hwk) nofun
      (fun _ _ x => by rcases x with x | x <;> cases x) nofun
  | fJoinFactory hpc _ hfac => exact LiveInv_moveCall hV hpc rfl rfl (fun _ => hfac) rfl nofun nofun nofun nofun
  | rPutNone hpc =>
    have hfac := hV.rp.rFac (Or.inl hpc)
    have hal := hV.rp.rLive hfac (by rw [hpc]; rfl)
    have htok := hV.rp.tokR
    rw [hpc] at htok
    have hwk := woken_false_of hV (by rw [hpc]; rfl)
    obtain ⟨lk, pr, rp, cs, ct⟩ := hV
    have hp : pending { s with replQ := s.replQ ++ [none], cpc := .rStopSet } = pending s := by
      unfold pending; simp [List.filterMap_append]
    refine ⟨LockI_congr lk rfl (by rw [hpc]; rfl) rfl, ProcI_congr pr rfl rfl rfl (fun _ hh => hh) trivial, ?_,
      ConsI_gen cs hpc rfl rfl rfl rfl rfl nofun nofun (.inl hwk) nofun nofun nofun,
      CntI_congr' ct rfl (by rw [hp]) rfl rfl rfl (by rw [hpc]; rfl) (by unfold stopsSent; rw [hpc]; rfl)⟩
    constructor
    · exact fun _ => nofun
    · exact rp.rNotIdle
    · show noneCount (s.replQ ++ [none]) = _
      rw [noneCount_append_none, htok]
      exact (if_pos ⟨rfl, hal⟩).symm
    · intro x hx hxpc hxin
      rcases rp.exitedL x hx hxpc hxin with hh | ⟨hf, hq⟩
      · rw [hpc] at hh; cases hh
      · exact Or.inr ⟨hf, by rw [hp]; exact hq⟩
    · intro _; exact rp.noStop (by rw [hpc]; rfl)
    · intro _; exact hfac
  | rStopSet hpc =>
    exact LiveInv_move hV hpc rfl trivial nofun rfl rfl (fun _ => .inl rfl) rfl nofun nofun nofun nofun
  | rJoin hpc hal =>
    rw [toNextCall_setCpc]
    exact LiveInv_toNextCall hV hpc rfl rfl (fun _ => by simpa using hal)
  | exitPutGiveUp hpc _ hall => exact LiveInv_exitSkip hL hV hpc hall
  | @exitPutNext i hpc _ hlt =>
    exact LiveInv_exitPut hV hpc (.exitPut (i + 1)) hlt rfl rfl rfl rfl rfl rfl rfl rfl rfl rfl
  | @exitPutLast i hpc _ hge =>
    have hidx : i < s.procs.length := by have := hV.pr.idx; rw [hpc] at this; exact this
    have hlen : s.procs.length = i + 1 := by omega
    rw [hpc]
    obtain ⟨q2, q1, q3, q4, q5, q6, q7, q8, q9, q10, q11⟩ :=
      exitJoinFrom_cls { s with workQ := s.workQ ++ [none], cpc := .exitPut i } 0 (Nat.zero_le _) _ rfl
    exact LiveInv_exitPut hV hpc _ q1 q2 q3 q4 q5 q6 (by rw [← hlen]; exact q7) q8 q9 q10 q11
  | @exitJoin i _ hpc =>
    have hidx : i < s.procs.length := by have := hV.pr.idx; rw [hpc] at this; exact this
    obtain ⟨q2, q1, q3, q4, q5, q6, q7, q8, q9, q10, q11⟩ := exitJoinFrom_cls s (i + 1) hidx _ rfl
    exact LiveInv_move hV hpc q2 q1 (by rw [q3]; exact nofun) q4 q5 (by rw [q6]; exact nofun) q7
      (by rw [q8]; exact nofun) (by rw [q9]; exact nofun) (by rw [q10]; exact nofun) (by rw [q11]; exact nofun)
  | @midLast i wid _ hpc =>
    -- back into the result loop: the flow-control test of an ordered call, or the loop test
    have hwk := woken_false_of hV (by rw [hpc]; rfl)
    rcases afterBatch_cases s with ⟨c1, h1, h2, h3, h4⟩ | ⟨c1, h1, h2, h3, h4⟩ | ⟨h1, h4⟩ <;> rw [h4]
    · exact LiveInv_updCall hV hpc rfl rfl rfl (.inl ⟨rfl, rfl⟩) nofun (.inl hwk) nofun (fun _ _ _ => h3) nofun
    · exact LiveInv_updCall hV hpc rfl rfl rfl (.inl ⟨rfl, rfl⟩) nofun (.inl hwk) nofun (fun _ => nofun) nofun
    · refine LiveInv_updCall hV hpc rfl rfl rfl (.inl ⟨rfl, rfl⟩) nofun (.inl hwk) nofun (fun _ _ x => ?_) nofun
      obtain ⟨c, hc1, hc2⟩ := hM.flow i wid hpc (x.resolve_right nofun)
      rw [h1 c hc1] at hc2; cases hc2

/-- the feeder's steps: an update of the fields it owns and of the two queues it writes to, where the work queue gains at
most a chunk; only the token clause `tk` is due anew -/
theorem LiveInv_feeder (hV : LiveInv s) {wq rq : List (Option Nat)} {fr dc fn : Nat} {fp : FPc} {snd fa : Bool}
    (hq : wq = s.workQ ∨ ∃ i, wq = s.workQ ++ [some i])
    (tk : getPathPc s.cpc = true → s.batch = [] → s.woken = false → fp = .idle → s.finished = s.fTotal → none ∈ rq) :
    LiveInv { s with workQ := wq, resQ := rq, fRead := fr, dataCnt := dc, fNext := fn, fpc := fp, sending := snd,
                     fAlive := fa } := by
  refine LiveInv_of (Rest_move hV rfl rfl ⟨rfl, rfl, rfl, rfl, rfl, rfl⟩ ?_ ?_ hV.pr.idx (fun a _ => .inl a) rfl rfl .inl rfl)
    (LockI_congr hV.lk rfl rfl rfl) (ConsI_congr' hV.cs rfl rfl rfl rfl rfl rfl tk rfl rfl rfl rfl)
  · rcases hq with hq | ⟨i, hq⟩ <;> rw [hq]
    exact noneCount_append_some _ _
  · rcases hq with hq | ⟨i, hq⟩ <;> rw [hq]
    · exact id
    · exact fun h => (List.mem_append.1 h).elim id (by simp)

/-- the token step when the result queue is full: everything is emitted, so the queue holds tokens only -/
theorem token_in_full_queue (hS : SafeInv s) (hcp : getPathPc s.cpc = true) (hf : s.fpc = .token)
    (hfin : s.finished = s.fTotal) (hfull : capFull s.cfg.resCap s.resQ = true) : none ∈ s.resQ := by
  have hpre : preStart s = false := by
    unfold preStart; cases hc : s.cpc <;> first | rfl | (rw [hc] at hcp; cases hcp)
  have hex : exitPhasePc s.cpc = false := by
    cases hc : s.cpc <;> first | rfl | (rw [hc] at hcp; cases hcp)
  have hcur := cur_isSome_of hS hpre hex
  have hsent : sent s = s.fTotal := by
    unfold sent; rw [hpre, hf, Option.isNone_eq_false_iff.2 hcur]; rfl
  have hlen := (hS.conserve hcur).length_eq
  have hfn := hS.fin hcur
  unfold places at hlen
  simp only [List.length_append, List.length_range] at hlen
  cases hq : s.resQ with
  | nil => exact absurd hq (ne_nil_of_capFull hfull)
  | cons a r =>
    cases a with
    | none => exact List.mem_cons_self
    | some i => rw [hq] at hlen; simp [chunksOf] at hlen; omega

theorem LiveInv_stepF (hS : SafeInv s) (hV : LiveInv s) (h : stepF s = some s') : LiveInv s' := by
  cases (stepF_cases h).2 with
  | put => exact LiveInv_feeder hV (.inr ⟨_, rfl⟩) nofun
  | rdCnt | wrCnt | stopped | notStopped | next | last | wrSending => exact LiveInv_feeder hV (.inl rfl) nofun
  | tokenFull hf hfull =>
    exact LiveInv_feeder hV (.inl rfl) (fun a _ _ _ d => token_in_full_queue (s := s) hS a hf d hfull)
  | token => exact LiveInv_feeder hV (.inl rfl) (fun _ _ _ _ _ => List.mem_append_right _ List.mem_cons_self)

end WindVerif.Pool
