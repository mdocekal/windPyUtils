/-!
Facts about lists of any element type that the core library has only in another form or not at all, and that the proofs
about more than one model use: where `l[i]? = some x` puts `i`, what `set`, `++` and `drop` leave at an index, `filterMap`
by a function that never fails, removal of several elements by `filter`, and sorting by a key.
-/
namespace WindVerif

variable {α β : Type}

theorem lt_of_getElem? {l : List α} {i : Nat} {x : α} (h : l[i]? = some x) : i < l.length :=
  (List.getElem?_eq_some_iff.1 h).1

theorem getElem?_set_self' {l : List α} {i : Nat} {p p' : α} (h : l[i]? = some p) : (l.set i p')[i]? = some p' :=
  List.getElem?_set_self (lt_of_getElem? h)

theorem getElem?_set_iff {l : List α} {i : Nat} {p : α} (h : l[i]? = some p) {j : Nat} {p' q : α} :
    (l.set i p')[j]? = some q ↔ (j = i ∧ q = p') ∨ (j ≠ i ∧ l[j]? = some q) := by
  by_cases hji : j = i
  · subst hji
    rw [getElem?_set_self' h, Option.some.injEq]
    exact ⟨fun e => .inl ⟨rfl, e.symm⟩, fun e => e.elim (·.2.symm) (absurd rfl ·.1)⟩
  · rw [List.getElem?_set_ne (Ne.symm hji)]
    exact ⟨fun e => .inr ⟨hji, e⟩, fun e => e.elim (absurd ·.1 hji) (·.2)⟩

theorem getElem?_append_some {l d : List α} {k : Nat} {x : α} (h : (l ++ d)[k]? = some x) :
    l[k]? = some x ∨ (l.length ≤ k ∧ d[k - l.length]? = some x) := by
  rcases Nat.lt_or_ge k l.length with h' | h'
  · rw [List.getElem?_append_left h'] at h; exact Or.inl h
  · rw [List.getElem?_append_right h'] at h; exact Or.inr ⟨h', h⟩

theorem getElem?_singleton_sub {r x : α} {n k : Nat} (hk : n ≤ k) (h : [r][k - n]? = some x) : k = n ∧ x = r := by
  rw [List.getElem?_singleton] at h
  split at h
  · exact ⟨Nat.le_antisymm (Nat.le_of_sub_eq_zero ‹_›) hk, (Option.some.inj h).symm⟩
  · cases h

theorem getElem?_concat_some {l : List α} {j : Nat} {a b : α} (h : (l ++ [a])[j]? = some b) :
    (j = l.length ∧ b = a) ∨ (j ≠ l.length ∧ l[j]? = some b) :=
  (getElem?_append_some h).elim (fun h' => .inr ⟨Nat.ne_of_lt (lt_of_getElem? h'), h'⟩)
    (fun h' => .inl (getElem?_singleton_sub h'.1 h'.2))

theorem drop_succ_of_drop_cons {l r : List α} {a : α} {n : Nat} (h : l.drop n = a :: r) : l.drop (n + 1) = r := by
  rw [← List.drop_drop, h]; rfl

theorem getElem?_of_drop_cons {l r : List α} {a : α} {n : Nat} (h : l.drop n = a :: r) : l[n]? = some a := by
  rw [← Nat.add_zero n, ← List.getElem?_drop, h]; rfl

theorem filterMap_eq_map_of_mem (f : α → Option β) (g : α → β) (l : List α)
    (h : ∀ a ∈ l, f a = some (g a)) : l.filterMap f = l.map g := by
  induction l with
  | nil => rfl
  | cons a l ih =>
    rw [List.filterMap_cons, h a List.mem_cons_self, List.map_cons, ih (fun b hb => h b (List.mem_cons_of_mem _ hb))]

section
variable [DecidableEq α]

theorem filter_nil_contains (fs : List α) : fs.filter (fun x => !([] : List α).contains x) = fs :=
  List.filter_eq_self.mpr (fun _ _ => rfl)

theorem filter_ne_filter (fs : List α) (p : α) (r : List α) :
    (fs.filter (· ≠ p)).filter (fun x => !r.contains x) = fs.filter (fun x => !(p :: r).contains x) := by
  rw [List.filter_filter]
  apply List.filter_congr
  intro x _
  by_cases hx : x = p <;> simp [hx]

end

/-- `sorted(…, key=f)`: all the sorts of the models are of this form, with a key in `Nat` or `Int` -/
theorem pairwise_mergeSort_key [LE β] [DecidableLE β] [Std.IsLinearPreorder β] (f : α → β) (l : List α) :
    (l.mergeSort (fun a b => f a ≤ f b)).Pairwise (fun a b => f a ≤ f b) :=
  (List.pairwise_mergeSort (le := fun a b => decide (f a ≤ f b))
    (fun _ _ _ h1 h2 => decide_eq_true (Std.le_trans (of_decide_eq_true h1) (of_decide_eq_true h2)))
    (fun a b => by rw [Bool.or_eq_true, decide_eq_true_eq, decide_eq_true_eq]; exact Std.le_total) l).imp of_decide_eq_true

end WindVerif
