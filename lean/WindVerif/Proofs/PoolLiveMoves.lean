import WindVerif.Proofs.PoolLiveContinuations
/-! Liveness of the pool model (C02): the consumer's steps keep the liveness invariant — general lemmas.

A step of the consumer moves its pc from `c` to `c'` and changes a few fields.  The clauses of the invariant are guarded by
classes of pcs (`cIn`, `rCall`, `getPathPc`, …), so what a step has to show is, class by class, that `c'` asks for nothing
that `c` did not ask for already — at concrete pcs these side conditions are closed by `rfl` (both pcs in the class) or
`nofun` (`c'` outside the class) — or that the step itself provides what is asked. -/
namespace WindVerif.Pool

variable {s t : St} {c c' : CPc}

structure SameR (s t : St) : Prop where
  workers : t.workers = s.workers
  procs : t.procs = s.procs
  cfg : t.cfg = s.cfg
  rpc : t.rpc = s.rpc
  rAlive : t.rAlive = s.rAlive
  replQ : t.replQ = s.replQ

/-- the fields the liveness invariant reads, apart from `cpc`, the lock and the work queue -/
structure SameC (s t : St) : Prop extends SameR s t where
  cur : t.cur = s.cur
  woken : t.woken = s.woken
  batch : t.batch = s.batch
  fpc : t.fpc = s.fpc
  finished : t.finished = s.finished
  fTotal : t.fTotal = s.fTotal
  resQ : t.resQ = s.resQ
  buffer : t.buffer = s.buffer
  wf : t.wf = s.wf
  fRun : t.fRun = s.fRun

def rJoinPc : CPc → Bool
  | .rPutNone | .rStopSet | .rJoin => true
  | _ => false

theorem rJoinPc_iff (c : CPc) : rJoinPc c = true ↔ (c = .rPutNone ∨ c = .rStopSet ∨ c = .rJoin) := by
  cases c <;> simp [rJoinPc]

theorem ConsI_gen (h : ConsI s) (hc : s.cpc = c) (hc' : t.cpc = c') (e1 : t.cur = s.cur) (e2 : t.buffer = s.buffer)
    (e3 : t.wf = s.wf) (e4 : t.cfg = s.cfg)
    (k1 : setupPc c' = true → setupPc c = true)
    (k2 : exitPhasePc c' = true → exitPhasePc c = true)
    (k3 : t.woken = false ∨ cIn c' = true)
    (tk : getPathPc c' = true → t.batch = [] → t.woken = false → t.fpc = .idle → t.finished = t.fTotal → none ∈ t.resQ)
    (k5 : loopPc c' = true → flowChk c' = false → (t.fRun = false ∨ c' = .flowClear) → bufferFull s = true)
    (k6 : runSetPc c' = true → t.fRun = true) : ConsI t := by
  subst hc hc'
  obtain ⟨c1, c2, c3, c4, c5, c6, c7⟩ := h
  constructor
  · rw [e1]; intro a; exact c1 (k1 a)
  · rw [e1]; intro a; exact c2 (k2 a)
  · intro a
    rcases k3 with k | k
    · rw [k] at a; cases a
    · exact k
  · exact tk
  · rw [e3, e2]; exact c5
  · rw [bufferFull_congr e4 e2]; exact k5
  · exact k6

theorem ConsI_move (h : ConsI s) (hc : s.cpc = c) (hc' : t.cpc = c') (e : SameC s t)
    (k1 : setupPc c' = true → setupPc c = true)
    (k2 : exitPhasePc c' = true → exitPhasePc c = true)
    (k3 : cIn c = true → cIn c' = true)
    (k4 : getPathPc c' = true → s.batch = [] → s.woken = false → s.fpc = .idle → s.finished = s.fTotal →
      getPathPc c = true)
    (k5 : loopPc c' = true → flowChk c' = false → (s.fRun = false ∨ c' = .flowClear) →
      (loopPc c = true ∧ flowChk c = false ∧ (s.fRun = false ∨ c = .flowClear)))
    (k6 : runSetPc c' = true → runSetPc c = true) : ConsI t := by
  subst hc
  refine ConsI_gen h rfl hc' e.cur e.buffer e.wf e.cfg k1 k2 ?_ ?_ ?_ ?_
  · rw [e.woken]
    cases hw : s.woken
    · exact .inl rfl
    · exact .inr (k3 (h.wokenPc hw))
  · rw [e.batch, e.woken, e.fpc, e.finished, e.fTotal, e.resQ]
    intro a b c d f; exact h.token (k4 a b c d f) b c d f
  · rw [e.fRun]
    intro a b c
    obtain ⟨x, y, z⟩ := k5 a b c
    exact h.flow x y z
  · rw [e.fRun]; intro a; exact h.runSetup (k6 a)

/-- the parts other than the lock's and the consumer's, along a step that keeps the workers, the replace thread and the
phase -/
theorem Rest_move (hV : LiveInv s) (hc : s.cpc = c) (hc' : t.cpc = c') (e : SameR s t)
    (hq : noneCount t.workQ = noneCount s.workQ) (hq' : none ∈ t.workQ → none ∈ s.workQ)
    (a2 : idxV c' s.procs.length)
    (a3 : rCall c' = true → s.cfg.factory = true → rCall c = true ∨ s.rAlive = true)
    (a4 : rStopping c' = rStopping c)
    (a5 : exitPhasePc c' = exitPhasePc c) (a6 : rJoinPc c' = true → rJoinPc c = true ∨ s.cfg.factory = true)
    (a7 : stopsV c' s.procs.length = stopsV c s.procs.length) : ProcI t ∧ ReplI t ∧ CntI t := by
  subst hc hc'
  refine ⟨ProcI_congr hV.pr e.procs e.workers e.cfg (by rw [e.rpc]; exact fun _ h => h) a2,
    ReplI_congr hV.rp e.cfg e.rAlive e.rpc e.replQ e.workers e.procs (fun _ => hq') a3 a4 a5 ?_,
    CntI_congr' hV.ct (liveCnt_congr e.workers) (by rw [pending_congr e.rpc (by rw [e.replQ])]) (by rw [e.procs]) e.cfg
      hq a5 (by unfold stopsSent; rw [e.procs]; exact a7)⟩
  intro hh
  rcases a6 ((rJoinPc_iff _).2 hh) with h1 | h1
  · exact Or.inl ((rJoinPc_iff _).1 h1)
  · exact Or.inr h1

/-- … between two pcs at which the replace thread serves the call: these parts do not look at the pc -/
theorem Rest_call (hV : LiveInv s) (hc : s.cpc = c) (hc' : t.cpc = c') (e : SameR s t)
    (hq : noneCount t.workQ = noneCount s.workQ) (hq' : none ∈ t.workQ → none ∈ s.workQ)
    (hr : rCall c = true) (hr' : rCall c' = true) (a6 : rJoinPc c' = true → s.cfg.factory = true) :
    ProcI t ∧ ReplI t ∧ CntI t := by
  obtain ⟨p1, p2, _, p4⟩ := rCall_cls hr s.procs.length
  obtain ⟨q1, q2, q3, q4⟩ := rCall_cls hr' s.procs.length
  exact Rest_move hV hc hc' e hq hq' q3 (fun _ _ => .inl hr) (q1.trans p1.symm) (q2.trans p2.symm)
    (fun h => .inr (a6 h)) (q4.trans p4.symm)

theorem LiveInv_of (h : ProcI t ∧ ReplI t ∧ CntI t) (hlk : LockI t) (hcs : ConsI t) : LiveInv t :=
  ⟨hlk, h.1, h.2.1, hcs, h.2.2⟩

theorem flow_keep {x : Prop} (h1 : loopPc c = true) (h2 : flowChk c = false) (h3 : c' ≠ .flowClear) :
    loopPc c' = true → flowChk c' = false → (x ∨ c' = .flowClear) → loopPc c = true ∧ flowChk c = false ∧ (x ∨ c = .flowClear) :=
  fun _ _ h => ⟨h1, h2, .inl (h.resolve_right h3)⟩

/-- a step of the consumer that moves the pc and writes only fields the invariant does not read -/
theorem LiveInv_move (hV : LiveInv s) (hc : s.cpc = c) {snd fst rr rs : Bool} {dc : Nat} (a1 : cIn c' = cIn c)
    (a2 : idxV c' s.procs.length)
    (a3 : rCall c' = true → s.cfg.factory = true → rCall c = true ∨ s.rAlive = true)
    (a4 : rStopping c' = rStopping c)
    (a5 : exitPhasePc c' = exitPhasePc c) (a6 : rJoinPc c' = true → rJoinPc c = true ∨ s.cfg.factory = true)
    (a7 : stopsV c' s.procs.length = stopsV c s.procs.length)
    (k1 : setupPc c' = true → setupPc c = true)
    (k4 : getPathPc c' = true → s.batch = [] → s.woken = false → s.fpc = .idle → s.finished = s.fTotal →
      getPathPc c = true)
    (k5 : loopPc c' = true → flowChk c' = false → (s.fRun = false ∨ c' = .flowClear) →
      (loopPc c = true ∧ flowChk c = false ∧ (s.fRun = false ∨ c = .flowClear)))
    (k6 : runSetPc c' = true → runSetPc c = true) :
    LiveInv { s with sending := snd, dataCnt := dc, fStop := fst, rRun := rr, rStop := rs, cpc := c' } :=
  LiveInv_of (Rest_move hV hc rfl ⟨rfl, rfl, rfl, rfl, rfl, rfl⟩ rfl id a2 a3 a4 a5 a6 a7)
    (LockI_congr hV.lk rfl (by rw [hc]; exact a1) rfl)
    (ConsI_move hV.cs hc rfl ⟨⟨rfl, rfl, rfl, rfl, rfl, rfl⟩, rfl, rfl, rfl, rfl, rfl, rfl, rfl, rfl, rfl, rfl⟩ k1
      (by rw [a5]; exact id) (by rw [a1]; exact id) k4 k5 k6)

theorem LiveInv_moveCall (hV : LiveInv s) (hc : s.cpc = c) {snd fst rr rs : Bool} {dc : Nat} (hr : rCall c = true)
    (hr' : rCall c' = true) (a6 : rJoinPc c' = true → s.cfg.factory = true)
    (a1 : cIn c' = cIn c) (k1 : setupPc c' = true → setupPc c = true)
    (k4 : getPathPc c' = true → s.batch = [] → s.woken = false → s.fpc = .idle → s.finished = s.fTotal →
      getPathPc c = true)
    (k5 : loopPc c' = true → flowChk c' = false → (s.fRun = false ∨ c' = .flowClear) →
      (loopPc c = true ∧ flowChk c = false ∧ (s.fRun = false ∨ c = .flowClear)))
    (k6 : runSetPc c' = true → runSetPc c = true) :
    LiveInv { s with sending := snd, dataCnt := dc, fStop := fst, rRun := rr, rStop := rs, cpc := c' } := by
  obtain ⟨p1, p2, _, p4⟩ := rCall_cls hr s.procs.length
  obtain ⟨q1, q2, q3, q4⟩ := rCall_cls hr' s.procs.length
  exact LiveInv_move hV hc a1 q3 (fun _ _ => .inl hr) (q1.trans p1.symm) (q2.trans p2.symm) (fun h => .inr (a6 h))
    (q4.trans p4.symm) k1 k4 k5 k6

theorem LockI_acquire (h : LockI s) (h0 : s.lock = none) (h1 : t.lock = some .c) (h2 : cIn t.cpc = true)
    (h3 : t.workers = s.workers) : LockI t := by
  obtain ⟨l1, l2, l3, l4⟩ := h
  constructor
  · intro x hx; rw [h1] at hx; cases hx; exact Or.inl ⟨rfl, h2⟩
  · intro _; exact h1
  · rw [h3]; intro x hx hin; have := l3 x hx hin; rw [h0] at this; cases this
  · rw [h3]; exact l4

theorem LockI_release (h : LockI s) (h0 : cIn s.cpc = true) (h1 : t.lock = none) (h2 : cIn t.cpc = false)
    (h3 : t.workers = s.workers) : LockI t := by
  obtain ⟨l1, l2, l3, l4⟩ := h
  constructor
  · intro x hx; rw [h1] at hx; cases hx
  · intro hc; rw [h2] at hc; cases hc
  · rw [h3]; intro x hx hin; have := l3 x hx hin; rw [l2 h0] at this; cases this
  · rw [h3]; exact l4

/-- a step of the consumer within a call, as an update of the fields such steps write: the lock is kept, taken or given
back (`hl`), and the clauses of the consumer's part that the new pc asks for are due -/
theorem LiveInv_updCall (hV : LiveInv s) (hc : s.cpc = c) {l : Option Tid} {q : List (Option Nat)} {b : List Nat}
    {w r fst fa : Bool} {fp : FPc} {ft fn : Nat} (hr : rCall c = true) (hr' : rCall c' = true)
    (a6 : rJoinPc c' = false)
    (hl : (l = s.lock ∧ cIn c' = cIn c) ∨ (s.lock = none ∧ l = some .c ∧ cIn c' = true) ∨
      (cIn c = true ∧ l = none ∧ cIn c' = false))
    (k1 : setupPc c' = true → setupPc c = true) (k3 : w = false ∨ cIn c' = true)
    (tk : getPathPc c' = true → b = [] → w = false → fp = .idle → s.finished = ft → none ∈ q)
    (k5 : loopPc c' = true → flowChk c' = false → (r = false ∨ c' = .flowClear) → bufferFull s = true)
    (k6 : runSetPc c' = true → r = true) :
    LiveInv { s with lock := l, resQ := q, batch := b, woken := w, fRun := r, fpc := fp, fTotal := ft, fStop := fst,
                     fAlive := fa, fNext := fn, cpc := c' } := by
  refine LiveInv_of (Rest_call hV hc rfl ⟨rfl, rfl, rfl, rfl, rfl, rfl⟩ rfl id hr hr' (by rw [a6]; exact nofun)) ?_
    (ConsI_gen hV.cs hc rfl rfl rfl rfl rfl k1 (by rw [(rCall_cls hr' 0).2.1]; exact nofun) k3 tk k5 k6)
  rcases hl with ⟨rfl, h⟩ | ⟨h0, rfl, h⟩ | ⟨h0, rfl, h⟩
  · exact LockI_congr hV.lk rfl (by rw [hc]; exact h) rfl
  · exact LockI_acquire hV.lk h0 rfl h rfl
  · exact LockI_release hV.lk (by rw [hc]; exact h0) rfl h rfl

theorem AfterPc.cls (h : AfterPc c) :
    rCall c = true ∧ cIn c = false ∧ setupPc c = false ∧ getPathPc c = false ∧ runSetPc c = false ∧ rJoinPc c = false := by
  rcases h with h | h | h | ⟨wid, h⟩ <;> subst h <;> exact ⟨rfl, rfl, rfl, rfl, rfl, rfl⟩

/-- the consumer has results in its hands (`s0`: the state in which `_get_results` returns them, reached from `s` at a pc
of the call): processing them keeps the invariant, whatever the lock's part `lk` needs being left to the caller -/
theorem LiveInv_afterResults (hV : LiveInv s) (hc : s.cpc = c) (hr : rCall c = true) {s0 : St} (e : SameR s s0)
    (eq : s0.workQ = s.workQ) (ebuf : s0.buffer = s.buffer) (ewf : s0.wf = s.wf) {call : Call} (hcur : s0.cur = some call)
    (hun : call.ordered = false → s0.fRun = true)
    (lk : ∀ t : St, t.lock = s0.lock → t.workers = s0.workers → cIn t.cpc = false → LockI t) :
    LiveInv (afterResults s0) := by
  have hwf : s0.wf ∉ s0.buffer := by rw [ewf, ebuf]; exact hV.cs.wfBuf
  obtain ⟨buf', wf', fin', out', c', har, hw', hcs⟩ := afterResults_spec s0 call hcur hwf
  have hcl : AfterPc c' := by
    rcases hcs with ⟨_, ⟨h, _⟩ | ⟨h, _⟩⟩ | ⟨_, h, _⟩ | ⟨wid, h, _⟩
    · exact Or.inl h
    · exact Or.inr (Or.inl h)
    · exact Or.inr (Or.inr (Or.inl h))
    · exact Or.inr (Or.inr (Or.inr ⟨wid, h⟩))
  obtain ⟨q1, q2, q3, q4, q5, q6⟩ := hcl.cls
  have hbf : loopPc c' = true → flowChk c' = false → (s0.fRun = false ∨ c' = .flowClear) →
      bufferFull (afterResults s0) = true := by
    intro a b x
    rcases hcs with ⟨_, ⟨h, hb⟩ | ⟨h, _⟩⟩ | ⟨ho, h, _⟩ | ⟨wid, h, _⟩
    · exact hb
    · rw [h] at b; cases b
    · rw [hun ho, h] at x; rcases x with x | x <;> cases x
    · rw [h] at a; cases a
  rw [har] at hbf ⊢
  refine LiveInv_of (Rest_call hV hc rfl ⟨e.workers, e.procs, e.cfg, e.rpc, e.rAlive, e.replQ⟩ (by rw [← eq]) (by rw [← eq]; exact id)
    hr q1 (by rw [q6]; exact nofun)) (lk _ rfl rfl q2) ⟨?_, ?_, nofun, ?_, hw', hbf, ?_⟩
  · rw [q3]; exact nofun
  · rw [(rCall_cls q1 0).2.1]; exact nofun
  · rw [q4]; exact nofun
  · rw [q5]; exact nofun

theorem noneCount_eq_zero {q : List (Option Nat)} (h : none ∉ q) : noneCount q = 0 := by
  unfold noneCount
  rw [List.length_eq_zero_iff, List.filter_eq_nil_iff]
  intro a ha
  cases a with
  | none => exact absurd ha h
  | some i => simp

theorem LiveInv_toNextCall (hV : LiveInv s) (hc : s.cpc = c) (h1 : cIn c = false) (h2 : exitPhasePc c = false)
    (h3 : rStopping c = true → s.rAlive = false) : LiveInv (toNextCall s) := by
  subst hc
  have h3 : ¬ (rStopping s.cpc = true ∧ s.rAlive = true) := fun x => by rw [h3 x.1] at x; cases x.2
  have hwk := woken_false_of hV h1
  obtain ⟨lk, pr, rp, cs, ct⟩ := hV
  have htok : noneCount s.replQ = 0 := by have := rp.tokR; rw [if_neg h3] at this; exact this
  have hst : stopsSent s = 0 := stopsV_of_not_exit h2 s.procs.length
  rcases toNextCall_cases s with ⟨call, rest, _, heq⟩ | ⟨_, heq⟩ <;> rw [heq]
  · -- a call begins, at `rInitSet` (factory pool) or `fInitSet`: a setup pc, no class of pcs of the running call holds
    cases hf : s.cfg.factory <;> simp only [Bool.false_eq_true, if_true, if_false] <;>
      exact ⟨LockI_congr lk rfl (by rw [h1]; rfl) rfl, ProcI_congr pr rfl rfl rfl (fun _ h => h) trivial,
        ⟨fun h x => (by cases hf.symm.trans h <;> cases x), rp.rNotIdle, htok,
          fun x hx hg hin => (rp.exitedL x hx hg hin).imp_left (by rw [h2]; exact nofun), fun _ => rp.noStop h2, nofun⟩,
        ⟨fun _ => rfl, nofun, nofun, nofun, nofun, nofun, nofun⟩,
        CntI_congr' ct rfl rfl rfl rfl rfl (by rw [h2]; rfl) hst.symm⟩
  · -- `__exit__` begins: no stop order has been put, none is in the queue
    have hn0 := noneCount_eq_zero (rp.noStop h2)
    have hcnt : ∀ c', stopsV c' s.procs.length = 0 → CntI { s with cur := none, cpc := c' } := by
      intro c' h0
      have k1 := ct.cnt1
      have hss : stopsSent { s with cur := none, cpc := c' } = 0 := h0
      refine ⟨k1, fun _ => ?_, fun _ => ?_, fun hf => ?_⟩ <;> rw [hss]
      · show liveCnt s + 0 ≤ noneCount s.workQ + s.procs.length; omega
      · exact Nat.le_of_eq hn0
      · exact hst ▸ ct.cnt4 hf
    by_cases hn : s.procs.length = 0 <;> simp only [hn, if_true, if_false]
    · exact ⟨LockI_congr lk rfl (by rw [h1]; rfl) rfl, ProcI_congr pr rfl rfl rfl (fun _ h => h) trivial,
        ⟨fun _ => nofun, rp.rNotIdle, htok, fun _ _ _ _ => .inl rfl, nofun, nofun⟩,
        ⟨nofun, fun _ => rfl, fun h => (nomatch hwk.symm.trans h), nofun, cs.wfBuf, nofun, nofun⟩, hcnt _ hn⟩
    · exact ⟨LockI_congr lk rfl (by rw [h1]; rfl) rfl,
        ProcI_congr pr rfl rfl rfl (fun _ h => h) (Nat.pos_of_ne_zero hn),
        ⟨fun _ => nofun, rp.rNotIdle, htok, fun _ _ _ _ => .inl rfl, nofun, nofun⟩,
        ⟨nofun, fun _ => rfl, fun h => (nomatch hwk.symm.trans h), nofun, cs.wfBuf, nofun, nofun⟩, hcnt _ rfl⟩

end WindVerif.Pool
