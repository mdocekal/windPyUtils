import WindVerif.Model.ForkFileFd
/-! Proofs for the descriptor-budget abstraction of `reopen_if_needed` (C18). -/
namespace WindVerif.ForkFileFd

theorem close_first_never_fails (p : P) (d fresh : Nat) (hh : p.handle = .inherited d) :
    (reopenCloseFirst p fresh).2 = true ∧ (reopenCloseFirst p fresh).1.handle = .own fresh ∧
      (reopenCloseFirst p fresh).1.claimed = true ∧ (reopenCloseFirst p fresh).1.free = p.free := by
  simp [reopenCloseFirst, hh, close, open']

theorem open_first_fails_when_full (p : P) (d fresh : Nat) (hh : p.handle = .inherited d) (hf : p.free = 0) :
    (reopenOpenFirst p fresh).2 = false ∧ (reopenOpenFirst p fresh).1.handle = .inherited d ∧
      (reopenOpenFirst p fresh).1.claimed = true := by
  simp [reopenOpenFirst, hh, hf]

theorem accesses_stuck (reopen : P → Nat → P × Bool) (p : P) (d : Nat) (hc : p.claimed = true)
    (hh : p.handle = .inherited d) (fs : List Nat) :
    accesses reopen p fs = (p, List.replicate fs.length (some d)) := by
  induction fs with
  | nil => rfl
  | cons f fs ih => simp [accesses, access, hc, hh, Handle.desc, ih, List.replicate_succ]

theorem claimed_inherited_is_stuck (reopen : P → Nat → P × Bool) (parent child : P) (d : Nat)
    (hp : parent.handle = .own d) (hc : child.claimed = true) (hh : child.handle = .inherited d) (fs : List Nat) :
    (accesses reopen child fs).1 = child ∧ ∀ u ∈ (accesses reopen child fs).2, u = parent.handle.desc := by
  rw [accesses_stuck reopen child d hc hh fs, hp]
  refine ⟨rfl, ?_⟩
  intro u hu
  exact (List.mem_replicate.mp hu).2

theorem open_first_ok_when_room (p : P) (fresh : Nat) (hf : p.free ≥ 1) :
    reopenOpenFirst p fresh = reopenCloseFirst p fresh := by
  cases p with
  | mk free handle claimed =>
    cases handle with
    | inherited d =>
      have h1 : free - 1 + 1 = free := by simp at hf; omega
      simp at hf
      simp [reopenOpenFirst, reopenCloseFirst, close, open', hf, h1]
    | own d => rfl
    | none => rfl

end WindVerif.ForkFileFd
