import WindVerif.Proofs.FMapInv
/-! Progress: in every reachable state in which the caller has not finished, some thread can move. -/
namespace WindVerif.FMap

theorem stepW_put_enabled {cfg : Cfg} {s : St} (h : Main cfg s) {w : Worker} (hw : w ∈ s.workers) (hpc : w.pc = .put) :
    (stepW s w.wid).isSome := by
  have hg : getWorker s w.wid = some w := find_wid_of_mem (wids_nodup h.wids) hw
  have hh := (h.held_put w hw).1 hpc
  unfold stepW
  simp only [hg, hpc]
  cases hwh : w.held with
  | none => exact absurd hwh hh
  | some c => simp

theorem stepW_get_enabled {cfg : Cfg} {s : St} (h : Main cfg s) {w : Worker} (hw : w ∈ s.workers) (hpc : w.pc = .get)
    (hq : s.workQ ≠ []) : (stepW s w.wid).isSome := by
  have hg : getWorker s w.wid = some w := find_wid_of_mem (wids_nodup h.wids) hw
  unfold stepW
  simp only [hg, hpc]
  cases hwq : s.workQ with
  | nil => exact absurd hwq hq
  | cons a r => cases a <;> simp

theorem worker_enabled {cfg : Cfg} {s : St} (h : Main cfg s) (hns : ∀ i, s.ppc ≠ .start i) (hl : 0 < live s.workers)
    (hq : s.workQ ≠ []) : ∃ t, (step s t).isSome := by
  obtain ⟨w, hw, hne⟩ := live_pos_iff.1 hl
  refine ⟨.w w.wid, ?_⟩
  show (stepW s w.wid).isSome
  cases hpc : w.pc with
  | notStarted => exact absurd hpc (no_notStarted h hns w hw)
  | get => exact stepW_get_enabled h hw hpc hq
  | put => exact stepW_put_enabled h hw hpc
  | exited => exact absurd hpc hne

theorem isSome_ite {α : Type} {c : Prop} [Decidable c] {a b : Option α} (ha : a.isSome) (hb : b.isSome) :
    (if c then a else b).isSome := by
  split <;> assumption

theorem queue_ne_nil_of_full {s : St} (hc : 1 ≤ s.cfg.workCap) (hf : s.workQ.length ≥ s.cfg.workCap) : s.workQ ≠ [] := by
  intro h; rw [h] at hf; simp at hf; omega

theorem progress_of_inv {cfg : Cfg} (hw1 : 1 ≤ cfg.nWorkers) (hw2 : 1 ≤ cfg.workCap) {s : St} (h : Inv cfg s)
    (hnd : s.ppc ≠ .done) : ∃ t, (step s t).isSome := by
  have hm := h.toMain
  have hcap : 1 ≤ s.cfg.workCap := by rw [hm.cfg_eq]; exact hw2
  have hph := hm.phase; unfold PhaseOK at hph
  have hlen : s.workers.length = s.base + cfg.nWorkers := by
    rcases hm.len with h' | h'
    · exact h'
    · exact absurd h'.2 hnd
  cases hp : s.ppc with
  | start i =>
    simp only [hp] at hph
    obtain ⟨w, hg⟩ := find_wid_isSome hm.wids (i := s.base + i) (hlen ▸ Nat.add_lt_add_left hph.1 _)
    refine ⟨.p, ?_⟩
    show (stepP s).isSome
    rw [stepP_start hp, show getWorker s (s.base + i) = some w from hg]
    exact isSome_ite rfl (isSome_ite (isSome_ite rfl rfl) rfl)
  | put =>
    by_cases hf : s.workQ.length ≥ s.cfg.workCap
    · apply worker_enabled hm (by simp [hp]) _ (queue_ne_nil_of_full hcap hf)
      have := hm.count; rw [hp] at this
      rw [show live s.workers = _ from this]
      exact Nat.lt_of_lt_of_le hw1 (Nat.le_add_right _ _)
    · refine ⟨.p, ?_⟩
      show (stepP s).isSome
      rw [stepP_put hp, if_neg hf]; rfl
  | nowait =>
    refine ⟨.p, ?_⟩
    show (stepP s).isSome
    cases hq : s.resQ with
    | cons i r => rw [stepP_nowait_cons hp hq]; exact isSome_ite rfl rfl
    | nil => rw [stepP_nowait_nil hp hq]; exact isSome_ite rfl rfl
  | stopPut i =>
    simp only [hp] at hph
    by_cases hf : s.workQ.length ≥ s.cfg.workCap
    · apply worker_enabled hm (by simp [hp]) _ (queue_ne_nil_of_full hcap hf)
      have := hm.count; rw [hp] at this
      refine Nat.lt_of_add_lt_add_right (n := i) ?_
      rw [Nat.zero_add, show live s.workers + i = _ from this]
      exact Nat.lt_of_lt_of_le hph.1 (Nat.le_add_right _ _)
    · refine ⟨.p, ?_⟩
      show (stepP s).isSome
      rw [stepP_stopPut hp, if_neg hf]
      exact isSome_ite rfl (isSome_ite rfl rfl)
  | finalGet =>
    cases hq : s.resQ with
    | cons i r =>
      refine ⟨.p, ?_⟩
      show (stepP s).isSome
      rw [stepP_finalGet hp, hq]; rfl
    | nil =>
      have hlt := h.strict hp
      have hfin := hm.fin
      have hcons := hm.cons
      rw [hq] at hcons
      -- some chunk is in the work queue or held by a worker
      have hex : (∃ c, c ∈ chunksQ s.workQ) ∨ (∃ c, c ∈ heldL s.workers) := by
        cases hmm : cfg.mulP
        · have hg := hm.modeF hmm
          rw [hg] at hfin hcons
          simp only [List.length_nil, Nat.zero_add] at hfin
          have hmem : s.wf ∈ List.range s.dataCnt := List.mem_range.2 (hfin ▸ hlt)
          rw [← hcons.mem_iff] at hmem
          simp only [List.append_nil, List.mem_append, List.mem_range, Nat.lt_irrefl, or_false] at hmem
          rcases hmem with (h1 | h1) | h1
          · exact Or.inl ⟨_, h1⟩
          · exact Or.inr ⟨_, h1⟩
          · exact absurd h1 hm.wfbuf
        · obtain ⟨hb, hwf⟩ := hm.modeP hmm
          have hl := hcons.length_eq
          rw [hb, hwf] at hl
          simp only [List.length_append, List.length_nil, List.length_range, Nat.add_zero] at hl
          by_cases hc : chunksQ s.workQ = []
          · right
            have : heldL s.workers ≠ [] := by
              intro hh; rw [hc, hh] at hl; simp at hl; omega
            obtain ⟨c, hc'⟩ := List.exists_mem_of_ne_nil _ this
            exact ⟨c, hc'⟩
          · left
            obtain ⟨c, hc'⟩ := List.exists_mem_of_ne_nil _ hc
            exact ⟨c, hc'⟩
      rcases hex with ⟨c, hc⟩ | ⟨c, hc⟩
      · have hsome : some c ∈ s.workQ := mem_chunksQ.1 hc
        have hne : s.workQ ≠ [] := List.ne_nil_of_mem hsome
        apply worker_enabled hm (by simp [hp]) _ hne
        have : ¬ live s.workers < cfg.nWorkers := by
          intro hl
          have := hm.exitedQ hl _ hsome
          cases this
        exact Nat.lt_of_lt_of_le hw1 (Nat.not_lt.1 this)
      · simp only [heldL, List.mem_filterMap] at hc
        obtain ⟨w, hw, hwh⟩ := hc
        have hpc : w.pc = .put := (hm.held_put w hw).2 (by rw [hwh]; simp)
        exact ⟨.w w.wid, stepW_put_enabled hm hw hpc⟩
  | join i =>
    simp only [hp] at hph
    by_cases hex : exitedW s (s.base + i) = true
    · refine ⟨.p, ?_⟩
      show (stepP s).isSome
      rw [stepP_join hp, if_pos hex]
      exact isSome_ite rfl (isSome_ite rfl rfl)
    · obtain ⟨w, hg⟩ := find_wid_isSome hm.wids (i := s.base + i) (hlen ▸ Nat.add_lt_add_left hph.1 _)
      have hw : w ∈ s.workers := List.mem_of_find?_eq_some hg
      have hne : w.pc ≠ .exited := by
        intro hpc
        apply hex
        unfold exitedW getWorker
        simp [hg, hpc]
      have hl : 0 < live s.workers := live_pos_iff.2 ⟨w, hw, hne⟩
      apply worker_enabled hm (by simp [hp]) hl
      intro hq
      have := hm.count; rw [hp, hq] at this
      rw [Nat.add_right_cancel (this.trans (Nat.zero_add _).symm)] at hl
      exact Nat.lt_irrefl 0 hl
  | done => exact absurd hp hnd

end WindVerif.FMap
