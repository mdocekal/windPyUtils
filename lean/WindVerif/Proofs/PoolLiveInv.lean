import WindVerif.Spec.Pool
import WindVerif.Proofs.PoolLifeConsumer
/-! Liveness of the pool model (C02): the liveness invariant `LiveInv` and basic facts. -/
namespace WindVerif.Pool

/-- the consumer holds the lock -/
def cIn : CPc → Bool
  | .qsize2 | .getNowait | .lockRel => true
  | _ => false

/-- a worker holds the lock -/
def wIn : WPc → Bool
  | .putNowait | .lockRel => true
  | _ => false

/-- in a factory pool the replace thread is alive and has no stop token -/
def rCall : CPc → Bool
  | .fInitSet | .wrSending | .wrDataCnt | .fStart | .rdSending | .rdDataCnt | .qsize1 | .lockAcq | .qsize2 | .getNowait
  | .lockRel | .getBlock | .flowClear | .flowIsSet | .flowSet | .fStopSet | .fJoin | .rPutNone | .midReady _ _ => true
  | _ => false

def rStopping : CPc → Bool
  | .rStopSet | .rJoin => true
  | _ => false

def exitPhasePc : CPc → Bool
  | .exitPut _ | .exitJoin _ | .done => true
  | _ => false

def setupPc : CPc → Bool
  | .rInitSet | .rStart | .fInitSet | .wrSending | .wrDataCnt | .fStart => true
  | _ => false

def runSetPc : CPc → Bool
  | .wrSending | .wrDataCnt | .fStart => true
  | _ => false

def getPathPc : CPc → Bool
  | .qsize1 | .lockAcq | .qsize2 | .getNowait | .lockRel | .getBlock => true
  | _ => false

def loopPc : CPc → Bool
  | .rdSending | .rdDataCnt | .qsize1 | .lockAcq | .qsize2 | .getNowait | .lockRel | .getBlock
  | .flowClear | .flowIsSet | .flowSet => true
  | _ => false

def flowChk : CPc → Bool
  | .flowIsSet | .flowSet => true
  | _ => false

/-- workers that have not left their loop (`gone`: exited, or only `end()` left) -/
def liveCnt (s : St) : Nat := s.workers.countP (fun w => !gone w.pc)

/-- no worker is inside `end()` (between the end of its loop and its exit) -/
def NoEnding (s : St) : Prop := ∀ w ∈ s.workers, w.pc ≠ .ending

theorem exited_of_gone_noEnding {s : St} (hE : NoEnding s) {w : Worker} (hw : w ∈ s.workers) (hg : gone w.pc = true) :
    w.pc = .exited := by
  cases hpc : w.pc <;> rw [hpc] at hg <;> first | rfl | cases hg | skip
  exact absurd hpc (hE w hw)

theorem not_gone_of_ne {w : Worker} (h1 : w.pc ≠ .exited) (h2 : w.pc ≠ .ending) : gone w.pc = false := by
  cases hpc : w.pc <;> first | rfl | exact absurd hpc h1 | exact absurd hpc h2

/-- stop orders `__exit__` has put so far -/
def stopsV (c : CPc) (n : Nat) : Nat :=
  match c with
  | .exitPut i => i
  | .exitJoin _ | .done => n
  | _ => 0

def stopsSent (s : St) : Nat := stopsV s.cpc s.procs.length

def idxV (c : CPc) (n : Nat) : Prop :=
  match c with
  | .enterStart i | .readyWait i | .exitPut i | .exitJoin i => i < n
  | _ => True

structure LockI (s : St) : Prop where
  lockH : ∀ t, s.lock = some t → (t = .c ∧ cIn s.cpc = true) ∨ ∃ w ∈ s.workers, t = .w w.wid ∧ wIn w.pc = true
  lockC : cIn s.cpc = true → s.lock = some .c
  lockW : ∀ w ∈ s.workers, wIn w.pc = true → s.lock = some (.w w.wid)
  heldOf : ∀ w ∈ s.workers, (w.pc = .lockAcq ∨ w.pc = .putNowait ∨ w.pc = .putBlock ∨ (w.pc = .lockRel ∧ w.full = true)) →
    w.held.isSome

structure ProcI (s : St) : Prop where
  procsEx : ∀ wid ∈ s.procs, ∃ w ∈ s.workers, w.wid = wid
  procsLen : s.procs.length = s.cfg.nWorkers
  idx : idxV s.cpc s.procs.length
  rStartIn : ∀ nw, s.rpc = .start nw → nw ∈ s.procs
  bfPc : ∀ w ∈ s.workers, w.bf = false → (w.pc = .notStarted ∨ w.pc = .bfClear ∨ w.pc = .bfSet)
  retireF : ∀ w ∈ s.workers, w.pc = .retire → s.cfg.factory = true

structure ReplI (s : St) : Prop where
  rLive : s.cfg.factory = true → rCall s.cpc = true → s.rAlive = true
  rNotIdle : s.rAlive = true → s.rpc ≠ .idle
  tokR : noneCount s.replQ = if rStopping s.cpc = true ∧ s.rAlive = true then 1 else 0
  exitedL : ∀ w ∈ s.workers, gone w.pc = true → w.wid ∈ s.procs →
    exitPhasePc s.cpc = true ∨ (s.cfg.factory = true ∧ w.wid ∈ pending s)
  noStop : exitPhasePc s.cpc = false → none ∉ s.workQ
  rFac : (s.cpc = .rPutNone ∨ s.cpc = .rStopSet ∨ s.cpc = .rJoin) → s.cfg.factory = true

structure ConsI (s : St) : Prop where
  curSome : setupPc s.cpc = true → s.cur.isSome
  curNone : exitPhasePc s.cpc = true → s.cur = none
  wokenPc : s.woken = true → cIn s.cpc = true
  token : getPathPc s.cpc = true → s.batch = [] → s.woken = false → s.fpc = .idle → s.finished = s.fTotal → none ∈ s.resQ
  wfBuf : s.wf ∉ s.buffer
  flow : loopPc s.cpc = true → flowChk s.cpc = false → (s.fRun = false ∨ s.cpc = .flowClear) → bufferFull s = true
  runSetup : runSetPc s.cpc = true → s.fRun = true

/-- counting live workers against stop orders -/
structure CntI (s : St) : Prop where
  cnt1 : liveCnt s + (pending s).length ≤ s.procs.length
  cnt2 : exitPhasePc s.cpc = true → liveCnt s + stopsSent s ≤ noneCount s.workQ + s.procs.length
  cnt3 : exitPhasePc s.cpc = true → noneCount s.workQ ≤ stopsSent s
  cnt4 : s.cfg.factory = false → noneCount s.workQ + s.procs.length ≤ liveCnt s + stopsSent s

structure LiveInv (s : St) : Prop where
  lk : LockI s
  pr : ProcI s
  rp : ReplI s
  cs : ConsI s
  ct : CntI s

/-- the mid-call `until_all_ready()`: the worker the consumer is about to wait for exists; flow control is engaged only in
an ordered call (kept beside `LiveInv`: it talks about the `midReady` pcs only) -/
structure MidI (s : St) : Prop where
  ex : ∀ i wid, s.cpc = .midReady i wid → ∃ w ∈ s.workers, w.wid = wid
  flow : ∀ i wid, s.cpc = .midReady i wid → s.fRun = false → ∃ c, s.cur = some c ∧ c.ordered = true

theorem rCall_cls {c : CPc} (h : rCall c = true) (n : Nat) :
    rStopping c = false ∧ exitPhasePc c = false ∧ idxV c n ∧ stopsV c n = 0 := by
  cases c <;> first | exact ⟨rfl, rfl, trivial, rfl⟩ | cases h

theorem stopsV_of_not_exit {c : CPc} (h : exitPhasePc c = false) (n : Nat) : stopsV c n = 0 := by
  cases c <;> first | rfl | cases h

theorem woken_false_of {s : St} (hV : LiveInv s) (h : cIn s.cpc = false) : s.woken = false := by
  cases hh : s.woken
  · rfl
  · have := hV.cs.wokenPc hh; rw [h] at this; cases this

theorem getWorker_of_mem {s : St} (hnd : (s.workers.map (·.wid)).Nodup) {w : Worker} (hw : w ∈ s.workers) :
    getWorker s w.wid = some w := by
  unfold getWorker
  cases h : s.workers.find? (·.wid = w.wid) with
  | none =>
    rw [List.find?_eq_none] at h
    have := h w hw
    simp at this
  | some x =>
    have hx := List.mem_of_find?_eq_some h
    have hxw : x.wid = w.wid := by simpa using List.find?_some h
    rw [wid_inj hnd hx hw hxw]

theorem getWorker_of_mem' {s : St} (hnd : (s.workers.map (·.wid)).Nodup) {w : Worker} {wid : Nat} (hw : w ∈ s.workers)
    (h : w.wid = wid) : getWorker s wid = some w := by
  subst h; exact getWorker_of_mem hnd hw

/-- every listed worker has an exit code (the test of the repaired `__exit__` on a full queue) ⇒ nobody is alive:
a worker that has not exited is listed -/
theorem liveCnt_zero_of_all {s : St} (hL : LInv s) (h : s.procs.all (workerExited s) = true) : liveCnt s = 0 := by
  unfold liveCnt
  rw [List.countP_eq_zero]
  intro w hw hp
  have hne : gone w.pc = false := by simpa using hp
  have hex := List.all_eq_true.1 h w.wid (hL.listed w hw hne)
  unfold workerExited at hex
  rw [getWorker_of_mem hL.nodup hw] at hex
  exact not_exited_of_not_gone hne (by simpa using hex)

theorem all_exited_of_liveCnt_zero {s : St} (hL : LInv s) (hE : NoEnding s)
    (hpr : ∀ wid ∈ s.procs, ∃ w ∈ s.workers, w.wid = wid)
    (h : liveCnt s = 0) : s.procs.all (workerExited s) = true := by
  rw [List.all_eq_true]
  intro wid hwid
  obtain ⟨w, hw, hww⟩ := hpr wid hwid
  unfold liveCnt at h
  rw [List.countP_eq_zero] at h
  have hpc : w.pc = .exited := exited_of_gone_noEnding hE hw (by simpa using h w hw)
  unfold workerExited
  rw [getWorker_of_mem' hL.nodup hw hww]
  simp [hpc]

theorem capFull_nil (cap : Option Nat) : capFull cap [] = false := by
  cases cap <;> simp [capFull] <;> omega

theorem ne_nil_of_capFull {cap : Option Nat} {q : List (Option Nat)} (h : capFull cap q = true) : q ≠ [] := by
  intro hq; subst hq; rw [capFull_nil] at h; cases h

theorem noneCount_eq_length {q : List (Option Nat)} (h : chunksOf q = []) : noneCount q = q.length := by
  induction q with
  | nil => rfl
  | cons a r ih =>
    cases a with
    | none =>
      have : chunksOf r = [] := by simpa [chunksOf] using h
      simp only [noneCount, List.filter_cons, Option.isNone_none, if_true, List.length_cons] at ih ⊢
      rw [ih this]
    | some i => simp [chunksOf] at h

theorem noneCount_le_length (q : List (Option Nat)) : noneCount q ≤ q.length := by
  unfold noneCount; exact List.length_filter_le _ _

theorem ne_nil_of_noneCount_pos {q : List (Option Nat)} (h : 0 < noneCount q) : q ≠ [] := by
  intro hq; subst hq; simp [noneCount] at h

theorem pending_mem_of_replQ {s : St} {wid : Nat} (h : some wid ∈ s.replQ) : wid ∈ pending s := by
  unfold pending
  apply List.mem_append_right
  exact List.mem_filterMap.2 ⟨some wid, h, rfl⟩

end WindVerif.Pool
