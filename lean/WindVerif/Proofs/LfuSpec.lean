import WindVerif.Proofs.AList
import WindVerif.Proofs.MixinSpec
/-! Theorems about the abstract LFU cache (list of `(key, value, count)` in non-decreasing count order). -/
namespace WindVerif.Cache.LfuSpec
open WindVerif.Cache

@[simp] theorem lookup_nil (k : Key) : lookup [] k = none := rfl

/-- `lookup` repacks every entry as `(key, (value, count))`, which is the entry itself -/
theorem lookup_eq (l : St) (k : Key) : lookup l k = l.lookup k :=
  congrArg (List.lookup k) (List.map_id' l)

theorem lookup_cons (x : Key × Val × Nat) (xs : St) (k : Key) :
    lookup (x :: xs) k = if x.1 = k then some (x.2.1, x.2.2) else lookup xs k := by
  rw [lookup_eq, lookup_eq, al_lookup_cons]
  by_cases h : x.1 = k
  · rw [if_pos h, if_pos h.symm]
  · rw [if_neg h, if_neg (Ne.symm h)]

theorem lookup_eq_none_iff (l : St) (k : Key) : lookup l k = none ↔ k ∉ l.map (·.1) := by
  rw [lookup_eq]
  exact al_lookup_none

theorem lookup_of_mem (l : St) (hn : (l.map (·.1)).Nodup) (e : Key × Val × Nat) (he : e ∈ l) :
    lookup l e.1 = some (e.2.1, e.2.2) := by
  rw [lookup_eq]
  exact al_lookup_of_mem hn he

theorem mem_of_lookup (l : St) (k : Key) (v : Val) (c : Nat) (h : lookup l k = some (v, c)) : (k, v, c) ∈ l :=
  al_mem_of_lookup ((lookup_eq l k).symm.trans h)

/-- the stored values, counts dropped: what the views and `==` show -/
theorem lookup_content (l : St) (k : Key) :
    (l.map fun e => (e.1, e.2.1)).lookup k = (lookup l k).map (·.1) := by
  rw [lookup_eq]
  exact al_lookup_map_snd (·.1) l k

theorem keys_content (l : St) : (l.map fun e => (e.1, e.2.1)).map (·.1) = l.map (·.1) := by
  rw [List.map_map]
  rfl

theorem insertBump_perm (e : Key × Val × Nat) (l : St) : (insertBump e l).Perm (e :: l) := by
  induction l with
  | nil => exact .refl _
  | cons x xs ih =>
    rw [insertBump]
    split
    · exact (ih.cons x).trans (.swap e x xs)
    · exact .refl _

theorem mem_insertBump (e a : Key × Val × Nat) (l : St) : a ∈ insertBump e l ↔ a = e ∨ a ∈ l :=
  (insertBump_perm e l).mem_iff.trans List.mem_cons

theorem bump_keys_perm (k : Key) (nv : Option Val) (l : St) :
    ((bump k nv l).map (·.1)).Perm (l.map (·.1)) := by
  induction l with
  | nil => exact .refl _
  | cons x xs ih =>
    rw [bump]
    split
    · rename_i h
      rw [List.map_cons, h]
      exact (insertBump_perm _ xs).map (·.1)
    · exact ih.cons x.1

theorem lookup_insertBump (e : Key × Val × Nat) (l : St) (h : e.1 ∉ l.map (·.1)) (hn : (l.map (·.1)).Nodup)
    (k' : Key) : lookup (insertBump e l) k' = if e.1 = k' then some (e.2.1, e.2.2) else lookup l k' := by
  rw [lookup_eq, al_lookup_perm (insertBump_perm e l) (List.nodup_cons.2 ⟨h, hn⟩), ← lookup_eq, lookup_cons]

theorem lookup_bump (k : Key) (nv : Option Val) (l : St) (hn : (l.map (·.1)).Nodup) (k' : Key) :
    lookup (bump k nv l) k' =
      if k' = k then (lookup l k).map (fun p => (nv.getD p.1, p.2 + 1)) else lookup l k' := by
  induction l with
  | nil => simp [bump]
  | cons x xs ih =>
    rw [List.map_cons, List.nodup_cons] at hn
    rw [bump]
    split
    · rename_i hx
      rw [lookup_insertBump _ _ (hx ▸ hn.1) hn.2]
      by_cases hk : k' = k
      · simp [hk, hx, lookup_cons]
      · simp [hk, Ne.symm hk, hx, lookup_cons]
    · rename_i hx
      rw [lookup_cons, ih hn.2]
      by_cases hk : k' = k
      · have : ¬ x.1 = k' := hk ▸ hx
        simp [hk, hx, lookup_cons]
      · simp [hk, lookup_cons]

theorem mem_bump_count (k : Key) (nv : Option Val) (l : St) (a : Key × Val × Nat) (h : a ∈ bump k nv l) :
    ∃ a' ∈ l, a'.2.2 ≤ a.2.2 := by
  induction l with
  | nil => simp [bump] at h
  | cons x xs ih =>
    simp only [bump] at h
    split at h
    · rcases (mem_insertBump _ _ _).1 h with rfl | h
      · exact ⟨x, by simp, by simp⟩
      · exact ⟨a, by simp [h], Nat.le_refl _⟩
    · rcases List.mem_cons.1 h with rfl | h
      · exact ⟨a, by simp, Nat.le_refl _⟩
      · obtain ⟨a', h1, h2⟩ := ih h
        exact ⟨a', by simp [h1], h2⟩

abbrev Sorted (l : St) : Prop := l.Pairwise (fun a b => a.2.2 ≤ b.2.2)

theorem sorted_insertBump (e : Key × Val × Nat) (l : St) (h : Sorted l) : Sorted (insertBump e l) := by
  induction l with
  | nil => simp [insertBump, Sorted]
  | cons x xs ih =>
    simp only [Sorted, List.pairwise_cons] at h
    simp only [insertBump]
    split
    · rename_i hx
      simp only [Sorted, List.pairwise_cons]
      refine ⟨?_, ih h.2⟩
      intro a ha
      rcases (mem_insertBump _ _ _).1 ha with rfl | ha
      · omega
      · exact h.1 a ha
    · rename_i hx
      simp only [Sorted, List.pairwise_cons]
      refine ⟨?_, h⟩
      intro a ha
      rcases List.mem_cons.1 ha with rfl | ha
      · omega
      · have := h.1 a ha; omega

theorem sorted_bump (k : Key) (nv : Option Val) (l : St) (h : Sorted l) : Sorted (bump k nv l) := by
  induction l with
  | nil => simp [bump, Sorted]
  | cons x xs ih =>
    simp only [Sorted, List.pairwise_cons] at h
    simp only [bump]
    split
    · exact sorted_insertBump _ _ h.2
    · simp only [Sorted, List.pairwise_cons]
      refine ⟨?_, ih h.2⟩
      intro a ha
      obtain ⟨a', h1, h2⟩ := mem_bump_count _ _ _ _ ha
      have := h.1 a' h1; omega

theorem wf_iff (cap : Nat) (l : St) :
    Wf cap l ↔ (l.map (·.1)).Nodup ∧ l.length ≤ cap ∧ Sorted l ∧ ∀ e ∈ l, 1 ≤ e.2.2 := by
  simp only [Wf, Sorted, List.pairwise_map]

theorem wf_bump (cap : Nat) (k : Key) (nv : Option Val) (l : St) (h : Wf cap l) : Wf cap (bump k nv l) := by
  rw [wf_iff] at h ⊢
  obtain ⟨h1, h2, h3, h4⟩ := h
  have hp := bump_keys_perm k nv l
  refine ⟨hp.nodup_iff.2 h1, ?_, sorted_bump _ _ _ h3, ?_⟩
  · have := hp.length_eq; simp only [List.length_map] at this; omega
  · intro e he
    obtain ⟨a', ha1, ha2⟩ := mem_bump_count _ _ _ _ he
    have := h4 a' ha1; omega

theorem without_insertBump (e : Key × Val × Nat) (l : St) : without (insertBump e l) e.1 = without l e.1 := by
  induction l with
  | nil => simp [insertBump, without]
  | cons x xs ih =>
    simp only [insertBump]
    split
    · simp only [without, List.filter_cons] at ih ⊢
      rw [ih]
    · simp [without, List.filter_cons]

theorem without_bump (k : Key) (nv : Option Val) (l : St) : without (bump k nv l) k = without l k := by
  induction l with
  | nil => simp [bump]
  | cons x xs ih =>
    simp only [bump]
    split
    · rename_i hx
      have := without_insertBump (k, nv.getD x.2.1, x.2.2 + 1) xs
      simp only at this
      rw [this]; simp [without, hx]
    · simp only [without, List.filter_cons] at ih ⊢
      rw [ih]

theorem lookup_without (l : St) (k k' : Key) : lookup (without l k) k' = if k' = k then none else lookup l k' := by
  rw [lookup_eq, lookup_eq]
  exact al_lookup_filter l k k'

theorem get_some {l : St} {k : Key} {v : Val} {c : Nat} (h : lookup l k = some (v, c)) :
    get l k = .ok (bump k none l, v) := by
  simp only [get, h]

theorem get_none {l : St} {k : Key} (h : lookup l k = none) : get l k = .error .keyError := by
  simp only [get, h]

theorem wf_tail (cap : Nat) (x : Key × Val × Nat) (xs : St) (h : Wf cap (x :: xs)) : Wf cap xs := by
  rw [wf_iff] at h ⊢
  obtain ⟨h1, h2, h3, h4⟩ := h
  simp only [List.map_cons, List.nodup_cons] at h1
  simp only [Sorted, List.pairwise_cons] at h3
  simp only [List.length_cons] at h2
  exact ⟨h1.2, by omega, h3.2, fun e he => h4 e (List.mem_cons_of_mem _ he)⟩

theorem wf_cons_one (cap : Nat) (k : Key) (v : Val) (l : St) (h : Wf cap l) (hk : lookup l k = none)
    (hlen : l.length + 1 ≤ cap) : Wf cap ((k, v, 1) :: l) := by
  rw [wf_iff] at h ⊢
  obtain ⟨h1, h2, h3, h4⟩ := h
  rw [lookup_eq_none_iff] at hk
  refine ⟨?_, by simpa using hlen, ?_, ?_⟩
  · simp only [List.map_cons, List.nodup_cons]; exact ⟨hk, h1⟩
  · simp only [Sorted, List.pairwise_cons]; exact ⟨fun a ha => h4 a ha, h3⟩
  · intro e he
    rcases List.mem_cons.1 he with rfl | he
    · exact Nat.le_refl _
    · exact h4 e he

theorem wf_set (cap : Nat) (hc : 1 ≤ cap) (l : St) (k : Key) (v : Val) (h : Wf cap l) :
    ∃ l', set cap l k v = .ok l' ∧ Wf cap l' := by
  unfold set
  split
  · exact ⟨_, rfl, wf_bump cap k (some v) l h⟩
  · rename_i hk
    have hk : lookup l k = none := by simpa using hk
    split
    · rename_i hlen
      match l, h, hk, hlen with
      | [], _, _, hlen => simp at hlen; omega
      | x :: xs, h, hk, hlen =>
        refine ⟨_, rfl, ?_⟩
        have hxs := wf_tail cap x xs h
        have hk' : lookup xs k = none := by
          rw [lookup_eq_none_iff] at hk ⊢
          intro hm; exact hk (by simp only [List.map_cons]; exact List.mem_cons_of_mem _ hm)
        have hl := h.2.1
        simp only [List.length_cons] at hl
        exact wf_cons_one cap k v xs hxs hk' hl
    · rename_i hlen
      exact ⟨_, rfl, wf_cons_one cap k v l h hk (by omega)⟩

theorem wf_without (cap : Nat) (l : St) (k : Key) (h : Wf cap l) : Wf cap (without l k) := by
  rw [wf_iff] at h ⊢
  obtain ⟨h1, h2, h3, h4⟩ := h
  have hs : (without l k).Sublist l := List.filter_sublist
  refine ⟨h1.sublist (hs.map _), ?_, h3.sublist hs, fun e he => h4 e (hs.subset he)⟩
  have := hs.length_le; omega

theorem get_spec (cap : Nat) (l : St) (k : Key) (h : Wf cap l) :
    (∀ v c, lookup l k = some (v, c) → ∃ l', get l k = .ok (l', v) ∧ lookup l' k = some (v, c + 1) ∧
        ∀ k', k' ≠ k → lookup l' k' = lookup l k') ∧
    (lookup l k = none → get l k = .error .keyError) := by
  refine ⟨fun v c hl => ⟨_, get_some hl, ?_, fun k' hk' => by rw [lookup_bump _ _ _ h.1, if_neg hk']⟩, get_none⟩
  rw [lookup_bump _ _ _ h.1, if_pos rfl, hl]
  rfl

theorem set_present (cap : Nat) (l : St) (k : Key) (v : Val) (h : Wf cap l) (c : Nat) (w : Val)
    (hin : lookup l k = some (w, c)) :
    ∃ l', set cap l k v = .ok l' ∧ lookup l' k = some (v, c + 1) ∧ ∀ k', k' ≠ k → lookup l' k' = lookup l k' := by
  refine ⟨bump k (some v) l, by simp [set, hin], ?_, fun k' hk' => by rw [lookup_bump _ _ _ h.1, if_neg hk']⟩
  rw [lookup_bump _ _ _ h.1, if_pos rfl, hin]
  rfl

theorem set_room (cap : Nat) (l : St) (k : Key) (v : Val) (h : Wf cap l) (hnew : lookup l k = none)
    (hroom : l.length < cap) :
    ∃ l', set cap l k v = .ok l' ∧ lookup l' k = some (v, 1) ∧ ∀ k', k' ≠ k → lookup l' k' = lookup l k' := by
  have _ := h
  have : ¬ l.length ≥ cap := by omega
  refine ⟨(k, v, 1) :: l, by simp [set, hnew, this], by simp [lookup_cons], ?_⟩
  intro k' hk'
  have : ¬ k = k' := fun h => hk' h.symm
  simp [lookup_cons, this]

theorem set_evicts_min (cap : Nat) (hc : 1 ≤ cap) (l : St) (k : Key) (v : Val) (h : Wf cap l)
    (hnew : lookup l k = none) (hfull : l.length = cap) :
    ∃ l' victim, set cap l k v = .ok l' ∧ victim ∈ l ∧ (∀ e ∈ l, victim.2.2 ≤ e.2.2) ∧
      lookup l' k = some (v, 1) ∧ lookup l' victim.1 = none ∧
      ∀ k', k' ≠ k → k' ≠ victim.1 → lookup l' k' = lookup l k' := by
  match l, h, hnew, hfull with
  | [], _, _, hfull => simp at hfull; omega
  | x :: xs, h, hnew, hfull =>
    rw [wf_iff] at h
    obtain ⟨h1, h2, h3, h4⟩ := h
    simp only [List.map_cons, List.nodup_cons] at h1
    simp only [Sorted, List.pairwise_cons] at h3
    have hge : cap ≤ xs.length + 1 := by simp only [List.length_cons] at hfull; omega
    have hxk : ¬ x.1 = k := by
      intro hx; rw [lookup_cons] at hnew; simp [hx] at hnew
    have hxk' : ¬ k = x.1 := fun h => hxk h.symm
    refine ⟨(k, v, 1) :: xs, x, by simp [set, hnew, hge], by simp, ?_, by simp [lookup_cons], ?_, ?_⟩
    · intro e he
      rcases List.mem_cons.1 he with rfl | he
      · exact Nat.le_refl _
      · exact h3.1 e he
    · rw [lookup_cons]; simp only [hxk', if_false]
      exact (lookup_eq_none_iff _ _).2 h1.1
    · intro k' hk1 hk2
      have e1 : ¬ k = k' := fun h => hk1 h.symm
      have e2 : ¬ x.1 = k' := fun h => hk2 h.symm
      simp [lookup_cons, e1, e2]

theorem del_spec (cap : Nat) (l : St) (k : Key) (h : Wf cap l) :
    ((lookup l k).isSome → ∃ l', del l k = .ok l' ∧ lookup l' k = none ∧ ∀ k', k' ≠ k → lookup l' k' = lookup l k') ∧
    (lookup l k = none → del l k = .error .keyError) := by
  have _ := h
  constructor
  · intro hs
    refine ⟨without l k, by simp [del, hs], by simp [lookup_without], ?_⟩
    intro k' hk'; simp [lookup_without, hk']
  · intro hl; simp [del, hl]

def SameContent (l l' : St) : Prop :=
  ∀ k, match lookup l k, lookup l' k with
    | some (v, c), some (v', c') => v = v' ∧ c ≤ c'
    | none, none => True
    | _, _ => False

theorem sameContent_iff (l l' : St) : SameContent l l' ↔
    ∀ k, (lookup l k = none → lookup l' k = none) ∧
      (∀ v c, lookup l k = some (v, c) → ∃ c', lookup l' k = some (v, c') ∧ c ≤ c') := by
  constructor
  · intro h k
    have hk := h k
    split at hk
    · rename_i v c v' c' h1 h2
      refine ⟨fun hn => by simp [hn] at h1, fun w d hw => ?_⟩
      rw [h1] at hw
      simp only [Option.some.injEq, Prod.mk.injEq] at hw
      exact ⟨c', by rw [h2, ← hw.1, hk.1], by omega⟩
    · rename_i h1 h2
      exact ⟨fun _ => h2, fun w d hw => by simp [h1] at hw⟩
    · exact hk.elim
  · intro h k
    obtain ⟨h1, h2⟩ := h k
    cases hl : lookup l k with
    | none => rw [h1 hl]; trivial
    | some p =>
      obtain ⟨v, c⟩ := p
      obtain ⟨c', h3, h4⟩ := h2 v c hl
      rw [h3]; exact ⟨rfl, h4⟩

theorem SameContent.refl (l : St) : SameContent l l := by
  rw [sameContent_iff]
  exact fun k => ⟨id, fun v c h => ⟨c, h, Nat.le_refl _⟩⟩

theorem SameContent.trans {l₁ l₂ l₃ : St} (h₁ : SameContent l₁ l₂) (h₂ : SameContent l₂ l₃) : SameContent l₁ l₃ := by
  rw [sameContent_iff] at *
  intro k
  refine ⟨fun h => (h₂ k).1 ((h₁ k).1 h), fun v c h => ?_⟩
  obtain ⟨c', h3, h4⟩ := (h₁ k).2 v c h
  obtain ⟨c'', h5, h6⟩ := (h₂ k).2 v c' h3
  exact ⟨c'', h5, by omega⟩

theorem sameContent_bump (l : St) (k : Key) (hn : (l.map (·.1)).Nodup) : SameContent l (bump k none l) := by
  rw [sameContent_iff]
  intro k'
  rw [lookup_bump k none l hn k']
  by_cases hk : k' = k
  · subst hk
    rw [if_pos rfl]
    exact ⟨fun hl => by rw [hl]; rfl, fun v c hl => ⟨c + 1, by rw [hl]; rfl, Nat.le_succ c⟩⟩
  · rw [if_neg hk]
    exact ⟨id, fun v c h => ⟨c, h, Nat.le_refl _⟩⟩

theorem laws (cap : Nat) : MapLaws (prim cap) (Wf cap) (fun l k => (lookup l k).map (·.1)) SameContent without where
  get_some := fun {l k v} h hv => by
    obtain ⟨⟨_, c⟩, hl, rfl⟩ := Option.map_eq_some_iff.1 hv
    exact ⟨_, get_some hl, sameContent_bump l k h.1, wf_bump cap k none l h⟩
  get_none := fun _ hv => get_none (Option.map_eq_none_iff.1 hv)
  del_get := fun {l l' k v} h hg => by
    cases hl : lookup l k with
    | none => cases (get_none hl).symm.trans hg
    | some p =>
      cases (get_some (v := p.1) (c := p.2) hl).symm.trans hg
      have hb : (lookup (bump k none l) k).isSome := by
        rw [lookup_bump _ _ _ h.1, if_pos rfl, hl]
        rfl
      show del (bump k none l) k = _
      simp only [del, hb, if_true, without_bump]
  val_eq := fun {l l'} k _ hs => by
    show (lookup l' k).map _ = (lookup l k).map _
    obtain ⟨h1, h2⟩ := (sameContent_iff l l').1 hs k
    cases hl : lookup l k with
    | none => rw [h1 hl]
    | some p =>
      obtain ⟨c', h3, _⟩ := h2 p.1 p.2 hl
      rw [h3]
      rfl
  refl := SameContent.refl
  trans := SameContent.trans
  keys := fun {l} _ k hk => by
    rw [Option.isSome_map, Option.isSome_iff_ne_none, Ne, lookup_eq_none_iff]
    exact fun hn => hn hk

theorem items_spec (cap : Nat) (l : St) (h : Wf cap l) :
    ∃ l', items (prim cap) l = .ok (l', l.map (fun e => (e.1, e.2.1))) ∧ SameContent l l' ∧ Wf cap l' := by
  obtain ⟨l', hi, hs, hw⟩ := (laws cap).items h
  refine ⟨l', hi.trans (congrArg (fun x => Except.ok (l', x)) ?_), hs, hw⟩
  have := al_map_lookup (L := l.map fun e => (e.1, e.2.1)) ((keys_content l).symm ▸ h.1) (0 : Val)
  simp only [keys_content, lookup_content] at this
  exact this

theorem popitem_spec (cap : Nat) (l : St) (h : Wf cap l) :
    match l with
    | [] => popitem (prim cap) l = .error .keyError
    | (k, v, _) :: r => popitem (prim cap) l = .ok (r, k, v) := by
  cases l with
  | nil => rfl
  | cons p r =>
    obtain ⟨k, v, c⟩ := p
    obtain ⟨v', hv, hp⟩ := (laws cap).popitem_cons h (k := k) (ks := r.map (·.1)) rfl
    have hw : without ((k, v, c) :: r) k = r := al_filter_head h.1
    have hv : (lookup ((k, v, c) :: r) k).map (·.1) = some v' := hv
    rw [lookup_cons, if_pos rfl] at hv
    cases hv
    exact hp.trans (by rw [hw])

theorem clear_spec (cap : Nat) (l : St) (h : Wf cap l) : clear (prim cap) l = .ok [] := by
  have hrm : ∀ {s : St} {k : Key} {ks : List Key}, Wf cap s → s.map (·.1) = k :: ks →
      Wf cap (without s k) ∧ (without s k).length < s.length := fun {s k ks} hs hk =>
    ⟨wf_without cap s k hs, Nat.lt_of_succ_le (Nat.le_of_eq (al_length_filter hs.1 (hk ▸ List.mem_cons_self)))⟩
  obtain ⟨l', hc, hk⟩ := (laws cap).clear hrm h
  rw [hc, List.map_eq_nil_iff.1 hk]

theorem eq_spec (cap : Nat) (l : St) (other : List (Key × Val)) (h : Wf cap l)
    (ho : (other.map (·.1)).Nodup) :
    ∃ l' b, eqDict (prim cap) l other = .ok (l', b) ∧ SameContent l l' ∧
      (b = true ↔ ∀ k, (lookup l k).map (·.1) = other.lookup k) := by
  obtain ⟨l', hi, hs, _⟩ := items_spec cap l h
  refine ⟨l', _, by simp only [eqDict, hi]; rfl, hs, ?_⟩
  simp only [Bool.and_eq_true, beq_iff_eq, List.all_eq_true]
  have := al_eq_iff (L := l.map fun e => (e.1, e.2.1)) ((keys_content l).symm ▸ h.1) ho
  simp only [lookup_content] at this
  exact this

end WindVerif.Cache.LfuSpec
