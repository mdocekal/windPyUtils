import WindVerif.Proofs.StorageBasics
/-! The critical section of `flush()` of the storage model, executed step by step; runs of the model are composed from
single steps (`run_cons`) and from runs (`run_append`). -/
namespace WindVerif.Storage

theorem fileOf_filter_none (s : St) (P : Nat × List (Option Nat) → Bool) (w : Nat) (h : fileOf s w = none) :
    fileOf { s with files := s.files.filter P } w = none := by
  unfold fileOf at h ⊢
  rw [List.lookup_eq_none_iff] at h ⊢
  intro q hq; exact h q (List.mem_filter.1 hq).1

theorem fileOf_filter_removed (s : St) (w : Nat) :
    fileOf { s with files := s.files.filter (fun q => some q.1 ≠ some w) } w = none := by
  unfold fileOf
  rw [List.lookup_eq_none_iff]
  intro q hq
  exact bne_iff_ne.2 fun e => of_decide_eq_true (List.mem_filter.1 hq).2 (congrArg some e.symm)

theorem run_append {s s' s'' : St} {a b : List Nat} (h1 : run s a = some s') (h2 : run s' b = some s'') :
    run s (a ++ b) = some s'' := by
  induction a generalizing s with
  | nil => simp only [run, Option.some.injEq] at h1; subst h1; exact h2
  | cons i r ih =>
    simp only [run, List.cons_append] at h1 ⊢
    split at h1
    · cases h1
    · exact ih h1

theorem run_cons {s s1 : St} {i : Nat} {r : List Nat} (h : step s i = some s1) : run s (i :: r) = run s1 r := by
  simp only [run, h]

/-- the steps of the critical section of `flush()`, written out: the loop over `_file_paths` (test, `os.remove`), then
`_file_paths`, `_index`, `_stored_cnt`, `_waiting_for` are reset in turn -/
theorem step_flush {s : St} {i : Nat} {p : Proc} (hp : s.procs[i]? = some p) :
    (p.pc = .fPathsGet → p.tmp < s.paths.length → step s i = some (setProc s i { p with pc := .fRemove })) ∧
    (p.pc = .fPathsGet → ¬ p.tmp < s.paths.length → step s i = some (setProc s i { p with pc := .fPathsClear })) ∧
    (p.pc = .fRemove → step s i = some (setProc
      { s with files := s.files.filter (fun q => some q.1 ≠ (s.paths[p.tmp]?).getD none) } i
      { p with tmp := p.tmp + 1, pc := .fPathsGet })) ∧
    (p.pc = .fPathsClear → step s i = some (setProc { s with paths := [] } i { p with pc := .fIdxClear })) ∧
    (p.pc = .fIdxClear → step s i = some (setProc { s with index := [] } i { p with pc := .fCntZero })) ∧
    (p.pc = .fCntZero → step s i = some (setProc { s with cnt := 0 } i { p with pc := .fWfZero })) ∧
    (p.pc = .fWfZero → step s i = some (setProc { s with wf := 0 } i { p with pc := .fRel })) := by
  refine ⟨?_, ?_, ?_, ?_, ?_, ?_, ?_⟩ <;> intro hpc
  · intro h; simp only [step, getProc_eq, hp, hpc, if_pos h]
  · intro h; simp only [step, getProc_eq, hp, hpc, if_neg h]
  all_goals simp only [step, getProc_eq, hp, hpc]

/-- the loop `for f in self._file_paths: os.remove(f)` -/
theorem flush_loop (i : Nat) (n : Nat) : ∀ (s : St) (p : Proc), s.procs[i]? = some p → p.pc = .fPathsGet →
    s.paths.length - p.tmp = n →
    ∃ sched s' p', run s sched = some s' ∧ (∀ j ∈ sched, j = i) ∧ s'.procs[i]? = some p' ∧ p'.pc = .fPathsClear ∧
      s'.paths = s.paths ∧ (∀ w, fileOf s w = none → fileOf s' w = none) ∧
      (∀ m w, p.tmp ≤ m → s.paths[m]? = some (some w) → fileOf s' w = none) := by
  induction n with
  | zero =>
    intro s p hp hpc hn
    refine ⟨[i], _, _, run_cons ((step_flush hp).2.1 hpc (by omega)), by simp, getElem?_set_self' hp, rfl, rfl,
      fun w h => h, ?_⟩
    intro m w hm h
    rw [List.getElem?_eq_none (by omega)] at h; cases h
  | succ n ih =>
    intro s p hp hpc hn
    have hp1 := getElem?_set_self' (p' := { p with pc := .fRemove }) hp
    have e2 := (step_flush (s := setProc s i _) hp1).2.2.1 rfl
    obtain ⟨sched, s', p', hr, hall, hp', hpc', hpaths, hnone, hrem⟩ :=
      ih (setProc { setProc s i { p with pc := .fRemove } with
          files := s.files.filter (fun q => some q.1 ≠ (s.paths[p.tmp]?).getD none) } i _)
        { p with tmp := p.tmp + 1, pc := .fPathsGet } (getElem?_set_self' (l := s.procs.set i _) hp1) rfl
        (by show s.paths.length - (p.tmp + 1) = n; omega)
    refine ⟨i :: i :: sched, s', p', (run_cons ((step_flush hp).1 hpc (by omega))).trans ((run_cons e2).trans hr), ?_,
      hp', hpc', hpaths, fun w hw => hnone w (fileOf_filter_none s _ w hw), ?_⟩
    · intro j hj
      simp only [List.mem_cons] at hj
      rcases hj with rfl | rfl | hj
      · rfl
      · rfl
      · exact hall j hj
    · intro m w hm hmw
      rcases Nat.lt_or_ge p.tmp m with h | h
      · exact hrem m w h hmw
      · have : m = p.tmp := by omega
        subst this
        apply hnone
        show fileOf { s with files := s.files.filter (fun q => some q.1 ≠ (s.paths[p.tmp]?).getD none) } w = none
        rw [hmw]
        exact fileOf_filter_removed s w

theorem flush_run (s : St) (i : Nat) (p : Proc) (hp : s.procs[i]? = some p) (hpc : p.pc = .fPathsGet) (hk : p.tmp = 0) :
    ∃ sched s' p', run s sched = some s' ∧ (∀ j ∈ sched, j = i) ∧ s'.procs[i]? = some p' ∧ p'.pc = .fRel ∧
      s'.paths = [] ∧ s'.index = [] ∧ s'.cnt = 0 ∧ s'.wf = 0 ∧
      (∀ w, some w ∈ s.paths → fileOf s' w = none) := by
  obtain ⟨sched, s1, p1, hr, hall, hp1, hpc1, hpaths, _, hrem⟩ := flush_loop i _ s p hp hpc rfl
  let p2 : Proc := { p1 with pc := .fIdxClear }
  let s2 : St := setProc { s1 with paths := [] } i p2
  have hp2 : s2.procs[i]? = some p2 := getElem?_set_self' (l := s1.procs) hp1
  let p3 : Proc := { p2 with pc := .fCntZero }
  let s3 : St := setProc { s2 with index := [] } i p3
  have hp3 : s3.procs[i]? = some p3 := getElem?_set_self' (l := s2.procs) hp2
  let p4 : Proc := { p3 with pc := .fWfZero }
  let s4 : St := setProc { s3 with cnt := 0 } i p4
  have hp4 : s4.procs[i]? = some p4 := getElem?_set_self' (l := s3.procs) hp3
  have hr' : run s1 [i, i, i, i] = some (setProc { s4 with wf := 0 } i { p4 with pc := .fRel }) :=
    (run_cons ((step_flush hp1).2.2.2.1 hpc1)).trans <| (run_cons ((step_flush hp2).2.2.2.2.1 rfl)).trans <|
      (run_cons ((step_flush hp3).2.2.2.2.2.1 rfl)).trans (run_cons ((step_flush hp4).2.2.2.2.2.2 rfl))
  refine ⟨sched ++ [i, i, i, i], _, _, run_append hr hr', ?_, getElem?_set_self' (l := s4.procs) hp4, rfl, rfl, rfl, rfl,
    rfl, ?_⟩
  · intro j hj
    rcases List.mem_append.1 hj with h | h
    · exact hall j h
    · simp at h; exact h
  · intro w hw
    obtain ⟨m, hm⟩ := List.getElem?_of_mem hw
    exact hrem m w (by omega) hm

end WindVerif.Storage
