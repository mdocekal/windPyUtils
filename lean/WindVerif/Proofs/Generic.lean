import WindVerif.Proofs.Roman
import WindVerif.Proofs.GenericEq
/-! Theorems about the generic helpers (C19). -/
namespace WindVerif.Generic
open List

def argLe (xs : List Int) (rev : Bool) : Nat → Nat → Bool :=
  fun i j => if rev then decide (keyAt xs j ≤ keyAt xs i) else decide (keyAt xs i ≤ keyAt xs j)

theorem argLe_trans (xs : List Int) (rev : Bool) (a b c : Nat) :
    argLe xs rev a b = true → argLe xs rev b c = true → argLe xs rev a c = true := by
  cases rev <;> simp [argLe] <;> omega

theorem argLe_total (xs : List Int) (rev : Bool) (a b : Nat) : (argLe xs rev a b || argLe xs rev b a) = true := by
  cases rev <;> simp [argLe] <;> omega

theorem argSort_perm (xs : List Int) (rev : Bool) : (argSort xs rev).Perm (List.range xs.length) :=
  List.mergeSort_perm _ _

theorem argSort_pairwise (xs : List Int) (rev : Bool) : (argSort xs rev).Pairwise (fun i j => argLe xs rev i j) :=
  List.pairwise_mergeSort (argLe_trans xs rev) (argLe_total xs rev) _

theorem pair_sublist_range {i j n : Nat} (hij : i < j) (hj : j < n) : [i, j] <+ List.range n := by
  have h : List.range j ++ [j] <+ List.range n := List.range_succ ▸ List.range_sublist.2 hj
  exact ((List.singleton_sublist.2 (List.mem_range.2 hij)).append (.refl [j])).trans h

theorem nodup_pair_antisymm {α} {a b : α} : ∀ {l : List α}, l.Nodup → [a, b] <+ l → [b, a] <+ l → False
  | [], _, h, _ => by simp at h
  | x :: t, hn, h1, h2 => by
    rw [List.nodup_cons] at hn
    have m1 := h1.subset
    have m2 := h2.subset
    cases h1 with
    | cons _ h1 =>
      cases h2 with
      | cons _ h2 => exact nodup_pair_antisymm hn.2 h1 h2
      | cons_cons _ h2 => exact hn.1 (h1.subset (by simp))
    | cons_cons _ h1 =>
      cases h2 with
      | cons _ h2 => exact hn.1 (h2.subset (by simp))
      | cons_cons _ h2 => exact hn.1 (h1.subset (by simp))

/-- equal keys keep their index order, also with `reverse=True` -/
theorem argSort_stable (xs : List Int) (rev : Bool) :
    (argSort xs rev).Pairwise (fun i j => keyAt xs i = keyAt xs j → i < j) := by
  have hperm := argSort_perm xs rev
  have hnd : (argSort xs rev).Nodup := hperm.nodup_iff.mpr List.nodup_range
  rw [List.pairwise_iff_forall_sublist]
  intro a b hab hk
  have ha : a < xs.length := List.mem_range.mp (hperm.mem_iff.mp (hab.subset (by simp)))
  have hne : a ≠ b := by
    have := hnd.sublist hab
    simpa using this
  rcases Nat.lt_or_gt_of_ne hne with h | h
  · exact h
  · exfalso
    have hle : argLe xs rev b a = true := by cases rev <;> simp [argLe, hk]
    have := List.pair_sublist_mergeSort (argLe_trans xs rev) (argLe_total xs rev) hle (pair_sublist_range h ha)
    exact nodup_pair_antisymm hnd hab this

theorem window_eq_iff (s1 s2 : List Int) (o : Nat) :
    (o + s1.length ≤ s2.length ∧ window s2 o s1.length = s1) ↔ ∃ s t, s.length = o ∧ s ++ s1 ++ t = s2 := by
  constructor
  · rintro ⟨hl, hw⟩
    refine ⟨s2.take o, (s2.drop o).drop s1.length, by simp; omega, ?_⟩
    have h : s2.take o ++ window s2 o s1.length ++ (s2.drop o).drop s1.length = s2 := by
      unfold window
      rw [List.append_assoc, List.take_append_drop, List.take_append_drop]
    rwa [hw] at h
  · rintro ⟨s, t, rfl, rfl⟩
    simp [window]

theorem subSeq_iff (s1 s2 : List Int) : subSeq s1 s2 = true ↔ s1 <:+: s2 := by
  unfold subSeq
  simp only [Bool.and_eq_true, decide_eq_true_eq, List.any_eq_true, List.mem_range, beq_iff_eq]
  constructor
  · rintro ⟨hl, o, ho, hw⟩
    obtain ⟨s, t, _, h⟩ := (window_eq_iff s1 s2 o).mp ⟨by omega, hw.symm⟩
    exact ⟨s, t, h⟩
  · rintro ⟨s, t, h⟩
    obtain ⟨hl, hw⟩ := (window_eq_iff s1 s2 s.length).mpr ⟨s, t, rfl, h⟩
    exact ⟨by omega, s.length, by omega, hw.symm⟩

/-- the integer sequences are images of object sequences under a payload function, and on such the comparison by value is an
instance of the comparison through an arbitrary `==` -/
theorem searchSubSeq_spec (s1 s2 : List Int) (h1 : s1 ≠ []) (h2 : s2 ≠ []) :
    ∃ l, searchSubSeq s1 s2 = .ok l ∧
      (∀ o e, (o, e) ∈ l ↔ (e = o + s1.length ∧ e ≤ s2.length ∧ window s2 o s1.length = s1)) ∧
      (l.map (·.1)).Pairwise (· < ·) := by
  obtain ⟨val, t1, t2, rfl, rfl⟩ := lists_are_images s1 s2
  obtain ⟨l, hl, hm, hp⟩ := searchSubSeqE_spec (fun a b => val a == val b) t1 t2 (by simpa using h1) (by simpa using h2)
  refine ⟨l, by rw [← searchSubSeqE_agree_with_old, hl], fun o e => ?_, hp⟩
  rw [hm, listEq_val, window_map, List.length_map, List.length_map, beq_iff_eq, eq_comm (a := t1.map val)]

theorem comparePos_iff (a b : List Int) : comparePos a b = true ↔ a.Perm b := by
  induction a generalizing b with
  | nil => simp [comparePos, List.nil_perm]
  | cons x a ih =>
    rw [comparePos, List.cons_perm_iff_perm_erase]
    by_cases hx : x ∈ b
    · simp [hx, ih]
    · simp [hx]

/-- the i-th batch of the reference cutting -/
def batchAt (data : List Int) (b i : Nat) : List Int := (data.drop (i * b)).take b

theorem lt_batcherLen_iff (n b i : Nat) (hb : 0 < b) : i < batcherLen n b ↔ i * b < n := by
  unfold batcherLen
  rw [← Nat.succ_le_iff, Nat.le_div_iff_mul_le hb, Nat.succ_mul]
  omega

theorem batcherLen_ceil (n b : Nat) (hb : 0 < b) : batcherLen n b = n / b + (if n % b = 0 then 0 else 1) := by
  have hdm := Nat.div_add_mod' n b
  have hr := Nat.mod_lt n hb
  unfold batcherLen
  rw [Nat.div_eq_iff hb]
  split <;> simp only [Nat.add_mul, Nat.add_zero, Nat.one_mul] <;> omega

theorem flatten_batches (data : List Int) (b k : Nat) :
    ((List.range k).map (batchAt data b)).flatten = data.take (k * b) := by
  induction k with
  | zero => simp
  | succ k ih =>
    rw [List.range_succ, List.map_append, List.flatten_append, ih, Nat.succ_mul, List.take_add]
    simp [batchAt]

theorem batcherLen_add (m b : Nat) (hb : 0 < b) : batcherLen (b + m) b = batcherLen m b + 1 := by
  unfold batcherLen
  have : b + m + b - 1 = (m + b - 1) + b := by omega
  rw [this, Nat.add_div_right _ hb]

theorem batcherIterGo_eq (b : Nat) (hb : 0 < b) (rest : List Int) : ∀ acc : List Int, acc.length < b →
    batcherIterGo b acc rest =
      (List.range (batcherLen (acc ++ rest).length b)).map (batchAt (acc ++ rest) b) := by
  induction rest with
  | nil =>
    intro acc hacc
    simp only [batcherIterGo, List.append_nil]
    split
    · have h1 : batcherLen acc.length b = 1 := by
        unfold batcherLen
        apply Nat.div_eq_of_lt_le <;> omega
      rw [h1]
      simp [batchAt, List.take_of_length_le (Nat.le_of_lt hacc)]
    · have h0 : acc.length = 0 := by omega
      have h1 : batcherLen 0 b = 0 := by
        unfold batcherLen
        apply Nat.div_eq_of_lt; omega
      rw [h0, h1]; rfl
  | cons x r ih =>
    intro acc hacc
    simp only [batcherIterGo]
    split
    next hlen =>
      rw [ih [] (by simpa using hb)]
      have hl : (acc ++ x :: r).length = b + r.length := by
        simp only [List.length_append, List.length_cons, List.length_nil] at hlen ⊢; omega
      have happ : acc ++ x :: r = (acc ++ [x]) ++ r := by simp
      rw [hl, batcherLen_add _ _ hb, List.range_succ_eq_map, List.map_cons, List.map_map, happ]
      congr 1
      · simp only [batchAt, Nat.zero_mul, List.drop_zero]
        rw [List.take_left' hlen]
      · apply List.map_congr_left
        intro i _
        simp only [Function.comp, batchAt, List.nil_append, Nat.succ_mul]
        rw [Nat.add_comm (i * b) b, ← List.drop_drop, List.drop_left' hlen]
    next hlen =>
      have hlt : (acc ++ [x]).length < b := by
        simp only [List.length_append, List.length_cons, List.length_nil] at hlen ⊢; omega
      rw [ih _ hlt]
      simp

theorem batcherIter_eq (data : List Int) (b : Nat) (hb : 0 < b) :
    batcherIter data b = (List.range (batcherLen data.length b)).map (batchAt data b) := by
  have := batcherIterGo_eq b hb data [] (by simpa using hb)
  simpa [batcherIter] using this

/-- batching a `range(n)` object by arithmetic on its bounds is batching the list `0..n-1` -/
theorem batcherGetRange_spec (n b i : Nat) (hb : 0 < b) (hi : i < batcherLen n b) :
    ∃ s e, batcherGetRange n b i = .ok (s, e) ∧ s ≤ e ∧
      List.range' s (e - s) = ((List.range n).drop (i * b)).take b := by
  unfold batcherGetRange
  rw [if_neg (by omega)]
  rw [lt_batcherLen_iff _ _ _ hb] at hi
  refine ⟨_, _, rfl, by omega, ?_⟩
  rw [List.range_eq_range', List.drop_range']
  simp only [Nat.zero_add, Nat.mul_one]
  by_cases h : b ≤ n - i * b
  · rw [List.take_range'_of_length_ge h]; congr 1 <;> omega
  · rw [List.take_range'_of_length_le (by omega)]; congr 1 <;> omega

theorem zip_tail_all_eq : ∀ (l : List Nat),
    (∀ p ∈ l.zip l.tail, p.1 = p.2) ↔ (∀ x ∈ l, ∀ y ∈ l, x = y)
  | [] => by simp
  | [a] => by simp
  | a :: c :: t => by
    have ih := zip_tail_all_eq (c :: t)
    rw [List.tail_cons] at ih ⊢
    rw [List.zip_cons_cons, List.forall_mem_cons, ih]
    constructor
    · rintro ⟨hac, h⟩ x hx y hy
      obtain rfl : a = c := hac
      exact h x (by simpa using hx) y (by simpa using hy)
    · exact fun h => ⟨h a (by simp) c (by simp),
        fun x hx y hy => h x (List.mem_cons_of_mem _ hx) y (List.mem_cons_of_mem _ hy)⟩

theorem batcherNew_spec (lens : List Nat) (b : Int) :
    batcherNew lens b = .ok () ↔ ((∀ x ∈ lens, ∀ y ∈ lens, x = y) ∧ 0 < b) := by
  rw [← zip_tail_all_eq]
  unfold batcherNew
  split <;> rename_i h
  · obtain ⟨p, hp, hne⟩ := List.any_eq_true.1 h
    exact ⟨nofun, fun h' => absurd (h'.1 p hp) (by simpa using hne)⟩
  · have hall : ∀ p ∈ lens.zip lens.tail, p.1 = p.2 := by simpa using h
    split
    · exact ⟨nofun, fun h' => by omega⟩
    · exact ⟨fun _ => ⟨hall, by omega⟩, fun _ => rfl⟩

theorem batcherIterPairGo_eq (b : Nat) (zs : List (Int × Int)) : ∀ a1 a2 : List Int, a1.length = a2.length →
    batcherIterPairGo b a1 a2 zs =
      (batcherIterGo b a1 (zs.map Prod.fst)).zip (batcherIterGo b a2 (zs.map Prod.snd)) := by
  induction zs with
  | nil =>
    intro a1 a2 h
    simp only [batcherIterPairGo, batcherIterGo, List.map_nil, ← h]
    split <;> simp
  | cons z r ih =>
    intro a1 a2 h
    obtain ⟨x, y⟩ := z
    have h' : (a1 ++ [x]).length = (a2 ++ [y]).length := by simp [h]
    simp only [batcherIterPairGo, batcherIterGo, List.map_cons, ← h']
    split
    · rw [ih [] [] rfl, List.zip_cons_cons]
    · rw [ih _ _ h']

/-- a tuple of two iterables is batched in lock-step and stops with the shorter one: the batches are exactly the batches of the
two inputs cut to the common length, paired up -/
theorem batcherIterPair_spec (xs ys : List Int) (b : Nat) (hb : 0 < b) :
    batcherIterPair xs ys b =
      (batcherIter (xs.take (min xs.length ys.length)) b).zip (batcherIter (ys.take (min xs.length ys.length)) b) := by
  have _ := hb  -- the identity holds for every `b`
  unfold batcherIterPair batcherIter
  rw [batcherIterPairGo_eq b (xs.zip ys) [] [] rfl, List.zip_eq_zip_take_min (l₁ := xs) (l₂ := ys),
    List.map_fst_zip (by simp only [List.length_take]; omega), List.map_snd_zip (by simp only [List.length_take]; omega)]

/-- … and the two batch lists have the same shape (so nothing is lost by the `zip` above) -/
theorem batcherIterPair_shape (xs ys : List Int) (b : Nat) (hb : 0 < b) :
    (batcherIter (xs.take (min xs.length ys.length)) b).map List.length =
      (batcherIter (ys.take (min xs.length ys.length)) b).map List.length := by
  rw [batcherIter_eq _ _ hb, batcherIter_eq _ _ hb]
  have hx : (xs.take (min xs.length ys.length)).length = min xs.length ys.length := by
    rw [List.length_take]; omega
  have hy : (ys.take (min xs.length ys.length)).length = min xs.length ys.length := by
    rw [List.length_take]; omega
  rw [hx, hy, List.map_map, List.map_map]
  apply List.map_congr_left
  intro i _
  simp only [Function.comp, batchAt, List.length_take, List.length_drop, hx, hy]

end WindVerif.Generic
