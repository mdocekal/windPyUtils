import WindVerif.Model.SpanSet
/-! Theorems about the model of `SpanSet` (C10): the constructor loop, `combine`, and what other modules use; the operators and
comparisons that are one-line unfoldings are proved in `Props/C10.lean`. -/
namespace WindVerif.SpanSet

/-- `x in S` means: some stored span is related to `x` by `S`'s relation -/
theorem mem_iff (S : SpanSet) (x : Span) : mem S x = true ↔ ∃ y ∈ S.spans, S.rel.holds x y = true := by
  simp [mem, List.any_eq_true]

theorem holds_iff (r : Rel) (x y : Span) : r.holds x y = true ↔
    (match r with
     | .exact => x.1 = y.1 ∧ x.2 = y.2
     | .partOf => y.1 ≤ x.1 ∧ x.2 ≤ y.2
     | .includes => x.1 ≤ y.1 ∧ y.2 ≤ x.2
     | .overlaps => x.2 ≥ y.1 ∧ y.2 ≥ x.1) := by
  cases r <;> simp [Rel.holds]

private def buildFrom (r : Rel) (acc : List Span) (xs : List Span) : List Span :=
  xs.foldl (fun acc x => if acc.any (fun y => r.holds x y) then acc else acc ++ [x]) acc

private theorem buildFrom_nil (r : Rel) (acc : List Span) : buildFrom r acc [] = acc := rfl

private theorem holds_exact_iff (x y : Span) : Rel.holds .exact x y = true ↔ x = y := by
  simp [Rel.holds, Prod.ext_iff]

theorem build_snoc (r : Rel) (xs : List Span) (x : Span) :
    build r (xs ++ [x]) = if mem ⟨r, build r xs⟩ x then build r xs else build r xs ++ [x] := by
  unfold build
  rw [List.foldl_append]
  rfl

/-- induction on a list from its end, the way the constructor loop consumes it (`build_snoc`) -/
theorem snoc_induction {α : Type} {P : List α → Prop} (nil : P []) (snoc : ∀ xs x, P xs → P (xs ++ [x]))
    (l : List α) : P l := by
  rw [← List.reverse_reverse l]
  induction l.reverse with
  | nil => exact nil
  | cons x r ih => rw [List.reverse_cons]; exact snoc _ _ ih

theorem build_sublist (r : Rel) (xs : List Span) : (build r xs).Sublist xs := by
  induction xs using snoc_induction with
  | nil => exact .slnil
  | snoc xs x ih =>
    rw [build_snoc]
    split
    · exact ih.trans (List.sublist_append_left xs [x])
    · exact ih.append_right [x]

/-- no kept span was already in the set formed by the spans kept before it -/
theorem build_pairwise (r : Rel) (xs : List Span) :
    (build r xs).Pairwise (fun earlier later => r.holds later earlier = false) := by
  induction xs using snoc_induction with
  | nil => exact .nil
  | snoc xs x ih =>
    rw [build_snoc]
    split
    · exact ih
    · next hm =>
      refine List.pairwise_append.2 ⟨ih, List.pairwise_singleton .., fun a ha b hb => ?_⟩
      rw [List.mem_singleton.1 hb]
      exact Bool.eq_false_iff.2 fun hab => hm (List.any_eq_true.2 ⟨a, ha, hab⟩)

/-- every input span is either kept or was in the set built before it; so if the relation relates a span to itself,
every input span is in the result -/
theorem build_covers (r : Rel) (xs : List Span) (x : Span) (hx : x ∈ xs) (hrefl : r.holds x x = true) :
    mem (mk r xs) x = true := by
  induction xs using snoc_induction with
  | nil => cases hx
  | snoc xs a ih =>
    show mem ⟨r, build r (xs ++ [a])⟩ x = true
    rw [build_snoc]
    rcases List.mem_append.1 hx with hx | hx
    · split
      · exact ih hx
      · exact List.any_append.trans (Bool.or_eq_true_iff.2 (.inl (ih hx)))
    · obtain rfl : x = a := List.mem_singleton.1 hx
      split
      · next hm => exact hm
      · exact List.any_append.trans (Bool.or_eq_true_iff.2 (.inr (by simp [hrefl])))

theorem build_eq_self_iff (r : Rel) (xs : List Span) :
    build r xs = xs ↔ xs.Pairwise (fun earlier later => r.holds later earlier = false) := by
  refine ⟨fun h => h ▸ build_pairwise r xs, ?_⟩
  induction xs using snoc_induction with
  | nil => exact fun _ => rfl
  | snoc xs x ih =>
    intro h
    obtain ⟨h1, -, h3⟩ := List.pairwise_append.1 h
    rw [build_snoc, ih h1, if_neg]
    intro hm
    obtain ⟨y, hy, hxy⟩ := List.any_eq_true.1 hm
    rw [h3 y hy x (List.mem_singleton_self x)] at hxy
    cases hxy

theorem build_length_iff (r : Rel) (xs : List Span) :
    (build r xs).length = xs.length ↔ xs.Pairwise (fun earlier later => r.holds later earlier = false) :=
  ⟨fun h => (build_eq_self_iff r xs).1 ((build_sublist r xs).eq_of_length h),
    fun h => congrArg List.length ((build_eq_self_iff r xs).2 h)⟩

theorem build_exact_nodup (xs : List Span) : (build .exact xs).Nodup := by
  refine (build_pairwise .exact xs).imp ?_
  intro a b h hab
  subst hab
  rw [(holds_exact_iff a a).mpr rfl] at h
  exact Bool.noConfusion h

theorem build_exact_mem (xs : List Span) (x : Span) : x ∈ build .exact xs ↔ x ∈ xs := by
  refine ⟨fun h => (build_sublist .exact xs).subset h, fun h => ?_⟩
  obtain ⟨y, hy, e⟩ := List.any_eq_true.1 (build_covers .exact xs x h ((holds_exact_iff x x).2 rfl))
  exact (holds_exact_iff x y).1 e ▸ hy

/-- the operators: exactly the spans of `A` and `B` that satisfy the membership formula (each once: `build_exact_nodup`) -/
theorem combine_spec (φ : Bool → Bool → Bool) (A B : SpanSet) (x : Span) :
    x ∈ (combine φ A B).spans ↔ (x ∈ A.spans ∨ x ∈ B.spans) ∧ φ (mem A x) (mem B x) = true := by
  show x ∈ build .exact _ ↔ _
  rw [build_exact_mem, List.mem_filter, List.mem_append]

theorem xor_spec (A B : SpanSet) (x : Span) :
    x ∈ (opXor A B).spans ↔ (x ∈ A.spans ∨ x ∈ B.spans) ∧ (mem A x ≠ mem B x) := by
  rw [opXor, combine_spec, bne_iff_ne]

theorem isdisjoint_iff (A : SpanSet) (s : List Span) : isdisjoint A s = true ↔ ∀ x ∈ s, mem A x = false := by
  simp [isdisjoint, List.all_eq_true]

end WindVerif.SpanSet
