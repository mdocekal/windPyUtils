import WindVerif.Proofs.StorageStep
/-! The data layer `InvB` of the invariant (index entries point at complete lines of existing files; the writer's view of its
own file while it stores a line) holds at the start and is kept by every step, and a step only extends entries and files (`StepB`). -/
namespace WindVerif.Storage
variable {scripts : List (List Op)} {s s' : St} {i j : Nat} {p p' q : Proc}

structure LocB (s : St) (p : Proc) : Prop where
  extLt : p.pc = .sIdxExtend → p.gid < s.index.length + p.tmp
  gidLt : (p.pc = .sIdxGet ∨ p.pc = .sTell ∨ p.pc = .sWriteText ∨ p.pc = .sWriteNl ∨ p.pc = .sFlush ∨ p.pc = .sIdxSet) →
    p.gid < s.index.length
  unset : (p.pc = .sTell ∨ p.pc = .sWriteText ∨ p.pc = .sWriteNl ∨ p.pc = .sFlush ∨ p.pc = .sIdxSet) →
    s.index[p.gid]? = some none
  wrText : p.pc = .sWriteText → p.off = ((fileOf s (p.ident.getD 0)).getD []).length
  wrNl : p.pc = .sWriteNl →
    ∃ c, fileOf s (p.ident.getD 0) = some c ∧ c.length = p.off + 1 ∧ c[p.off]? = some (some p.text)
  wrDone : p.pc = .sFlush ∨ p.pc = .sIdxSet →
    ∃ c, fileOf s (p.ident.getD 0) = some c ∧ c[p.off]? = some (some p.text) ∧ c[p.off + 1]? = some none ∧
      c.length = p.off + 2
  noFile : p.pc = .oRel ∨ p.pc = .oOpenW → fileOf s (p.ident.getD 0) = none
  rdIdx : (p.pc = .gRel ∨ p.pc = .gPathsGet ∨ p.pc = .gOpenR ∨ p.pc = .gSeek ∨ p.pc = .gReadline) →
    s.index[p.gid]? = some (some (p.target, p.off))

def Durable (s : St) : Prop :=
  ∀ (g w off : Nat), s.index[g]? = some (some (w, off)) →
    ∃ c t, fileOf s w = some c ∧ c[off]? = some (some t) ∧ c[off + 1]? = some none

structure InvB (s : St) : Prop where
  loc : ∀ (i : Nat) (p : Proc), s.procs[i]? = some p → LocB s p
  ent : Durable s
  fresh : ∀ w, s.paths.length ≤ w → fileOf s w = none

/-- pcs about which `LocB` says something -/
def isData : Pc → Bool
  | .sIdxExtend | .sIdxGet | .sTell | .sWriteText | .sWriteNl | .sFlush | .sIdxSet | .oRel | .oOpenW
  | .gRel | .gPathsGet | .gOpenR | .gSeek | .gReadline => true
  | _ => false

theorem LocB.of_quiet (h : isData p.pc = false) : LocB s p := by
  constructor <;> intro h'
  · rw [h'] at h; cases h
  · rcases h' with h' | h' | h' | h' | h' | h' <;> rw [h'] at h <;> cases h
  · rcases h' with h' | h' | h' | h' | h' <;> rw [h'] at h <;> cases h
  · rw [h'] at h; cases h
  · rw [h'] at h; cases h
  · rcases h' with h' | h' <;> rw [h'] at h <;> cases h
  · rcases h' with h' | h' <;> rw [h'] at h <;> cases h
  · rcases h' with h' | h' | h' | h' | h' <;> rw [h'] at h <;> cases h

theorem LocB.of_entry (h : isEntry p.pc = true) : LocB s p :=
  .of_quiet (by cases hc : p.pc <;> first | rfl | (rw [hc] at h; cases h))

theorem LocB.iterAdvance : LocB s (iterAdvance p) := by
  unfold Storage.iterAdvance; dsimp only; split <;> exact .of_quiet rfl

theorem ident_getD (h : p.ident.isSome = true) : p.ident = some (p.ident.getD 0) := by
  cases hid : p.ident <;> simp_all

theorem LocA.ident_of_isS (hL : LocA scripts s i p)
    (h : isS p.pc = true) : p.ident = some (p.ident.getD 0) := by
  exact ident_getD (hL.ident_some h)

theorem LocB.frame (hB : LocB s q) (hA : LocA scripts s j q)
    (hlen : s.index.length ≤ s'.index.length)
    (hmono : ∀ (g : Nat) (e : Nat × Nat), s.index[g]? = some (some e) → s'.index[g]? = some (some e))
    (hidx : s.lock = some j → s'.index = s.index)
    (hfile : ∀ w, q.ident = some w → fileOf s' w = fileOf s w) : LocB s' q := by
  have hfile' : q.ident.isSome = true → fileOf s' (q.ident.getD 0) = fileOf s (q.ident.getD 0) :=
    fun h => hfile _ (ident_getD h)
  have hS : ∀ {c}, q.pc = c → isS c = true → fileOf s' (q.ident.getD 0) = fileOf s (q.ident.getD 0) :=
    fun hc h => hfile' (hA.ident_some (hc ▸ h))
  refine ⟨fun h => Nat.lt_of_lt_of_le (hB.extLt h) (Nat.add_le_add_right hlen _),
    fun h => Nat.lt_of_lt_of_le (hB.gidLt h) hlen, fun h => ?_, fun h => ?_, fun h => ?_, fun h => ?_, fun h => ?_,
    fun h => hmono _ _ (hB.rdIdx h)⟩
  · -- between `sTell` and `sIdxSet` the process holds the lock
    rw [hidx (hA.lock.1 (by rcases h with h | h | h | h | h <;> rw [dep, h] <;> exact Nat.one_pos))]
    exact hB.unset h
  · rw [hS h rfl]; exact hB.wrText h
  · rw [hS h rfl]; exact hB.wrNl h
  · rw [show fileOf s' _ = _ by rcases h with h | h <;> exact hS h rfl]; exact hB.wrDone h
  · have : q.ident.isSome = true := by
      rcases h with h' | h'
      · exact (by decide : ∀ w d, fits .oRel w d = true → d = true) _ _ (h' ▸ hA.handle)
      · exact (by decide : ∀ w d, fits .oOpenW w d = true → d = true) _ _ (h' ▸ hA.handle)
    rw [hfile' this]; exact hB.noFile h

structure StepB (s s' : St) : Prop where
  idxMono : ∀ (g : Nat) (e : Nat × Nat), s.index[g]? = some (some e) → s'.index[g]? = some (some e)
  fileMono : ∀ (w : Nat) (c : List (Option Nat)), fileOf s w = some c → ∃ d, fileOf s' w = some (c ++ d)

theorem InvB.step_gen (hA : InvA scripts s) (hB : InvB s) (hp : s.procs[i]? = some p) (hs : step s i = some s')
    (hprocs : s'.procs = s.procs.set i p')
    (hmono : ∀ (g : Nat) (e : Nat × Nat), s.index[g]? = some (some e) → s'.index[g]? = some (some e))
    (hfmono : ∀ (w : Nat) (c : List (Option Nat)), fileOf s w = some c → ∃ d, fileOf s' w = some (c ++ d))
    (hloc : LocB s' p') (hent : Durable s') (hfresh : ∀ w, s'.paths.length ≤ w → fileOf s' w = none) :
    InvB s' ∧ StepB s s' := by
  have hF := StepA.of_step' hA hp hs hprocs
  refine ⟨⟨?_, hent, hfresh⟩, ⟨hmono, hfmono⟩⟩
  intro j q hq
  rw [hprocs, getElem?_set_iff hp] at hq
  rcases hq with ⟨rfl, rfl⟩ | ⟨hji, hq⟩
  · exact hloc
  · refine (hB.loc j q hq).frame (hA.loc j q hq) hF.idxLen hmono (fun h => ?_) (fun w hw => ?_)
    · exact (hF.shared (fun h' => hji (Option.some.inj (h.symm.trans h')))).1
    · exact hF.fileOther w fun hpw => hji (hA.uniq _ _ _ _ w hq hp hw hpw)

theorem InvB.step_same {n k : Nat} {l : Option Nat} (hA : InvA scripts s) (hB : InvB s) (hp : s.procs[i]? = some p)
    (hs : step s i = some (setProc { s with cnt := n, wf := k, lock := l } i p'))
    (hloc : LocB (setProc { s with cnt := n, wf := k, lock := l } i p') p') :
    InvB (setProc { s with cnt := n, wf := k, lock := l } i p') ∧ StepB s (setProc { s with cnt := n, wf := k, lock := l } i p') :=
  hB.step_gen hA hp hs rfl (fun _ _ h => h) (fun _ c h => ⟨[], (List.append_nil c).symm ▸ h⟩) hloc hB.ent hB.fresh

theorem getElem?_append_of_some {α : Type} {l d : List α} {k : Nat} {x : α} (h : l[k]? = some x) :
    (l ++ d)[k]? = some x := by
  rw [List.getElem?_append_left (lt_of_getElem? h)]; exact h

theorem InvB.step_append {x : Option Nat} (hA : InvA scripts s) (hB : InvB s) (hp : s.procs[i]? = some p)
    (hS : isS p.pc = true) (hs : step s i = some s')
    (e : s' = setProc (setFile s (p.ident.getD 0) ((fileOf s (p.ident.getD 0)).getD [] ++ [x])) i p')
    (hloc : LocB s' p') : InvB s' ∧ StepB s s' := by
  subst e
  have hlt := (hA.loc i p hp).identLt _ ((hA.loc i p hp).ident_of_isS hS)
  refine hB.step_gen hA hp hs rfl (fun _ _ h => h) ?_ hloc ?_ ?_
  · intro w c h
    rw [fileOf_setProc, fileOf_setFile]
    by_cases hw : w = p.ident.getD 0
    · subst hw; rw [if_pos rfl, h]; exact ⟨[x], rfl⟩
    · rw [if_neg hw]; exact ⟨[], (List.append_nil c).symm ▸ h⟩
  · intro g w off h
    obtain ⟨c, t, h1, h2, h3⟩ := hB.ent g w off h
    rw [fileOf_setProc, fileOf_setFile]
    by_cases hw : w = p.ident.getD 0
    · subst hw
      rw [if_pos rfl, h1]
      exact ⟨_, t, rfl, getElem?_append_of_some h2, getElem?_append_of_some h3⟩
    · rw [if_neg hw]; exact ⟨c, t, h1, h2, h3⟩
  · intro w hw
    rw [fileOf_setProc, fileOf_setFile, if_neg (Nat.ne_of_gt (Nat.lt_of_lt_of_le hlt hw))]; exact hB.fresh w hw

set_option linter.unusedSimpArgs false in
theorem InvB.step_both (hA : InvA scripts s) (hB : InvB s)
    (hs : step s i = some s') : InvB s' ∧ StepB s s' := by
  obtain ⟨p, hp⟩ := step_proc hs
  have hL := hA.loc i p hp
  have hLB := hB.loc i p hp
  have hs0 := hs
  cases hpc : p.pc
  case fAcq | fPathsGet | fRemove | fPathsClear | fIdxClear | fCntZero | fWfZero | fRel =>
    exact absurd hL.noF (by rw [hpc]; decide)
  all_goals simp only [Storage.step, getProc_eq, hp, hpc, Option.some.injEq, reduceCtorEq, release_fst, release_snd] at hs
  case oPathsLen | oPathsGet | oOpenA | sCntRead | sCntWrite | sWfRead2 | sWfWrite1 | sLoopWf | sLoopWf2 | sLoopWfR | sLoopWfW
      | cWf =>
    subst hs
    exact hB.step_same hA hp hs0 (.of_quiet rfl)
  case sRel | sRelErr | iRel | lCnt | cCnt | xClose =>
    subst hs
    exact hB.step_same hA hp hs0 (.of_entry (finish_entry _ _))
  case sWfRead1 | sLoopCnt | sLoopIdx | gIdxLen | iIdxLen =>
    split at hs <;> cases hs <;>
    exact hB.step_same hA hp hs0 (.of_quiet rfl)
  case oAcq | sAcq | gAcq | iAcq =>
    obtain ⟨d, rfl, hl⟩ := acquire_shape hs
    exact hB.step_same hA hp hs0 (.of_quiet rfl)
  case gReadline | gRelErr =>
    split at hs <;> cases hs
    · exact hB.step_same hA hp hs0 .iterAdvance
    · exact hB.step_same hA hp hs0 (.of_entry (finish_entry _ _))
  case sTell =>
    subst hs
    exact hB.step_same hA hp hs0
      ⟨nofun, fun _ => hLB.gidLt (by simp [hpc]), fun _ => hLB.unset (by simp [hpc]), fun _ => rfl, nofun, nofun, nofun, nofun⟩
  case sFlush =>
    subst hs
    exact hB.step_same hA hp hs0
      ⟨nofun, fun _ => hLB.gidLt (by simp [hpc]), fun _ => hLB.unset (by simp [hpc]), nofun, nofun,
        fun _ => hLB.wrDone (by simp [hpc]), nofun, nofun⟩
  case oRel =>
    subst hs
    exact hB.step_same hA hp hs0
      ⟨nofun, nofun, nofun, nofun, nofun, nofun, fun _ => hLB.noFile (by simp [hpc]), nofun⟩
  case gPathsGet | gOpenR | gSeek =>
    subst hs
    exact hB.step_same hA hp hs0
      ⟨nofun, nofun, nofun, nofun, nofun, nofun, nofun, fun _ => hLB.rdIdx (by simp [hpc])⟩
  case gRel =>
    split at hs <;> cases hs <;>
    exact hB.step_same hA hp hs0
      ⟨nofun, nofun, nofun, nofun, nofun, nofun, nofun, fun _ => hLB.rdIdx (by simp [hpc])⟩
  case sIdxLen1 =>
    split at hs <;> cases hs
    · exact hB.step_same hA hp hs0 (.of_quiet rfl)
    · rename_i hlt
      exact hB.step_same hA hp hs0
        ⟨nofun, fun _ => Nat.not_le.1 hlt, nofun, nofun, nofun, nofun, nofun, nofun⟩
  case sIdxLen2 =>
    subst hs
    exact hB.step_same hA hp hs0
      ⟨fun _ => show p.gid < s.index.length + (p.gid - s.index.length + 1) by omega, nofun, nofun, nofun, nofun, nofun, nofun, nofun⟩
  case sIdxGet =>
    split at hs <;> cases hs
    · exact hB.step_same hA hp hs0 (.of_quiet rfl)
    · rename_i hne
      have hlt := hLB.gidLt (.inl hpc)
      have hnone : s.index[p.gid]? = some none := by
        rw [List.getElem?_eq_getElem hlt] at hne ⊢
        cases h : s.index[p.gid] with
        | none => rfl
        | some v => exact absurd (by rw [h]) (hne v)
      exact hB.step_same hA hp hs0
        ⟨nofun, fun _ => hlt, fun _ => hnone, nofun, nofun, nofun, nofun, nofun⟩
  case gIdxGet =>
    split at hs <;> cases hs
    · rename_i w off hw
      exact hB.step_same hA hp hs0
        ⟨nofun, nofun, nofun, nofun, nofun, nofun, nofun, fun _ => hw⟩
    · exact hB.step_same hA hp hs0 (.of_quiet rfl)
  case oPathsAppend =>
    subst hs
    refine hB.step_gen hA hp hs0 rfl (fun _ _ h => h) (fun w c h => ⟨[], by rw [List.append_nil]; exact h⟩)
      ⟨nofun, nofun, nofun, nofun, nofun, nofun, fun _ => ?_, nofun⟩ hB.ent (fun w hw => hB.fresh w ?_)
    · exact hL.tmpPaths hpc ▸ hB.fresh _ (Nat.le_refl _)
    · exact Nat.le_trans (List.length_append ▸ Nat.le_add_right _ _) hw
  case oOpenW =>
    subst hs
    have hno := hLB.noFile (.inr hpc)
    have hlt := hL.identLt _ (ident_getD ((by decide : ∀ w d, fits .oOpenW w d = true → d = true) _ _ (hpc ▸ hL.handle)))
    have hne : ∀ {w c}, fileOf s w = some c → w ≠ p.ident.getD 0 := fun h hw => by rw [hw, hno] at h; cases h
    refine hB.step_gen hA hp hs0 rfl (fun _ _ h => h) (fun w c h => ⟨[], ?_⟩) (.of_quiet rfl)
      (fun g w off h => ?_) (fun w hw => ?_)
    · rw [fileOf_setProc, fileOf_setFile, if_neg (hne h), List.append_nil]; exact h
    · obtain ⟨c, t, h1, h2, h3⟩ := hB.ent g w off h
      exact ⟨c, t, by rw [fileOf_setProc, fileOf_setFile, if_neg (hne h1)]; exact h1, h2, h3⟩
    · rw [fileOf_setProc, fileOf_setFile, if_neg (Nat.ne_of_gt (Nat.lt_of_lt_of_le hlt hw))]; exact hB.fresh w hw
  case sIdxExtend =>
    subst hs
    refine hB.step_gen hA hp hs0 rfl (fun _ _ => getElem?_append_of_some)
      (fun w c h => ⟨[], by rw [List.append_nil]; exact h⟩)
      ⟨nofun, fun _ => ?_, nofun, nofun, nofun, nofun, nofun, nofun⟩ (fun g w off h => hB.ent g w off ?_) hB.fresh
    · show p.gid < (s.index ++ List.replicate p.tmp none).length
      rw [List.length_append, List.length_replicate]; exact hLB.extLt hpc
    · rcases Nat.lt_or_ge g s.index.length with h' | h'
      · rw [← List.getElem?_append_left h']; exact h
      · rw [setProc_index, List.getElem?_append_right h', List.getElem?_replicate] at h
        split at h <;> cases h
  case sIdxSet =>
    subst hs
    have hun := hLB.unset (by simp [hpc])
    have hlt := hLB.gidLt (by simp [hpc])
    obtain ⟨c, hc1, hc2, hc3, _⟩ := hLB.wrDone (.inr hpc)
    refine hB.step_gen hA hp hs0 rfl (fun g e h => ?_) (fun w c h => ⟨[], by rw [List.append_nil]; exact h⟩)
      (.of_quiet rfl) (fun g w off h => ?_) hB.fresh
    · have : p.gid ≠ g := by intro h'; rw [h', h] at hun; cases hun
      rw [setProc_index, List.getElem?_set_ne this]; exact h
    · rw [setProc_index] at h
      by_cases hg : p.gid = g
      · subst hg
        rw [List.getElem?_set_self hlt] at h
        cases h
        exact ⟨c, p.text, hc1, hc2, hc3⟩
      · rw [List.getElem?_set_ne hg] at h
        exact hB.ent g w off h
  case sWriteText =>
    subst hs
    refine hB.step_append hA hp (by rw [hpc]; rfl) hs0 rfl
      ⟨nofun, fun _ => hLB.gidLt (by simp [hpc]), fun _ => hLB.unset (by simp [hpc]), nofun,
        fun _ => ⟨_, by rw [fileOf_setProc, fileOf_setFile, if_pos rfl], ?_, ?_⟩, nofun, nofun, nofun⟩
    · rw [List.length_append, ← hLB.wrText hpc]; rfl
    · show (_ ++ [some p.text])[p.off]? = _
      rw [hLB.wrText hpc, List.getElem?_append_right (Nat.le_refl _), Nat.sub_self]; rfl
  case sWriteNl =>
    subst hs
    obtain ⟨c, hc1, hc2, hc3⟩ := hLB.wrNl hpc
    refine hB.step_append hA hp (by rw [hpc]; rfl) hs0 rfl
      ⟨nofun, fun _ => hLB.gidLt (by simp [hpc]), fun _ => hLB.unset (by simp [hpc]), nofun, nofun,
        fun _ => ⟨_, by rw [fileOf_setProc, fileOf_setFile, if_pos rfl], ?_, ?_, ?_⟩, nofun, nofun⟩
    · rw [hc1]; exact getElem?_append_of_some hc3
    · rw [hc1]; show (c ++ [none])[p.off + 1]? = _
      rw [← hc2, List.getElem?_append_right (Nat.le_refl _), Nat.sub_self]; rfl
    · rw [hc1]; show (c ++ [none]).length = _
      rw [List.length_append, hc2]; rfl

theorem InvB.step (hA : InvA scripts s) (hB : InvB s)
    (hs : step s i = some s') : InvB s' := (hB.step_both hA hs).1

theorem StepB.of_step (hA : InvA scripts s) (hB : InvB s)
    (hs : step s i = some s') : StepB s s' := (hB.step_both hA hs).2

theorem InvB.init (presize : Nat) (scripts : List (List Op)) : InvB (start (init presize scripts)) := by
  refine ⟨?_, ?_, ?_⟩
  · intro i p hp
    simp only [start, Storage.init, List.map_map, List.getElem?_map, Option.map_eq_some_iff] at hp
    obtain ⟨sc, _, rfl⟩ := hp
    exact LocB.of_entry (fetch_entry _ rfl)
  · intro g w off h
    simp [start, Storage.init, List.getElem?_replicate] at h
  · intro w _; rfl

end WindVerif.Storage
