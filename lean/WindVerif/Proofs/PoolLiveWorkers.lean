import WindVerif.Proofs.PoolLiveWorkerStep
/-! Liveness of the pool model (C02): the liveness invariant is preserved by the steps of the workers and by the start of a
worker — both are moves of one entry of the worker list (`WMove`), and the five parts of the invariant are proved for a move. -/
namespace WindVerif.Pool

variable {s s' : St} {wid : Nat} {w w' : Worker}

def heldish (w : Worker) : Prop :=
  w.pc = .lockAcq ∨ w.pc = .putNowait ∨ w.pc = .putBlock ∨ (w.pc = .lockRel ∧ w.full = true)

def earlyPc (w : Worker) : Prop := w.pc = .notStarted ∨ w.pc = .bfClear ∨ w.pc = .bfSet

/-- what the preservation proofs need to know of a step that replaces the worker `w` by `w'`: a step of the worker itself
(`WStep.move`), or its start by the consumer or the replace thread (`WMove.start`) -/
structure WMove (s s' : St) (w w' : Worker) : Prop where
  mem : w ∈ s.workers
  wid' : w'.wid = w.wid
  workers : s'.workers = upd w.wid w' s.workers
  same : WSame s s'
  lock : (s'.lock = s.lock ∧ wIn w'.pc = wIn w.pc) ∨
    (s.lock = none ∧ s'.lock = some (.w w.wid) ∧ wIn w.pc = false ∧ wIn w'.pc = true) ∨
    (s'.lock = none ∧ wIn w.pc = true ∧ wIn w'.pc = false)
  held : (heldish w → w.held.isSome) → heldish w' → w'.held.isSome
  bf : (w.bf = false → earlyPc w) → w'.bf = false → earlyPc w'
  retire : w'.pc = .retire → s.cfg.factory = true
  /-- how the step touches the queues, and whether the worker leaves -/
  acct : (gone w'.pc = false ∧ s'.replQ = s.replQ ∧ (s'.workQ = s.workQ ∨ ∃ i, s.workQ = some i :: s'.workQ) ∧
      gone w.pc = false) ∨
    (gone w'.pc = true ∧ w.pc = .get ∧ s.workQ = none :: s'.workQ ∧ s'.replQ = s.replQ ∧ gone w.pc = false) ∨
    (gone w'.pc = true ∧ w.pc = .retire ∧ s'.workQ = s.workQ ∧ s'.replQ = s.replQ ++ [some w.wid] ∧ gone w.pc = false) ∨
    (gone w'.pc = true ∧ gone w.pc = true ∧ s'.workQ = s.workQ ∧ s'.replQ = s.replQ)
  resQ : s'.resQ = s.resQ ∨ ∃ i, s'.resQ = s.resQ ++ [some i]

theorem WMove.mem' (h : WMove s s' w w') : ∀ x, x ∈ s'.workers → x = w' ∨ (x ∈ s.workers ∧ x.wid ≠ w.wid) := by
  intro x hx; rw [h.workers] at hx
  rcases mem_upd.1 hx with ⟨rfl, _⟩ | hx
  · exact Or.inl rfl
  · exact Or.inr hx

theorem WMove.new_mem (h : WMove s s' w w') : w' ∈ s'.workers := by
  rw [h.workers]; exact mem_upd.2 (Or.inl ⟨rfl, w, h.mem, rfl⟩)

theorem WMove.old_mem (h : WMove s s' w w') {x : Worker} (hx : x ∈ s.workers) (hne : x.wid ≠ w.wid) : x ∈ s'.workers := by
  rw [h.workers]; exact mem_upd.2 (Or.inr ⟨hx, hne⟩)

theorem WMove.succ (h : WMove s s' w w') {x : Worker} (hx : x ∈ s.workers) : ∃ y ∈ s'.workers, y.wid = x.wid := by
  by_cases he : x.wid = w.wid
  · exact ⟨w', h.new_mem, by rw [h.wid', he]⟩
  · exact ⟨x, h.old_mem hx he, rfl⟩

set_option hygiene false in
/-- case split on the kind of a worker step with uniform names -/
macro "wkcases " h:ident : tactic => `(tactic|
  rcases $h:ident with ⟨hpc, hpc', hh, hfl, hbf, hwq, hrq, hpq, hlk⟩ | ⟨hpc, hpc', hh, hfl, hbf, hwq, hrq, hpq, hlk⟩ |
    ⟨hpc, hpc', hh, hfl, hbf, hwq, hrq, hpq, hlk⟩ | ⟨i, hpc, hpc', hh, hfl, hbf, hwq, hrq, hpq, hlk⟩ |
    ⟨hpc, hpc', hh, hfl, hbf, hwq, hrq, hpq, hlk, hlk'⟩ | ⟨i, hpc, hpc', hheld, hh, hfl, hbf, hcap, hwq, hrq, hpq, hlk⟩ |
    ⟨i, hpc, hpc', hheld, hh, hfl, hbf, hcap, hwq, hrq, hpq, hlk⟩ | ⟨hpc, hfull, hpc', hh, hfl, hbf, hwq, hrq, hpq, hlk'⟩ |
    ⟨hpc, hfull, hpc', hh, hfl, hbf, hwq, hrq, hpq, hlk'⟩ | ⟨i, hpc, hheld, hpc', hh, hfl, hbf, hcap, hwq, hrq, hpq, hlk⟩ |
    ⟨hpc, hpc', hh, hfl, hbf, hwq, hrq, hpq, hlk⟩ | ⟨hpc, hpc', hh, hfl, hbf, hwq, hrq, hpq, hlk⟩)

theorem WKind.held_ok (h : WKind s s' w w') (h0 : heldish w → w.held.isSome) : heldish w' → w'.held.isSome := by
  unfold heldish at *
  intro hw'
  wkcases h
  · rw [hpc'] at hw'; simp at hw'
  · rw [hpc'] at hw'; simp at hw'
  · rw [hpc'] at hw'; simp at hw'
  · rw [hh]; rfl
  · rw [hh]; exact h0 (Or.inl hpc)
  · rw [hh, hheld]; rfl
  · rw [hpc', hfl] at hw'; simp at hw'
  · rw [hh]; exact h0 (Or.inr (Or.inr (Or.inr ⟨hpc, hfull⟩)))
  · rcases hpc' with h | ⟨h, _⟩ <;> rw [h] at hw' <;> simp at hw'
  · rcases hpc' with h | ⟨h, _⟩ <;> rw [h] at hw' <;> simp at hw'
  · rw [hpc'] at hw'; simp at hw'
  · rw [hpc'] at hw'; simp at hw'

theorem WKind.bf_ok (h : WKind s s' w w') (h0 : w.bf = false → earlyPc w) : w'.bf = false → earlyPc w' := by
  unfold earlyPc at *
  intro hb
  wkcases h
  · exact Or.inr (Or.inr hpc')
  · rw [hbf] at hb; cases hb
  all_goals (rw [hbf] at hb; have := h0 hb; rw [hpc] at this; simp at this)

theorem WKind.retire_ok (h : WKind s s' w w') (hr : w'.pc = .retire) : s.cfg.factory = true := by
  wkcases h
  all_goals first
    | (rw [hpc'] at hr; cases hr; done)
    | (rcases hpc' with h | ⟨_, h⟩
       · rw [h] at hr; cases hr
       · exact h)

theorem WKind.pcs (h : WKind s s' w w') : w.pc ≠ .notStarted ∧ w.pc ≠ .exited ∧ w'.pc ≠ .notStarted := by
  wkcases h
  all_goals first
    | (rw [hpc, hpc']; simp; done)
    | (rw [hpc]; rcases hpc' with h | ⟨h, _⟩ <;> rw [h] <;> simp)

theorem WKind.resQ_cases (h : WKind s s' w w') : s'.resQ = s.resQ ∨ ∃ i, s'.resQ = s.resQ ++ [some i] := by
  wkcases h
  all_goals first
    | exact Or.inl hrq
    | exact Or.inr ⟨i, hrq⟩

theorem WStep.move (h : WStep s s' wid w w') : WMove s s' w w' := by
  have hk := h.kind
  refine ⟨h.mem, h.wid', h.workers, h.same, ?_, hk.held_ok, hk.bf_ok, hk.retire_ok, ?_, hk.resQ_cases⟩
  · wkcases hk
    · exact Or.inl ⟨hlk, by rw [hpc, hpc']; rfl⟩
    · exact Or.inl ⟨hlk, by rw [hpc, hpc']; rfl⟩
    · exact Or.inl ⟨hlk, by rw [hpc, hpc']; rfl⟩
    · exact Or.inl ⟨hlk, by rw [hpc, hpc']; rfl⟩
    · exact Or.inr (Or.inl ⟨hlk, hlk', by rw [hpc]; rfl, by rw [hpc']; rfl⟩)
    · exact Or.inl ⟨hlk, by rw [hpc, hpc']; rfl⟩
    · exact Or.inl ⟨hlk, by rw [hpc, hpc']; rfl⟩
    · exact Or.inr (Or.inr ⟨hlk', by rw [hpc]; rfl, by rw [hpc']; rfl⟩)
    · refine Or.inr (Or.inr ⟨hlk', by rw [hpc]; rfl, ?_⟩)
      rcases hpc' with h | ⟨h, _⟩ <;> rw [h] <;> rfl
    · refine Or.inl ⟨hlk, ?_⟩
      rw [hpc]; rcases hpc' with h | ⟨h, _⟩ <;> rw [h] <;> rfl
    · exact Or.inl ⟨hlk, by rw [hpc, hpc']; rfl⟩
    · exact Or.inl ⟨hlk, by rw [hpc, hpc']; rfl⟩
  · wkcases hk
    · exact Or.inl ⟨by rw [hpc']; rfl, hpq, Or.inl hwq, by rw [hpc]; rfl⟩
    · exact Or.inl ⟨by rw [hpc']; rfl, hpq, Or.inl hwq, by rw [hpc]; rfl⟩
    · exact Or.inr (Or.inl ⟨by rw [hpc']; rfl, hpc, hwq, hpq, by rw [hpc]; rfl⟩)
    · exact Or.inl ⟨by rw [hpc']; rfl, hpq, Or.inr ⟨i, hwq⟩, by rw [hpc]; rfl⟩
    · exact Or.inl ⟨by rw [hpc']; rfl, hpq, Or.inl hwq, by rw [hpc]; rfl⟩
    · exact Or.inl ⟨by rw [hpc']; rfl, hpq, Or.inl hwq, by rw [hpc]; rfl⟩
    · exact Or.inl ⟨by rw [hpc']; rfl, hpq, Or.inl hwq, by rw [hpc]; rfl⟩
    · exact Or.inl ⟨by rw [hpc']; rfl, hpq, Or.inl hwq, by rw [hpc]; rfl⟩
    · exact Or.inl ⟨by rcases hpc' with h | ⟨h, _⟩ <;> rw [h] <;> rfl, hpq, Or.inl hwq, by rw [hpc]; rfl⟩
    · exact Or.inl ⟨by rcases hpc' with h | ⟨h, _⟩ <;> rw [h] <;> rfl, hpq, Or.inl hwq, by rw [hpc]; rfl⟩
    · exact Or.inr (Or.inr (Or.inl ⟨by rw [hpc']; rfl, hpc, hwq, hpq, by rw [hpc]; rfl⟩))
    · exact Or.inr (Or.inr (Or.inr ⟨by rw [hpc']; rfl, by rw [hpc]; rfl, hwq, hpq⟩))

theorem WStep.succ (h : WStep s s' wid w w') {x : Worker} (hx : x ∈ s.workers) : ∃ y ∈ s'.workers, y.wid = x.wid :=
  h.move.succ hx

theorem WMove.start (hw : w ∈ s.workers) (hpc : w.pc = .notStarted) :
    WMove s (setWorker s { w with pc := .bfClear }) w { w with pc := .bfClear } :=
  ⟨hw, rfl, rfl, WSame_upd, .inl ⟨rfl, by rw [hpc]; rfl⟩, fun _ => nofun, fun _ _ => .inr (.inl rfl), nofun,
    .inl ⟨rfl, rfl, .inl rfl, by rw [hpc]; rfl⟩, .inl rfl⟩

theorem LockI_stepW (hL : LInv s) (hV : LockI s) (h : WMove s s' w w') : LockI s' := by
  have hmem := h.mem'
  have hcpc := h.same.cpc
  have hwm := h.mem
  obtain ⟨l1, l2, l3, l4⟩ := hV
  have hlc := h.lock
  constructor
  · intro t ht
    rcases hlc with ⟨e1, e2⟩ | ⟨e1, e2, e3, e4⟩ | ⟨e1, e2, e3⟩
    · rw [e1] at ht
      rcases l1 t ht with ⟨rfl, hc⟩ | ⟨x, hx, rfl, hin⟩
      · exact Or.inl ⟨rfl, by rw [hcpc]; exact hc⟩
      · right
        by_cases he : x.wid = w.wid
        · have := wid_inj hL.nodup hx h.mem he; subst this
          exact ⟨w', h.new_mem, by rw [h.wid'], by rw [e2]; exact hin⟩
        · exact ⟨x, h.old_mem hx he, rfl, hin⟩
    · rw [e2] at ht; cases ht
      exact Or.inr ⟨w', h.new_mem, by rw [h.wid'], e4⟩
    · rw [e1] at ht; cases ht
  · intro hc
    rw [hcpc] at hc
    have hl := l2 hc
    rcases hlc with ⟨e1, e2⟩ | ⟨e1, e2, e3, e4⟩ | ⟨e1, e2, e3⟩
    · rw [e1]; exact hl
    · rw [e1] at hl; cases hl
    · rw [l3 w hwm e2] at hl; cases hl
  · intro x hx hin
    rcases hmem x hx with rfl | ⟨hx0, hne⟩
    · rw [h.wid']
      rcases hlc with ⟨e1, e2⟩ | ⟨e1, e2, e3, e4⟩ | ⟨e1, e2, e3⟩
      · rw [e1]; exact l3 w hwm (by rw [← e2]; exact hin)
      · exact e2
      · rw [e3] at hin; cases hin
    · have hl := l3 x hx0 hin
      rcases hlc with ⟨e1, e2⟩ | ⟨e1, e2, e3, e4⟩ | ⟨e1, e2, e3⟩
      · rw [e1]; exact hl
      · rw [e1] at hl; cases hl
      · rw [l3 w hwm e2] at hl; simp only [Option.some.injEq, Tid.w.injEq] at hl; exact absurd hl.symm hne
  · intro x hx hp
    rcases hmem x hx with rfl | ⟨hx0, hne⟩
    · exact h.held (l4 w hwm) hp
    · exact l4 x hx0 hp

theorem ProcI_stepW (hV : ProcI s) (h : WMove s s' w w') : ProcI s' := by
  have hmem := h.mem'
  obtain ⟨p1, p2, p3, p4, p5, p6⟩ := hV
  constructor
  · intro k hk; rw [h.same.procs] at hk
    obtain ⟨x, hx, rfl⟩ := p1 k hk
    exact h.succ hx
  · rw [h.same.procs, h.same.cfg]; exact p2
  · rw [h.same.procs, h.same.cpc]; exact p3
  · rw [h.same.procs, h.same.rpc]; exact p4
  · intro x hx hb
    rcases hmem x hx with rfl | ⟨hx0, hne⟩
    · exact h.bf (p5 w h.mem) hb
    · exact p5 x hx0 hb
  · intro x hx hr
    rw [h.same.cfg]
    rcases hmem x hx with rfl | ⟨hx0, hne⟩
    · exact h.retire hr
    · exact p6 x hx0 hr

theorem pending_sub_of_replQ {s s' : St} (h1 : s'.rpc = s.rpc) (h2 : s'.replQ = s.replQ ∨ ∃ k, s'.replQ = s.replQ ++ [some k])
    {wid : Nat} (h : wid ∈ pending s) : wid ∈ pending s' := by
  unfold pending at *
  rw [h1]
  rcases h2 with h2 | ⟨k, h2⟩
  · rw [h2]; exact h
  · rw [h2, List.filterMap_append, ← List.append_assoc]
    exact List.mem_append_left _ h

theorem noneCount_append_some (q : List (Option Nat)) (k : Nat) : noneCount (q ++ [some k]) = noneCount q := by
  simp [noneCount, List.filter_append]

theorem noneCount_append_none (q : List (Option Nat)) : noneCount (q ++ [none]) = noneCount q + 1 := by
  simp [noneCount, List.filter_append]

theorem noneCount_cons_none (q : List (Option Nat)) : noneCount (none :: q) = noneCount q + 1 := by
  simp [noneCount]

theorem noneCount_cons_some (q : List (Option Nat)) (k : Nat) : noneCount (some k :: q) = noneCount q := by
  simp [noneCount]

theorem ReplI_stepW (hP : ProcI s) (hV : ReplI s) (h : WMove s s' w w') : ReplI s' := by
  have hmem := h.mem'
  obtain ⟨r1, r2, r3, r4, r5, r6⟩ := hV
  have hac := h.acct
  have hrq : s'.replQ = s.replQ ∨ ∃ k, s'.replQ = s.replQ ++ [some k] := by
    rcases hac with ⟨_, e, _⟩ | ⟨_, _, _, e, _⟩ | ⟨_, _, _, e, _⟩ | ⟨_, _, _, e⟩
    · exact Or.inl e
    · exact Or.inl e
    · exact Or.inr ⟨_, e⟩
    · exact Or.inl e
  constructor
  · rw [h.same.cfg, h.same.cpc, h.same.rAlive]; exact r1
  · rw [h.same.rAlive, h.same.rpc]; exact r2
  · rw [h.same.cpc, h.same.rAlive, ← r3]
    rcases hrq with e | ⟨k, e⟩
    · rw [e]
    · rw [e, noneCount_append_some]
  · intro x hx hpc hin
    rw [h.same.cpc, h.same.cfg]
    rw [h.same.procs] at hin
    rcases hmem x hx with rfl | ⟨hx0, hne⟩
    · rcases hac with ⟨e, _⟩ | ⟨_, _, e, _⟩ | ⟨_, e1, _, e2, _⟩ | ⟨_, e1, _, _⟩
      · rw [e] at hpc; cases hpc
      · left
        cases hc : exitPhasePc s.cpc
        · exact absurd (by rw [e]; simp) (r5 hc)
        · rfl
      · right
        refine ⟨hP.retireF w h.mem e1, ?_⟩
        rw [h.wid']
        apply pending_mem_of_replQ
        rw [e2]; simp
      · rw [h.wid'] at hin ⊢
        rcases r4 w h.mem e1 hin with hh | ⟨hf, hp⟩
        · exact Or.inl hh
        · exact Or.inr ⟨hf, pending_sub_of_replQ h.same.rpc hrq hp⟩
    · rcases r4 x hx0 hpc hin with hh | ⟨hf, hp⟩
      · exact Or.inl hh
      · exact Or.inr ⟨hf, pending_sub_of_replQ h.same.rpc hrq hp⟩
  · intro hc; rw [h.same.cpc] at hc
    have := r5 hc
    rcases hac with ⟨_, _, e | ⟨i, e⟩, _⟩ | ⟨_, _, e, _⟩ | ⟨_, _, e, _⟩ | ⟨_, _, e, _⟩
    · rw [e]; exact this
    · rw [e] at this; intro hm; exact this (List.mem_cons_of_mem _ hm)
    · rw [e] at this; intro hm; exact this (List.mem_cons_of_mem _ hm)
    · rw [e]; exact this
    · rw [e]; exact this
  · rw [h.same.cpc, h.same.cfg]; exact r6

theorem bufferFull_congr {s s' : St} (h1 : s'.cfg = s.cfg) (h2 : s'.buffer = s.buffer) : bufferFull s' = bufferFull s := by
  unfold bufferFull; rw [h1, h2]

theorem ConsI_stepW (hV : ConsI s) (h : WMove s s' w w') : ConsI s' := by
  obtain ⟨c1, c2, c3, c4, c5, c6, c7⟩ := hV
  have hs := h.same
  constructor
  · rw [hs.cpc, hs.cur]; exact c1
  · rw [hs.cpc, hs.cur]; exact c2
  · rw [hs.cpc, hs.woken]; exact c3
  · rw [hs.cpc, hs.batch, hs.woken, hs.fpc, hs.finished, hs.fTotal]
    intro a b c d e
    have := c4 a b c d e
    rcases h.resQ with e | ⟨i, e⟩ <;> rw [e]
    · exact this
    · exact List.mem_append_left _ this
  · rw [hs.wf, hs.buffer]; exact c5
  · rw [hs.cpc, hs.fRun, bufferFull_congr hs.cfg hs.buffer]; exact c6
  · rw [hs.cpc, hs.fRun]; exact c7

theorem pending_length_append {s s' : St} (h1 : s'.rpc = s.rpc) (k : Nat) (h2 : s'.replQ = s.replQ ++ [some k]) :
    (pending s').length = (pending s).length + 1 := by
  unfold pending
  rw [h1, h2, List.filterMap_append]
  simp [Nat.add_assoc]

theorem stopsSent_congr {s s' : St} (h1 : s'.cpc = s.cpc) (h2 : s'.procs = s.procs) : stopsSent s' = stopsSent s := by
  unfold stopsSent; rw [h1, h2]

theorem CntI_stepW (hL : LInv s) (hP : ProcI s) (hV : CntI s) (h : WMove s s' w w') : CntI s' := by
  obtain ⟨k1, k2, k3, k4⟩ := hV
  have hs := h.same
  have hlive := liveCnt_upd hL h.mem h.workers
  -- what is counted changes in one of three ways: not at all; a stop order is taken; a wid is posted (factory pool)
  have hnum : (liveCnt s' = liveCnt s ∧ noneCount s'.workQ = noneCount s.workQ ∧
        (pending s').length = (pending s).length) ∨
      (liveCnt s' + 1 = liveCnt s ∧ noneCount s'.workQ + 1 = noneCount s.workQ ∧
        (pending s').length = (pending s).length) ∨
      (liveCnt s' + 1 = liveCnt s ∧ noneCount s'.workQ = noneCount s.workQ ∧
        (pending s').length = (pending s).length + 1 ∧ s.cfg.factory = true) := by
    rcases h.acct with ⟨e1, e2, e3, eg⟩ | ⟨e1, e0, e2, e3, eg⟩ | ⟨e1, e0, e2, e3, eg⟩ | ⟨e1, eg, e2, e3⟩ <;>
      rw [e1, eg] at hlive
    · refine .inl ⟨Nat.add_right_cancel hlive, ?_, by rw [pending_congr hs.rpc (by rw [e2])]⟩
      rcases e3 with e | ⟨i, e⟩ <;> rw [e]
      exact (noneCount_cons_some _ _).symm
    · exact .inr (.inl ⟨hlive, by rw [e2, noneCount_cons_none], by rw [pending_congr hs.rpc (by rw [e3])]⟩)
    · exact .inr (.inr ⟨hlive, by rw [e2], pending_length_append hs.rpc _ e3, hP.retireF w h.mem e0⟩)
    · exact .inl ⟨hlive, by rw [e2], by rw [pending_congr hs.rpc (by rw [e3])]⟩
  constructor
  · rw [hs.procs]; omega
  · rw [hs.cpc, stopsSent_congr hs.cpc hs.procs, hs.procs]; intro hc; have := k2 hc; omega
  · rw [hs.cpc, stopsSent_congr hs.cpc hs.procs]; intro hc; have := k3 hc; omega
  · rw [hs.cfg, stopsSent_congr hs.cpc hs.procs, hs.procs]; intro hc; have := k4 hc
    rcases hnum with a | a | a
    · omega
    · omega
    · rw [a.2.2.2] at hc; cases hc

theorem LiveInv_wmove (hL : LInv s) (hV : LiveInv s) (h : WMove s s' w w') : LiveInv s' :=
  ⟨LockI_stepW hL hV.lk h, ProcI_stepW hV.pr h, ReplI_stepW hV.pr hV.rp h, ConsI_stepW hV.cs h, CntI_stepW hL hV.pr hV.ct h⟩

theorem LiveInv_stepW (hf : NoFaults s.cfg) (hwc : WellCfg s.cfg) (hL : LInv s) (hV : LiveInv s)
    (h : stepW s wid = some s') : LiveInv s' := by
  obtain ⟨w, w', hst⟩ := stepW_cases hf hwc hL h
  exact LiveInv_wmove hL hV hst.move

theorem LiveInv_startWorker {k : Nat} {w : Worker} (hL : LInv s) (hV : LiveInv s) (hg : getWorker s k = some w)
    (hpc : w.pc = .notStarted) : LiveInv (setWorker s { w with pc := .bfClear }) :=
  LiveInv_wmove hL hV (.start (getWorker_some hg).1 hpc)

end WindVerif.Pool
