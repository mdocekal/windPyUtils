import WindVerif.Proofs.PoolSafeConsumer
/-!
The history invariant `HistInv` (what the calls that are over have emitted), what a step of each thread does to the call
bookkeeping, and the preservation of the invariant.
-/
namespace WindVerif.Pool
open List

/-- the call bookkeeping: the fields the history invariant looks at, apart from the consumer's pc -/
def hcore (s : St) : Cfg × Option Call × List Call × Nat × List (Nat × Nat) :=
  (s.cfg, s.cur, s.callsLeft, s.callNo, s.out)

def hview (s : St) := (hcore s, s.cpc)

macro "step_frame" h:ident : tactic => `(tactic| (
  all_goals (repeat' (split at $h:ident))
  all_goals (first | (simp at $h:ident; done) | (simp only [Option.some.injEq] at $h:ident; subst $h:ident; rfl))))

theorem stepW_hview {s s' : St} {wid : Nat} (h : stepW s wid = some s') : hview s' = hview s := by
  obtain ⟨w, _, hc⟩ := stepW_cases' h
  cases hc <;> rfl

theorem stepR_hview {s s' : St} (h : stepR s = some s') : hview s' = hview s := by
  obtain ⟨_, ⟨r, _, _, rfl⟩ | ⟨wid, r, _, _, rfl⟩ | ⟨wid, _, _, rfl⟩ | ⟨nw, w, _, _, rfl⟩⟩ := stepR_cases h <;> rfl

theorem stepF_hview {s s' : St} (h : stepF s = some s') : hview s' = hview s := by
  cases (stepF_cases h).2 <;> rfl

/-- `__enter__` / `until_all_ready` -/
def bootPc : CPc → Bool
  | .enterStart _ | .readyWait _ | .nextCall => true
  | _ => false

def DoneOk (out : List (Nat × Nat)) (done : List Call) : Prop :=
  ∀ k (hk : k < done.length), (curOutL out (k + 1)).Perm (List.range done[k].chunks) ∧
    (done[k].ordered = true → curOutL out (k + 1) = List.range done[k].chunks)

structure HistInv (s : St) : Prop where
  hist : ∃ done : List Call, s.cfg.calls = done ++ s.cur.toList ++ s.callsLeft ∧
    done.length + s.cur.toList.length = s.callNo ∧ DoneOk s.out done
  outPos : ∀ p ∈ s.out, 1 ≤ p.1
  boot : bootPc s.cpc = true → s.cur = none
  fin : exitPc s.cpc = true → s.cur = none ∧ s.callsLeft = []

def HFrame (pc : CPc) (s s' : St) : Prop :=
  hcore s' = hcore s ∧ bootPc s'.cpc = bootPc pc ∧ exitPc s'.cpc = exitPc pc

theorem hist_frame {s s' : St} (h : HistInv s) (e : HFrame s.cpc s s') : HistInv s' := by
  obtain ⟨e, e6, e7⟩ := e
  simp only [hcore, Prod.mk.injEq] at e
  obtain ⟨e1, e2, e3, e4, e5⟩ := e
  obtain ⟨h1, h2, h3, h4⟩ := h
  refine ⟨?_, ?_, ?_, ?_⟩
  · rw [e1, e2, e3, e4, e5]; exact h1
  · rw [e5]; exact h2
  · rw [e6, e2]; exact h3
  · rw [e7, e2, e3]; exact h4

theorem hist_of_hview {s s' : St} (h : HistInv s) (e : hview s' = hview s) : HistInv s' :=
  hist_frame h ⟨congrArg Prod.fst e, congrArg (fun v => bootPc v.2) e, congrArg (fun v => exitPc v.2) e⟩

theorem hist_cpc (s : St) (h : HistInv s) (pc' : CPc) (wq' rq' pq' : List (Option Nat)) (lk' : Option Tid)
    (fr' rr' rs' wk' ra' : Bool) (batch' : List Nat) (rpc' : RPc) (e6 : bootPc pc' = bootPc s.cpc)
    (e7 : exitPc pc' = exitPc s.cpc) :
    HistInv { s with workQ := wq', resQ := rq', replQ := pq', lock := lk', fRun := fr', rRun := rr', rStop := rs',
                     cpc := pc', woken := wk', rAlive := ra', batch := batch', rpc := rpc' } :=
  hist_frame h ⟨rfl, e6, e7⟩

theorem DoneOk_snoc {out : List (Nat × Nat)} {done : List Call} {c : Call} (h : DoneOk out done)
    (hp : (curOutL out (done.length + 1)).Perm (List.range c.chunks))
    (ho : c.ordered = true → curOutL out (done.length + 1) = List.range c.chunks) : DoneOk out (done ++ [c]) := by
  intro k hk
  rw [length_append, length_singleton] at hk
  by_cases hlt : k < done.length
  · rw [getElem_append_left hlt]
    exact h k hlt
  · have : k = done.length := by omega
    subst this
    simp only [getElem_append_right (Nat.le_refl _), Nat.sub_self, getElem_cons_zero]
    exact ⟨hp, ho⟩

theorem hist_toNextCall (s : St) (h : HistInv s)
    (hres : ∀ c, s.cur = some c → (curOutL s.out s.callNo).Perm (List.range c.chunks) ∧
      (c.ordered = true → curOutL s.out s.callNo = List.range c.chunks)) : HistInv (toNextCall s) := by
  obtain ⟨⟨done, h1, h2, h3⟩, hpos, hboot, hfin⟩ := h
  have key : ∃ done' : List Call, s.cfg.calls = done' ++ s.callsLeft ∧ done'.length = s.callNo ∧ DoneOk s.out done' := by
    cases hc : s.cur with
    | none =>
      rw [hc] at h1 h2
      exact ⟨done, by simpa using h1, by simpa using h2, h3⟩
    | some c =>
      rw [hc] at h1 h2
      simp only [Option.toList_some, length_singleton] at h1 h2
      obtain ⟨r1, r2⟩ := hres c hc
      rw [← h2] at r1 r2
      exact ⟨done ++ [c], h1, by simpa using h2, DoneOk_snoc h3 r1 r2⟩
  obtain ⟨done', k1, k2, k3⟩ := key
  unfold toNextCall
  split
  · rename_i call rest hcl
    rw [hcl] at k1
    simp only []
    split <;> exact ⟨⟨done', by simpa using k1, by simp [k2], k3⟩, hpos, nofun, nofun⟩
  · rename_i hcl
    rw [hcl] at k1
    simp only []
    split <;> exact ⟨⟨done', by simpa [hcl] using k1, by simp [k2], k3⟩, hpos, fun _ => rfl, fun _ => ⟨rfl, hcl⟩⟩

theorem hist_afterResults (s : St) (h : HistInv s) (hb : bootPc s.cpc = false) (he : exitPc s.cpc = false) :
    HistInv (afterResults s) := by
  have key : ∀ pc', bootPc pc' = false → exitPc pc' = false → HistInv { consumeBatch s with cpc := pc' } := by
    intro pc' hb' he'
    cases hc : s.cur with
    | none =>
      have : consumeBatch s = s := by unfold consumeBatch; rw [hc]
      rw [this]
      exact hist_frame h ⟨rfl, hb'.trans hb.symm, he'.trans he.symm⟩
    | some call =>
      obtain ⟨buf', wf', em, hcb, -, -, -⟩ := consumeBatch_spec s call hc
      rw [hcb]
      obtain ⟨⟨done, h1, h2, h3⟩, hpos, hboot, hfin⟩ := h
      rw [hc] at h2
      simp only [Option.toList_some, length_singleton] at h2
      refine ⟨⟨done, h1, by rw [hc]; simpa using h2, ?_⟩, ?_, fun hb2 => by simp [hb'] at hb2,
        fun he2 => by simp [he'] at he2⟩
      · intro k hk
        show (curOutL (s.out ++ em.map (fun j => (s.callNo, j))) (k + 1)).Perm _ ∧ _
        rw [curOutL_append, curOutL_map_ne em s.callNo (k + 1) (by omega), append_nil]
        exact h3 k hk
      · intro p hp
        rw [mem_append] at hp
        rcases hp with hp | hp
        · exact hpos p hp
        · rw [mem_map] at hp
          obtain ⟨j, _, rfl⟩ := hp
          show 1 ≤ s.callNo
          omega
  obtain ⟨c', heq, hcl⟩ := afterResults_pc s
  rw [heq]
  rcases hcl with h | h | h | ⟨wid, h⟩ <;> subst h <;> exact key _ rfl rfl

theorem exitJoinFrom_class (s : St) (fuel : Nat) :
    ∀ i, bootPc (exitJoinFrom s fuel i) = false ∧ exitPc (exitJoinFrom s fuel i) = true := by
  induction fuel with
  | zero => intro i; exact ⟨rfl, rfl⟩
  | succ f ih =>
    intro i
    unfold exitJoinFrom
    split
    · exact ⟨rfl, rfl⟩
    · split
      · exact ih _
      · exact ⟨rfl, rfl⟩

/-- the result of a call whose loop has been left (the core of `imap_result`) -/
theorem safe_result (s : St) (h : SafeInv s) (c : Call) (hcur : s.cur = some c)
    (hq : (csig s.cpc).post = true) :
    (curOutL s.out s.callNo).Perm (List.range c.chunks) ∧
    (c.ordered = true → curOutL s.out s.callNo = List.range c.chunks) ∧
    flightL s.workQ s.workers s.resQ = [] ∧ s.batch = [] ∧ s.buffer = [] := by
  obtain ⟨hc, hd, ho, hw⟩ := (safe_iff s).1 h
  have hcs : s.cur.isSome = true := by simp [hcur]
  have hpre := hc.sigOk.postPre hq
  obtain ⟨hsend, hfin⟩ := hc.post hq
  have htot := hc.total c hcur hpre
  rw [(sentV_of_not_sending hc hsend hpre hcs).1] at hd
  obtain ⟨q1, q2, q3, q4⟩ := data_quiet hd (fun _ => by rw [hfin]; exact Nat.le_refl _)
  have q4' := q4 hcs
  rw [htot] at q4'
  refine ⟨q4', ?_, q1, q2, q3⟩
  intro hord
  have e := hd.ordered c hcur hord
  have hl := q4'.length_eq
  rw [e, length_range, length_range] at hl
  rw [e, hl]

/-- What a step of the consumer does to the call bookkeeping: nothing, or it starts the next call / `__exit__`, or it
consumes a batch.  The old pc is a variable that each case instantiates by its equation `s.cpc = …`; the rest of the case
is then `rfl`. -/
def CStep (s s' : St) : Prop := ∃ pc, s.cpc = pc ∧
  (HFrame pc s s' ∨ ∃ s1, hview s1 = hview s ∧
    (s' = toNextCall s1 ∧ (bootPc pc = true ∨ postLoopPc pc = true) ∨
     s' = afterResults s1 ∧ bootPc pc = false ∧ exitPc pc = false))

theorem CStep.frame {s s' : St} {pc : CPc} (hpc : s.cpc = pc) (h : HFrame pc s s') : CStep s s' := ⟨_, hpc, Or.inl h⟩

theorem stepC_frame {s s' : St} (hs : stepC s = some s') : CStep s s' := by
  cases stepC_cases hs with
  | @enterLast _ _ w hpc =>
    unfold afterEnter
    split
    · exact .frame hpc ⟨rfl, rfl, rfl⟩
    · exact ⟨_, hpc, Or.inr ⟨setWorker s { w with pc := .bfClear }, rfl, Or.inl ⟨toNextCall_setCpc _ _, Or.inl rfl⟩⟩⟩
  | readyLast hpc => exact ⟨_, hpc, Or.inr ⟨s, rfl, Or.inl ⟨toNextCall_setCpc _ _, Or.inl rfl⟩⟩⟩
  | nextCall hpc => exact ⟨_, hpc, Or.inr ⟨s, rfl, Or.inl ⟨rfl, Or.inl rfl⟩⟩⟩
  | lockRelResults hpc => exact ⟨_, hpc, Or.inr ⟨{ s with lock := none }, rfl, Or.inr ⟨rfl, rfl, rfl⟩⟩⟩
  | @getBlockToken r hpc => exact ⟨_, hpc, Or.inr ⟨{ s with resQ := r, batch := [] }, rfl, Or.inr ⟨rfl, rfl, rfl⟩⟩⟩
  | @getBlockChunk i r hpc => exact ⟨_, hpc, Or.inr ⟨{ s with resQ := r, batch := [i] }, rfl, Or.inr ⟨rfl, rfl, rfl⟩⟩⟩
  | fJoinPlain hpc | rJoin hpc => exact ⟨_, hpc, Or.inr ⟨s, rfl, Or.inl ⟨toNextCall_setCpc _ _, Or.inr rfl⟩⟩⟩
  | exitPutLast hpc | exitJoin hpc => exact .frame hpc ⟨rfl, exitJoinFrom_class _ _ _⟩
  | midLast hpc =>
    obtain ⟨c', heq, hcl⟩ := afterBatch_eq s
    rw [heq]
    rcases hcl with rfl | rfl | rfl <;> exact .frame hpc ⟨rfl, rfl, rfl⟩
  | _ =>
    -- every other leaf leaves the bookkeeping alone and moves the pc inside its class
    refine CStep.frame ‹s.cpc = _› ?_
    exact ⟨rfl, rfl, rfl⟩

theorem hist_stepC (s s' : St) (hs0 : SafeInv s) (h : HistInv s) (hs : stepC s = some s') : HistInv s' := by
  obtain ⟨_, rfl, e | ⟨s1, e1, ⟨rfl, hq⟩ | ⟨rfl, hb, he⟩⟩⟩ := stepC_frame hs
  · exact hist_frame h e
  · -- the result of the call that ends: there is none in `__enter__`; `safe_result` after the loop
    refine hist_toNextCall s1 (hist_of_hview h e1) ?_
    simp only [hview, hcore, Prod.mk.injEq] at e1
    obtain ⟨⟨-, e2, -, e4, e5⟩, -⟩ := e1
    rw [e2, e4, e5]
    intro c hc
    rcases hq with hq | hq
    · rw [h.boot hq] at hc
      cases hc
    · exact ⟨(safe_result s hs0 c hc hq).1, (safe_result s hs0 c hc hq).2.1⟩
  · have ec : s1.cpc = s.cpc := congrArg Prod.snd e1
    exact hist_afterResults s1 (hist_of_hview h e1) (ec ▸ hb) (ec ▸ he)

end WindVerif.Pool
