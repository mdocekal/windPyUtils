import WindVerif.Proofs.PoolLiveReach
/-! Termination of the pool model (C02): the measure.

Every step of every thread strictly decreases `meas`, a weighted count of the work still to be done:
* a call not yet started weighs `38·chunks + 23` (20 per item the consumer will have to take from the result queue —
  its chunks and the wake-up token —, 13 per chunk for the worker that will process it and the replacement this may
  trigger, `5·chunks + 3` for the feeder), plus 40 for the consumer's steps around the call;
* a chunk on the work queue weighs 33, a chunk in a worker's hands or an item on the result queue 20;
* the feeder, the replace thread, every worker and the consumer weigh the number of steps to the end of their current
  round (`fW`, `rOff`, `wOff`, `pos`); a retired worker's id waiting for the replace thread weighs 8 (three steps of
  the replace thread, five of the successor); a worker that has still `end()` to run (`.ending`) weighs 1, hence a worker
  waiting for work (`.get`: a stop order takes it to `.ending`) weighs 2;
* every call in which nothing has been emitted yet carries `procs.length + 1` for the mid-call `until_all_ready()`
  (`midB`; one wait per slot of `procs` and the step back into the result loop). -/
namespace WindVerif.Pool

def someCount (q : List (Option Nat)) : Nat := (q.filter Option.isSome).length

theorem someCount_nil : someCount [] = 0 := rfl
theorem someCount_cons_none (q : List (Option Nat)) : someCount (none :: q) = someCount q := rfl
theorem someCount_cons_some (q : List (Option Nat)) (k : Nat) : someCount (some k :: q) = someCount q + 1 := rfl
theorem someCount_append_none (q : List (Option Nat)) : someCount (q ++ [none]) = someCount q := by
  simp [someCount, List.filter_append]
theorem someCount_append_some (q : List (Option Nat)) (k : Nat) : someCount (q ++ [some k]) = someCount q + 1 := by
  simp [someCount, List.filter_append]

/-- steps a worker has before it (a chunk in its hands: deliver it, possibly retire and be replaced) -/
def wOff : WPc → Nat
  | .notStarted => 5
  | .bfClear => 4
  | .bfSet => 3
  | .get => 2
  | .lockAcq => 14
  | .putNowait => 13
  | .lockRel => 12
  | .putBlock => 11
  | .retire => 10
  | .ending => 1
  | .exited => 0

def wWeight (w : Worker) : Nat := wOff w.pc + (if w.held.isSome then 20 else 0)

def mW (s : St) : Nat := (s.workers.map wWeight).sum

def rOff : RPc → Nat
  | .idle => 0
  | .get => 0
  | .join _ => 7
  | .start _ => 1

def mR (s : St) : Nat := 8 * someCount s.replQ + noneCount s.replQ + rOff s.rpc

def mQ (s : St) : Nat := 20 * s.resQ.length + 33 * someCount s.workQ

/-- the feeder with `r` chunks still to put (the one in its hands included): 38 per chunk (33 for the item it puts on the
work queue, 5 for its own steps), 20 for the wake-up token it will post, and the steps to the end of its round -/
def fW : FPc → Nat → Nat
  | .idle, _ => 0
  | .put, r => 38 * r + 22
  | .rdCnt, r => 38 * (r - 1) + 26
  | .wrCnt, r => 38 * (r - 1) + 25
  | .stopIsSet, r => 38 * (r - 1) + 24
  | .runWait, r => 38 * (r - 1) + 23
  | .wrSending, _ => 22
  | .token, _ => 21

def mF (s : St) : Nat := if s.fAlive then fW s.fpc (s.fTotal - s.fNext) else 0

/-- the call whose feeder has not been started yet -/
def pendCall (s : St) : Option Nat := if preStart s then s.cur.map (·.chunks) else none

def callW (k : Nat) : Nat := 38 * k + 23

def futW (s : St) : Nat :=
  (match pendCall s with | some k => callW k | none => 0) + (s.callsLeft.map (fun c => callW c.chunks)).sum

/-- the consumer's position: steps to the end of the round / phase (`fresh`: nothing drained yet in this `_get_results`).
`__exit__` takes up to `2n + 1` steps (`n` stop orders, `n` joins, `n = procs.length`), so the positions before it start
above `2n + 2`; `enterStart i` counts `2n - i` (not `n - i`) because its last step leads to `readyWait 0`, which weighs `n`
more than the pcs after it; a round of the result loop (`rdSending` 25 … `getBlock` 18) is paid for by the item taken from
the result queue (20), and after a non-empty drain the consumer is back above the head of the loop (28 … 31) -/
def pos (c : CPc) (fresh : Bool) (n : Nat) : Nat :=
  match c with
  | .enterStart i => 2 * n + 2 + 45 + (2 * n - i)
  | .readyWait i => 2 * n + 2 + 42 + (n - i)
  | .nextCall => 2 * n + 2 + 41
  | .rInitSet => 2 * n + 2 + 39
  | .rStart => 2 * n + 2 + 38
  | .fInitSet => 2 * n + 2 + 37
  | .wrSending => 2 * n + 2 + 36
  | .wrDataCnt => 2 * n + 2 + 35
  | .fStart => 2 * n + 2 + 34
  | .qsize2 => 2 * n + 2 + (if fresh then 21 else 30)
  | .getNowait => 2 * n + 2 + (if fresh then 20 else 29)
  | .lockRel => 2 * n + 2 + (if fresh then 19 else 28)
  | .flowClear => 2 * n + 2 + 27
  | .flowIsSet => 2 * n + 2 + 27
  | .flowSet => 2 * n + 2 + 26
  | .rdSending => 2 * n + 2 + 25
  | .rdDataCnt => 2 * n + 2 + 24
  | .qsize1 => 2 * n + 2 + 23
  | .lockAcq => 2 * n + 2 + (if fresh then 22 else 31)
  | .getBlock => 2 * n + 2 + 18
  | .fStopSet => 2 * n + 2 + 17
  | .fJoin => 2 * n + 2 + 16
  | .rPutNone => 2 * n + 2 + 15
  | .rStopSet => 2 * n + 2 + 13
  | .rJoin => 2 * n + 2 + 12
  | .exitPut i => (n - i) + n + 1
  | .exitJoin i => n - i
  | .midReady i _ => 2 * n + 2 + 28 + (n - i)
  | .done => 0

/-- nothing drained yet in this `_get_results` (the negation of the test the consumer makes when it releases the lock) -/
def fresh (s : St) : Bool := !decide (s.batch.length > 0 ∨ s.woken = true)

/-- room for the mid-call `until_all_ready()`: at most one per call (it follows the first emission: `finished` leaves 0),
`procs.length` waits and the step back into the loop -/
def midB (s : St) : Nat :=
  (s.procs.length + 1) * (s.callsLeft.length + (if s.cur.isSome ∧ s.finished = 0 then 1 else 0))

def mC (s : St) : Nat := futW s + 40 * s.callsLeft.length + pos s.cpc (fresh s) s.procs.length + midB s

def meas (s : St) : Nat := mC s + mF s + mW s + mR s + mQ s

variable {s s' : St}

theorem preStart_congr (h : s'.cpc = s.cpc) : preStart s' = preStart s := by unfold preStart; rw [h]

theorem mC_congr (h1 : s'.cpc = s.cpc) (h2 : s'.cur = s.cur) (h3 : s'.callsLeft = s.callsLeft) (h4 : s'.batch = s.batch)
    (h5 : s'.woken = s.woken) (h6 : s'.procs.length = s.procs.length) (h7 : s'.finished = s.finished) : mC s' = mC s := by
  unfold mC futW pendCall fresh midB
  rw [preStart_congr h1, h1, h2, h3, h4, h5, h6, h7]

theorem mF_congr (h1 : s'.fpc = s.fpc) (h2 : s'.fTotal = s.fTotal) (h3 : s'.fNext = s.fNext) (h4 : s'.fAlive = s.fAlive) :
    mF s' = mF s := by
  unfold mF; rw [h1, h2, h3, h4]

theorem mR_congr (h1 : s'.replQ = s.replQ) (h2 : s'.rpc = s.rpc) : mR s' = mR s := by
  unfold mR; rw [h1, h2]

theorem mQ_congr (h1 : s'.resQ = s.resQ) (h2 : s'.workQ = s.workQ) : mQ s' = mQ s := by
  unfold mQ; rw [h1, h2]

theorem mW_congr (h1 : s'.workers = s.workers) : mW s' = mW s := by
  unfold mW; rw [h1]

theorem sum_upd {l : List Worker} (f : Worker → Nat) (hnd : (l.map (·.wid)).Nodup) {w w' : Worker} (hw : w ∈ l) :
    ((upd w.wid w' l).map f).sum + f w = (l.map f).sum + f w' := by
  induction l with
  | nil => cases hw
  | cons x r ih =>
    rw [List.map_cons, List.nodup_cons] at hnd
    have hupd : upd w.wid w' (x :: r) = (if x.wid = w.wid then w' else x) :: upd w.wid w' r := rfl
    rw [hupd, List.map_cons, List.sum_cons, List.map_cons, List.sum_cons]
    rcases List.mem_cons.1 hw with rfl | hw'
    · -- no other entry carries this wid: the rest of the list is untouched
      have htail : upd w.wid w' r = r := by
        refine (List.map_congr_left fun y hy => if_neg fun e => hnd.1 ?_).trans (List.map_id' r)
        exact e ▸ List.mem_map_of_mem hy
      rw [htail, if_pos rfl]
      omega
    · have hne : x.wid ≠ w.wid := fun e => hnd.1 (e ▸ List.mem_map_of_mem hw')
      rw [if_neg hne]
      have := ih hnd.2 hw'
      omega

theorem mW_upd {w w' : Worker} (hL : LInv s) (hw : w ∈ s.workers) (h : s'.workers = upd w.wid w' s.workers) :
    mW s' + wWeight w = mW s + wWeight w' := by
  unfold mW; rw [h]; exact sum_upd wWeight hL.nodup hw

end WindVerif.Pool
