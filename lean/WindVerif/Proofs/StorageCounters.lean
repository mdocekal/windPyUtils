import WindVerif.Proofs.StorageHistory
/-! The counter layer `InvD` of the invariant of the storage model: counting the stored identifiers (with the pigeonhole
argument behind `is_contiguous`), the assertion at each pc of the counter section of a store, and that every step preserves
the layer. -/
namespace WindVerif.Storage

/-- identifier `g` is stored (on the index list) -/
def stL (l : List (Option (Nat × Nat))) (g : Nat) : Bool :=
  match l[g]? with
  | some (some _) => true
  | _ => false

/-- number of stored identifiers -/
def nSt (l : List (Option (Nat × Nat))) : Nat := l.countP (fun e => e.isSome)

theorem stored'_eq (s : St) (g : Nat) : stored' s g = stL s.index g := rfl

@[simp] theorem stL_nil (g : Nat) : stL [] g = false := by simp [stL]
@[simp] theorem stL_cons_zero (a : Option (Nat × Nat)) (l : List (Option (Nat × Nat))) : stL (a :: l) 0 = a.isSome := by
  cases a <;> simp [stL]
@[simp] theorem stL_cons_succ (a : Option (Nat × Nat)) (l : List (Option (Nat × Nat))) (g : Nat) :
    stL (a :: l) (g + 1) = stL l g := by simp [stL]

theorem stL_iff {l : List (Option (Nat × Nat))} {g : Nat} : stL l g = true ↔ ∃ e, l[g]? = some (some e) := by
  unfold stL
  split
  · rename_i e h; simp [h]
  · rename_i h
    simp only [Bool.false_eq_true, false_iff, not_exists]
    intro e he; exact h e he

theorem stL_lt {l : List (Option (Nat × Nat))} {g : Nat} (h : stL l g = true) : g < l.length := by
  obtain ⟨e, he⟩ := stL_iff.1 h
  exact lt_of_getElem? he

/-- the number of stored identifiers, as in the statement of `counters_quiescent` -/
theorem nSt_eq_filter (l : List (Option (Nat × Nat))) : ((List.range l.length).filter (stL l)).length = nSt l := by
  induction l with
  | nil => rfl
  | cons a l ih =>
    rw [List.length_cons, List.range_succ_eq_map, List.filter_cons, List.filter_map, nSt, List.countP_cons]
    have : (stL (a :: l) ∘ Nat.succ) = stL l := by funext g; simp
    rw [this]
    cases a <;> simp [ih, nSt]

theorem nSt_extend (l : List (Option (Nat × Nat))) (n : Nat) : nSt (l ++ List.replicate n none) = nSt l := by
  simp [nSt, List.countP_append, List.countP_replicate]

theorem stL_extend (l : List (Option (Nat × Nat))) (n g : Nat) : stL (l ++ List.replicate n none) g = stL l g := by
  unfold stL
  rcases Nat.lt_or_ge g l.length with h | h
  · rw [List.getElem?_append_left h]
  · rw [List.getElem?_append_right h, List.getElem?_eq_none h]
    simp [List.getElem?_replicate]

theorem nSt_set (l : List (Option (Nat × Nat))) (g : Nat) (e : Nat × Nat) (h : l[g]? = some none) :
    nSt (l.set g (some e)) = nSt l + 1 := by
  induction l generalizing g with
  | nil => simp at h
  | cons a l ih =>
    cases g with
    | zero =>
      simp at h; subst h
      simp [nSt]
    | succ g =>
      simp at h
      have := ih g h
      simp only [nSt, List.set_cons_succ, List.countP_cons] at this ⊢
      omega

theorem stL_set (l : List (Option (Nat × Nat))) (g g' : Nat) (e : Nat × Nat) (hg : g < l.length) :
    stL (l.set g (some e)) g' = (if g' = g then true else stL l g') := by
  unfold stL
  by_cases h : g' = g
  · subst h; simp [List.getElem?_set_self hg]
  · have : g ≠ g' := fun h' => h h'.symm
    rw [List.getElem?_set_ne this, if_neg h]

/-- pigeonhole: if all identifiers below `wf` are stored then `wf` is at most the number of stored ones, and when it equals
that number nothing else is stored -/
theorem pigeon (l : List (Option (Nat × Nat))) (wf : Nat) (h : ∀ g, g < wf → stL l g = true) :
    wf ≤ nSt l ∧ (nSt l ≤ wf → ∀ g, stL l g = true → g < wf) := by
  induction l generalizing wf with
  | nil =>
    cases wf with
    | zero => simp [nSt]
    | succ n => have := h 0 (by omega); simp at this
  | cons a l ih =>
    cases wf with
    | zero =>
      refine ⟨Nat.zero_le _, ?_⟩
      intro hc g hg
      simp only [nSt, Nat.le_zero_eq, List.countP_eq_zero] at hc
      obtain ⟨e, he⟩ := stL_iff.1 hg
      have := hc _ (List.mem_of_getElem? he)
      simp at this
    | succ n =>
      have h0 := h 0 (by omega)
      simp at h0
      have hn : ∀ g, g < n → stL l g = true := by
        intro g hg; have := h (g + 1) (by omega); simpa using this
      obtain ⟨ih1, ih2⟩ := ih n hn
      have hc : nSt (a :: l) = nSt l + 1 := by simp [nSt, h0]
      refine ⟨by omega, ?_⟩
      intro hle g hg
      cases g with
      | zero => omega
      | succ g =>
        have := ih2 (by omega) g (by simpa using hg)
        omega

def midCnt : Pc → Bool
  | .sCntRead | .sCntWrite | .sWfRead1 | .sWfRead2 | .sWfWrite1 | .sLoopWf | .sLoopCnt | .sLoopWf2 | .sLoopIdx
  | .sLoopWfR | .sLoopWfW => true
  | _ => false

/-- the counters agree with the index -/
def FullV (idx : List (Option (Nat × Nat))) (cnt wf : Nat) : Prop :=
  cnt = nSt idx ∧ (∀ g, g < wf → stL idx g = true) ∧ stL idx wf = false

/-- what holds at each pc of the counter section (elsewhere nothing): `_stored_cnt` lags one behind until it is written,
everything below `_waiting_for` is stored, and what the tests and reads on the way have established -/
def CntAt (idx : List (Option (Nat × Nat))) (cnt wf : Nat) (p : Proc) : Pc → Prop
  | .sCntRead => cnt + 1 = nSt idx ∧ (∀ g, g < wf → stL idx g = true) ∧ (stL idx wf = true → wf = p.gid)
  | .sCntWrite =>
    cnt + 1 = nSt idx ∧ (∀ g, g < wf → stL idx g = true) ∧ (stL idx wf = true → wf = p.gid) ∧ p.tmp = cnt
  | .sWfRead1 => cnt = nSt idx ∧ (∀ g, g < wf → stL idx g = true) ∧ (stL idx wf = true → wf = p.gid)
  | .sWfRead2 | .sLoopWfR => cnt = nSt idx ∧ (∀ g, g < wf → stL idx g = true) ∧ stL idx wf = true
  | .sWfWrite1 | .sLoopWfW => cnt = nSt idx ∧ (∀ g, g < wf → stL idx g = true) ∧ stL idx wf = true ∧ p.tmp = wf
  | .sLoopWf | .sLoopWf2 => cnt = nSt idx ∧ (∀ g, g < wf → stL idx g = true)
  | .sLoopCnt | .sLoopIdx => cnt = nSt idx ∧ (∀ g, g < wf → stL idx g = true) ∧ p.tmp = wf
  | _ => True

structure LocD (s : St) (i : Nat) (p : Proc) : Prop where
  full : s.lock = some i → midCnt p.pc = false → FullV s.index s.cnt s.wf
  mid : CntAt s.index s.cnt s.wf p p.pc

structure InvD (s : St) : Prop where
  loc : ∀ (i : Nat) (p : Proc), s.procs[i]? = some p → LocD s i p
  free : s.lock = none → FullV s.index s.cnt s.wf

theorem LocD.of_notmid {s : St} {i : Nat} {p : Proc} (hm : midCnt p.pc = false)
    (hfull : s.lock = some i → FullV s.index s.cnt s.wf) : LocD s i p := by
  refine ⟨fun h _ => hfull h, ?_⟩
  revert hm; generalize p.pc = a
  cases a <;> simp [midCnt, CntAt]

theorem LocA.lock_of_mid {scripts : List (List Op)} {s : St} {j : Nat} {q : Proc} (h : LocA scripts s j q)
    (hq : midCnt q.pc = true) : s.lock = some j := by
  refine h.lock_of_postStore (forall_pc (P := fun a => midCnt a = true → postStore a = true) (by decide) _ hq)

theorem LocD.frame {scripts : List (List Op)} {s s' : St} {j : Nat} {q : Proc} (hD : LocD s j q)
    (hAq : LocA scripts s j q) (hl : s'.lock = some j ↔ s.lock = some j)
    (hsame : s.lock = some j → s'.index = s.index ∧ s'.cnt = s.cnt ∧ s'.wf = s.wf) : LocD s' j q := by
  by_cases hlk : s.lock = some j
  · obtain ⟨e1, e2, e3⟩ := hsame hlk
    refine ⟨?_, ?_⟩ <;> rw [e1, e2, e3]
    · rw [hl]; exact hD.full
    · exact hD.mid
  · have hm : midCnt q.pc = false := by
      cases h : midCnt q.pc
      · rfl
      · exact absurd (hAq.lock_of_mid h) hlk
    exact LocD.of_notmid hm (fun h => absurd (hl.1 h) hlk)

theorem InvD.step_gen {scripts : List (List Op)} {s s' : St} {i : Nat} {p p' : Proc} (hA : InvA scripts s)
    (hD : InvD s) (hp : s.procs[i]? = some p) (hF : StepA s s' i p p') (hloc : LocD s' i p')
    (hfree : s'.lock = none → FullV s'.index s'.cnt s'.wf) : InvD s' := by
  refine ⟨?_, hfree⟩
  intro j q hq
  rw [hF.procs, getElem?_set_iff hp] at hq
  rcases hq with ⟨rfl, rfl⟩ | ⟨hji, hq⟩
  · exact hloc
  · refine (hD.loc j q hq).frame (hA.loc j q hq) (hF.lockOther j hji) (fun h => ?_)
    have := hF.shared (by rw [h]; simpa using hji)
    exact ⟨this.1, this.2.1, this.2.2.1⟩

theorem InvD.step_held {scripts : List (List Op)} {s s' : St} {i : Nat} {p p' : Proc} (hA : InvA scripts s)
    (hD : InvD s) (hp : s.procs[i]? = some p) (hF : StepA s s' i p p') (hlk : s.lock = some i)
    (hlk' : s'.lock = s.lock) (hloc : LocD s' i p') : InvD s' :=
  hD.step_gen hA hp hF hloc (fun h => nomatch hlk.symm.trans (hlk'.symm.trans h))

theorem midCnt_of_entry : ∀ a, isEntry a = true → midCnt a = false := forall_pc (by decide)

theorem midCnt_iterAdvance (p : Proc) : midCnt (iterAdvance p).pc = false := by
  unfold iterAdvance; dsimp only; split <;> rfl

/-- pcs outside the counter section at which the index is not written -/
def quietD : Pc → Bool
  | .sIdxExtend | .sIdxSet => false
  | a => !midCnt a

theorem quietD_spec : ∀ a, quietD a = true →
    midCnt a = false ∧ a ≠ .sIdxExtend ∧ a ≠ .sIdxSet ∧ a ≠ .sCntWrite ∧ a ≠ .sWfWrite1 ∧ a ≠ .sLoopWfW :=
  forall_pc (by decide)

/-- the counter section is entered at `sIdxSet` only -/
theorem succs_quietD : ∀ a, ∀ b ∈ succs a, quietD a = true → midCnt b = false := forall_pc (by decide)

/-- all steps outside the counter section that do not write the index: the counters and the index stay as they are, and
whoever holds the lock afterwards (if anybody) is the stepping process, which held it before unless it was free -/
theorem InvD.step_quietL {scripts : List (List Op)} {s s' : St} {i : Nat} {p p' : Proc} (hA : InvA scripts s)
    (hD : InvD s) (hp : s.procs[i]? = some p) (hF : StepA s s' i p p') (hL : StepL p.pc s s' p p')
    (hq : quietD p.pc = true) : InvD s' := by
  obtain ⟨hm, hx, hset, hc, hw1, hw2⟩ := quietD_spec _ hq
  have hm' : midCnt p'.pc = false := by
    cases he : ends p.pc
    · exact succs_quietD _ _ (hL.next_mem he) hq
    · rcases hL.ended he with ⟨q, r, rfl⟩ | ⟨_, _, q, rfl⟩
      · exact midCnt_of_entry _ (finish_entry _ _)
      · exact midCnt_iterAdvance _
  have hfull : s'.lock = some i ∨ s'.lock = none → FullV s'.index s'.cnt s'.wf := by
    intro h
    rw [hL.index hx hset, hL.cnt hc, hL.wf hw1 hw2]
    cases hl : s.lock with
    | none => exact hD.free hl
    | some j =>
      by_cases hji : j = i
      · subst hji; exact (hD.loc j p hp).full hl hm
      · have h' := (hF.lockOther j hji).2 hl
        rw [h'] at h
        rcases h with h | h
        · exact absurd (Option.some.inj h) hji
        · cases h
  exact hD.step_gen hA hp hF (LocD.of_notmid hm' (fun h => hfull (Or.inl h))) (fun h => hfull (Or.inr h))

theorem FullV.extend {idx : List (Option (Nat × Nat))} {cnt wf : Nat} (n : Nat) (h : FullV idx cnt wf) :
    FullV (idx ++ List.replicate n none) cnt wf := by
  obtain ⟨h1, h2, h3⟩ := h
  refine ⟨?_, ?_, ?_⟩
  · rw [nSt_extend]; exact h1
  · intro g hg; rw [stL_extend]; exact h2 g hg
  · rw [stL_extend]; exact h3

theorem wfLow_succ {idx : List (Option (Nat × Nat))} {wf t : Nat} (h : ∀ g, g < wf → stL idx g = true)
    (h' : stL idx wf = true) (ht : t = wf) : ∀ g, g < t + 1 → stL idx g = true := by
  intro g hg
  rcases Nat.lt_or_ge g wf with h1 | h1
  · exact h g h1
  · have : g = wf := by omega
    subst this; exact h'

set_option hygiene false in
/-- in a case of `InvD.step`: the assertion and the step at this pc written out -/
macro "step_mid" : tactic => `(tactic| (rw [hpc] at hmid; step_pc))

theorem activeD : ∀ a, ¬ quietD a = true →
    a = .sIdxExtend ∨ a = .sIdxSet ∨ a = .sCntRead ∨ a = .sCntWrite ∨ a = .sWfRead1 ∨ a = .sWfRead2 ∨ a = .sWfWrite1 ∨ a = .sLoopWfW ∨ a = .sLoopWf ∨ a = .sLoopWf2 ∨ a = .sLoopWfR ∨ a = .sLoopCnt ∨ a = .sLoopIdx :=
  forall_pc (by decide)

theorem InvD.step {scripts : List (List Op)} {s s' : St} {i : Nat} (hA : InvA scripts s) (hB : InvB s)
    (hC : InvC scripts s) (hD : InvD s) (hs : step s i = some s') : InvD s' := by
  obtain ⟨p, hp⟩ := step_proc hs
  obtain ⟨p', hF⟩ := StepA.of_step hA hp hs
  have hLA := hA.loc i p hp
  have hL := StepL.of_step hp hLA.noF hs hF.procs
  have hi := (List.getElem?_eq_some_iff.1 hp).1
  by_cases hq : quietD p.pc = true
  · exact hD.step_quietL hA hp hF hL hq
  -- the pcs that write the index and those of the counter section: the process holds the lock
  have hact := activeD _ hq
  have hlk : s.lock = some i :=
    hLA.lock.1 (by unfold dep; rcases hact with h | h | h | h | h | h | h | h | h | h | h | h | h <;> rw [h] <;> exact Nat.one_pos)
  have hLD := hD.loc i p hp
  have hmid := hLD.mid
  clear hL
  obtain hpc | hpc | hpc | hpc | hpc | hpc | hpc | hpc | hpc | hpc | hpc | hpc | hpc := hact
  · -- `sIdxExtend`
    step_mid
    step_at
    exact hD.step_held hA hp hF hlk rfl (.of_notmid rfl fun _ => (hLD.full hlk (by rw [hpc]; rfl)).extend _)
  · -- `sIdxSet`
    step_mid
    step_at
    have hLB := hB.loc i p hp
    have hlt := hLB.gidLt (Or.inr (Or.inr (Or.inr (Or.inr (Or.inr hpc)))))
    have hun := hLB.unset (Or.inr (Or.inr (Or.inr (Or.inr hpc))))
    obtain ⟨f1, f2, f3⟩ := hLD.full hlk (by rw [hpc]; rfl)
    refine hD.step_held hA hp hF hlk rfl ⟨nofun, ?_, fun g hg => ?_, fun h => ?_⟩
    · show s.cnt + 1 = nSt (s.index.set _ _)
      rw [nSt_set _ _ _ hun, f1]
    · show stL (s.index.set _ _) g = true
      rw [stL_set _ _ _ _ hlt]; split
      · rfl
      · exact f2 g hg
    · have h : stL (s.index.set p.gid (some (p.ident.getD 0, p.off))) s.wf = true := h
      rw [stL_set _ _ _ _ hlt] at h
      split at h
      · assumption
      · rw [f3] at h; cases h
  · -- `sCntRead`
    step_mid
    step_at; obtain ⟨h1, h2, h3⟩ := hmid
    exact hD.step_held hA hp hF hlk rfl ⟨nofun, h1, h2, h3, rfl⟩
  · -- `sCntWrite`
    step_mid
    step_at; obtain ⟨h1, h2, h3, h4⟩ := hmid
    exact hD.step_held hA hp hF hlk rfl ⟨nofun, h4 ▸ h1, h2, h3⟩
  · -- `sWfRead1`
    step_mid
    obtain ⟨h1, h2, h3⟩ := hmid
    split at hs
    · rename_i heq
      step_at
      have hst : stL s.index p.gid = true := (hC.loc2 i p hp).postSt (Or.inl (by rw [hpc]; rfl))
      exact hD.step_held hA hp hF hlk rfl ⟨nofun, h1, h2, heq ▸ hst⟩
    · rename_i hne
      step_at
      exact hD.step_held hA hp hF hlk rfl
        (.of_notmid rfl fun _ => ⟨h1, h2, Bool.eq_false_iff.2 fun h => hne (h3 h).symm⟩)
  · -- `sWfRead2`
    step_mid
    step_at; obtain ⟨h1, h2, h3⟩ := hmid
    exact hD.step_held hA hp hF hlk rfl ⟨nofun, h1, h2, h3, rfl⟩
  · -- `sWfWrite1`
    step_mid
    step_at; obtain ⟨h1, h2, h3, h4⟩ := hmid
    exact hD.step_held hA hp hF hlk rfl ⟨nofun, h1, wfLow_succ h2 h3 h4⟩
  · -- `sLoopWfW`
    step_mid
    step_at; obtain ⟨h1, h2, h3, h4⟩ := hmid
    exact hD.step_held hA hp hF hlk rfl ⟨nofun, h1, wfLow_succ h2 h3 h4⟩
  · -- `sLoopWf`
    step_mid
    step_at; obtain ⟨h1, h2⟩ := hmid
    exact hD.step_held hA hp hF hlk rfl ⟨nofun, h1, h2, rfl⟩
  · -- `sLoopWf2`
    step_mid
    step_at; obtain ⟨h1, h2⟩ := hmid
    exact hD.step_held hA hp hF hlk rfl ⟨nofun, h1, h2, rfl⟩
  · -- `sLoopWfR`
    step_mid
    step_at; obtain ⟨h1, h2, h3⟩ := hmid
    exact hD.step_held hA hp hF hlk rfl ⟨nofun, h1, h2, h3, rfl⟩
  · -- `sLoopCnt`
    step_mid
    obtain ⟨h1, h2, h3⟩ := hmid
    split at hs
    · step_at
      exact hD.step_held hA hp hF hlk rfl ⟨nofun, h1, h2⟩
    · rename_i hge
      step_at
      refine hD.step_held hA hp hF hlk rfl (.of_notmid rfl fun _ => ⟨h1, h2, Bool.eq_false_iff.2 fun h => ?_⟩)
      -- `_waiting_for` has reached `_stored_cnt`: by the pigeonhole nothing at or above it is stored
      have := (pigeon s.index s.wf h2).2 (by omega) s.wf h
      omega
  · -- `sLoopIdx`
    step_mid
    obtain ⟨h1, h2, h3⟩ := hmid
    split at hs
    · rename_i v hv
      step_at
      exact hD.step_held hA hp hF hlk rfl ⟨nofun, h1, h2, stL_iff.2 ⟨v, h3 ▸ hv⟩⟩
    · rename_i hne
      step_at
      refine hD.step_held hA hp hF hlk rfl (.of_notmid rfl fun _ => ⟨h1, h2, Bool.eq_false_iff.2 fun h => ?_⟩)
      obtain ⟨e, he⟩ := stL_iff.1 h
      exact hne e (h3 ▸ he)

theorem InvD.init (presize : Nat) (scripts : List (List Op)) : InvD (start (init presize scripts)) := by
  have hfull : FullV (start (Storage.init presize scripts)).index (start (Storage.init presize scripts)).cnt
      (start (Storage.init presize scripts)).wf := by
    refine ⟨?_, ?_, ?_⟩
    · simp [start, Storage.init, nSt, List.countP_replicate]
    · intro g hg; simp [start, Storage.init] at hg
    · simp [start, Storage.init, stL, List.getElem?_replicate]
  refine ⟨?_, fun _ => hfull⟩
  intro i p hp
  simp only [start, Storage.init, List.map_map, List.getElem?_map, Option.map_eq_some_iff] at hp
  obtain ⟨sc, _, rfl⟩ := hp
  exact LocD.of_notmid (midCnt_of_entry _ (fetch_entry _ rfl)) (fun _ => hfull)

end WindVerif.Storage
