import WindVerif.Model.Cache
import WindVerif.Proofs.AList
/-! The Python dict of the cache models (`dictGet` / `dictSet` / `dictDel`) as an association list, and `Indexes`: the dict and the
linked list of a cache hold the same entries, each key once — the part that the invariants of `LRUCache` and `LFUCache` share. -/
namespace WindVerif.Cache

theorem mem_dictDel {c : PyDict} {k k' : Key} {n : Dll.Node} : (k', n) ∈ dictDel c k ↔ (k', n) ∈ c ∧ k' ≠ k := by
  simp [dictDel]

theorem dictDel_keys_nodup {c : PyDict} (k : Key) (h : (c.map (·.1)).Nodup) : ((dictDel c k).map (·.1)).Nodup :=
  h.sublist (List.filter_sublist.map _)

theorem dictSet_new {c : PyDict} {k : Key} (n : Dll.Node) (h : c.lookup k = none) : dictSet c k n = c ++ [(k, n)] := by
  simp [dictSet, h]

/-- the part of both cache invariants (`Lru.Inv`, `Lfu.Inv`) that ties the dict to the linked list -/
structure Indexes (c : PyDict) (l : List Dll.Node) (key : Dll.Node → Key) : Prop where
  mem  : ∀ k n, (k, n) ∈ c ↔ (n ∈ l ∧ key n = k)
  dict : (c.map (·.1)).Nodup

namespace Indexes
variable {c : PyDict} {l : List Dll.Node} {key : Dll.Node → Key}

theorem get_some (i : Indexes c l key) {k : Key} {n : Dll.Node} : dictGet c k = some n ↔ n ∈ l ∧ key n = k :=
  Iff.trans ⟨al_mem_of_lookup, al_lookup_of_mem i.dict⟩ (i.mem k n)

theorem get_none (i : Indexes c l key) {k : Key} : dictGet c k = none ↔ ∀ n ∈ l, key n ≠ k := by
  refine al_lookup_none.trans ⟨fun h n hn hk => h (List.mem_map_of_mem (f := (·.1)) ((i.mem k n).2 ⟨hn, hk⟩)),
    fun h hm => ?_⟩
  obtain ⟨⟨_, n⟩, hn, rfl⟩ := List.mem_map.1 hm
  have := (i.mem _ n).1 hn
  exact h n this.1 this.2

/-- as many entries as nodes: `n ↦ (key n, n)` maps the nodes onto the entries -/
theorem length (i : Indexes c l key) (hl : l.Nodup) : c.length = l.length := by
  have h2 : (l.map fun n => (key n, n)).Nodup :=
    nodup_of_map (·.2) (by rw [List.map_map]; exact (List.map_id l).symm ▸ hl)
  have := ((List.perm_ext_iff_of_nodup (nodup_of_map _ i.dict) h2).2 ?_).length_eq
  · rwa [List.length_map] at this
  · rintro ⟨k, n⟩
    rw [i.mem, List.mem_map]
    constructor
    · rintro ⟨hn, hk⟩
      exact ⟨n, hn, by rw [hk]⟩
    · rintro ⟨a, ha, he⟩
      cases he
      exact ⟨ha, rfl⟩

theorem congr (i : Indexes c l key) {l' : List Dll.Node} {key' : Dll.Node → Key} (hp : l'.Perm l)
    (hk : ∀ x ∈ l, key' x = key x) : Indexes c l' key' :=
  ⟨fun k n => by rw [i.mem, hp.mem_iff]; exact and_congr_right fun hn => by rw [hk n hn], i.dict⟩

theorem del (i : Indexes c l key) (hl : l.Nodup) (hk : (l.map key).Nodup) {n : Dll.Node} (hn : n ∈ l) :
    Indexes (dictDel c (key n)) (l.erase n) key := by
  refine ⟨fun k' n' => ?_, dictDel_keys_nodup _ i.dict⟩
  rw [mem_dictDel, i.mem, hl.mem_erase_iff]
  constructor
  · rintro ⟨⟨hn', hk'⟩, hne⟩
    exact ⟨⟨fun he => hne (he ▸ hk').symm, hn'⟩, hk'⟩
  · rintro ⟨⟨hne, hn'⟩, hk'⟩
    exact ⟨⟨hn', hk'⟩, fun he => hne (inj_of_nodup_map hk hn' hn (hk'.trans he))⟩

theorem insert (i : Indexes c l key) {n : Dll.Node} {k : Key} (hn : n ∉ l) (hk : ∀ x ∈ l, key x ≠ k)
    {key' : Dll.Node → Key} (hk' : ∀ x ∈ l, key' x = key x) (hn' : key' n = k) :
    Indexes (dictSet c k n) (n :: l) key' := by
  rw [dictSet_new n (i.get_none.2 hk)]
  constructor
  · intro k' n'
    rw [List.mem_append, List.mem_singleton, List.mem_cons, i.mem, Prod.mk.injEq]
    constructor
    · rintro (⟨hx, he⟩ | ⟨rfl, rfl⟩)
      · exact ⟨.inr hx, (hk' n' hx).trans he⟩
      · exact ⟨.inl rfl, hn'⟩
    · rintro ⟨rfl | hx, he⟩
      · exact .inr ⟨(hn'.symm.trans he).symm, rfl⟩
      · exact .inl ⟨hx, (hk' n' hx).symm.trans he⟩
  · rw [List.map_append, List.nodup_append]
    refine ⟨i.dict, List.nodup_cons.2 ⟨List.not_mem_nil, List.nodup_nil⟩, fun a ha b hb hab => ?_⟩
    obtain ⟨⟨_, m⟩, hm, rfl⟩ := List.mem_map.1 ha
    have := (i.mem _ m).1 hm
    exact hk m this.1 (this.2.trans (hab.trans (List.mem_singleton.1 hb)))

end Indexes

end WindVerif.Cache
