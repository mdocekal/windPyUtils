import WindVerif.Proofs.Records
import WindVerif.Proofs.LineFile
/-! Record files: the line-file theorems (C11/C12) composed with the csv round trip (C13). -/
namespace WindVerif.Records
open WindVerif.LineFile

/-- the line a mutable record file holds for a record after `f[i] = r` (that is `r.save()`), as `save()` writes it:
`line.rstrip("\n")` followed by the default line ending -/
def savedLine (d : Char) (r : List Str) : Str := rstripNL (writeRow d r) ++ ['\n']

theorem rstripNL_writeRow (d : Char) (hd : IsDelim d) (r : List Str) (h : ∀ f ∈ r, Clean f) :
    rstripNL (writeRow d r) = (writeRow d r).dropLast ∧ '\n' ∉ (writeRow d r).dropLast := by
  have hn : '\n' ∉ rowBody d r ++ ['\r'] := by
    simp only [List.mem_append, List.mem_singleton, not_or]
    exact ⟨(rowBody_clean hd r h).2, by decide⟩
  rw [dropLast_writeRow]
  refine ⟨?_, hn⟩
  rw [← rstripNL_append hn, List.append_assoc]
  rfl

/-- edit, save, reopen: the `'\n'`-delimited lines of the saved file, each parsed by the record class, are exactly the
records that were stored — for every list of records whose fields contain no line breaks -/
theorem record_file_roundtrip (d : Char) (hd : IsDelim d) (rs : List (List Str)) (h : ∀ r ∈ rs, ∀ f ∈ r, Clean f) :
    (refLines ((rs.map (savedLine d)).flatten)).map (parseRow d) = rs.map Except.ok := by
  -- a saved line is the written row without its `'\n'`, followed by the line ending: the shape `reopen_roundtrip` reads
  have hsaved : rs.map (savedLine d) = (rs.map fun r => (writeRow d r).dropLast).map fun l => rstripNL l ++ ['\n'] := by
    rw [List.map_map]
    refine List.map_congr_left fun r hr => ?_
    have h1 := rstripNL_writeRow d hd r (h r hr)
    show savedLine d r = rstripNL (writeRow d r).dropLast ++ ['\n']
    rw [savedLine, h1.1, rstripNL_nonl h1.2]
  rw [hsaved, reopen_roundtrip _ ?_, List.map_map]
  · exact List.map_congr_left fun r hr => csv_roundtrip_cr d hd r (h r hr)
  · intro l hl
    obtain ⟨r, hr, rfl⟩ := List.mem_map.mp hl
    exact (rstripNL_writeRow d hd r (h r hr)).2

end WindVerif.Records
