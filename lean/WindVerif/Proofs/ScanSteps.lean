import WindVerif.Model.ScanSteps
import WindVerif.Proofs.Combos
/-!
How many elements of the sorted stream `min_combinations_in_interval_iter_sorted` pulls (C17).
-/
namespace WindVerif.Generic

theorem scanSteps_cons (iStart iEnd : Int) (res : List (List Nat × Nat)) (c : List Nat) (s : Nat)
    (r : List (List Nat × Nat)) :
    scanSteps iStart iEnd res ((c, s) :: r) =
      if stopCond iEnd res s then 1
      else if iStart ≤ (s : Int) ∧ (s : Int) < iEnd then scanSteps iStart iEnd (res ++ [(c, s)]) r + 1
      else scanSteps iStart iEnd res r + 1 := rfl

theorem minCombScanSteps_cons (iStart iEnd : Int) (res : List (List Nat × Nat)) (c : List Nat) (s : Nat)
    (r : List (List Nat × Nat)) :
    minCombScanSteps iStart iEnd res ((c, s) :: r) =
      if stopCond iEnd res s then (res, 1)
      else if iStart ≤ (s : Int) ∧ (s : Int) < iEnd then
        ((minCombScanSteps iStart iEnd (res ++ [(c, s)]) r).1, (minCombScanSteps iStart iEnd (res ++ [(c, s)]) r).2 + 1)
      else ((minCombScanSteps iStart iEnd res r).1, (minCombScanSteps iStart iEnd res r).2 + 1) := rfl

theorem scan_steps_result (iStart iEnd : Int) :
    ∀ (stream res : List (List Nat × Nat)),
      minCombScanSteps iStart iEnd res stream = (minCombScan iStart iEnd res stream, scanSteps iStart iEnd res stream) := by
  intro l
  induction l with
  | nil => intro res; rfl
  | cons p r ih =>
    intro res
    obtain ⟨c, s⟩ := p
    rw [minCombScanSteps_cons, minCombScan_cons, scanSteps_cons]
    split
    · rfl
    · split
      · rw [ih]
      · rw [ih]

theorem steps_le_length (iStart iEnd : Int) :
    ∀ (stream res : List (List Nat × Nat)), scanSteps iStart iEnd res stream ≤ stream.length := by
  intro l
  induction l with
  | nil => intro res; simp [scanSteps]
  | cons p r ih =>
    intro res
    obtain ⟨c, s⟩ := p
    rw [scanSteps_cons]
    simp only [List.length_cons]
    split
    · omega
    · split
      · have := ih (res ++ [(c, s)]); omega
      · have := ih res; omega

theorem steps_pos (iStart iEnd : Int) (res : List (List Nat × Nat)) (p : List Nat × Nat) (r : List (List Nat × Nat)) :
    0 < scanSteps iStart iEnd res (p :: r) := by
  obtain ⟨c, s⟩ := p
  rw [scanSteps_cons]
  split
  · omega
  · split <;> omega

/-- the interval ends at or below the first sum: the loop breaks on the first element -/
theorem early_exit_first (iStart iEnd : Int) (stream : List (List Nat × Nat)) (p : List Nat × Nat)
    (hhead : stream.head? = some p) (hend : iEnd ≤ (p.2 : Int)) :
    scanSteps iStart iEnd [] stream = 1 ∧ minCombScan iStart iEnd [] stream = [] := by
  cases stream with
  | nil => simp at hhead
  | cons q r =>
    simp only [List.head?_cons, Option.some.injEq] at hhead
    subst hhead
    obtain ⟨c, s⟩ := q
    have hstop : stopCond iEnd [] s = true := by simp [stopCond]; exact hend
    rw [scanSteps_cons, minCombScan_cons, hstop]
    simp

/-- the interval ends at or below every sum of a non-empty stream (every inverted or empty interval lying below the sums,
too): one element pulled, nothing returned -/
theorem early_exit_below_all (iStart iEnd : Int) (stream : List (List Nat × Nat)) (hne : stream ≠ [])
    (hend : ∀ p ∈ stream, iEnd ≤ (p.2 : Int)) :
    scanSteps iStart iEnd [] stream = 1 ∧ minCombScan iStart iEnd [] stream = [] := by
  cases stream with
  | nil => exact absurd rfl hne
  | cons q r => exact early_exit_first iStart iEnd (q :: r) q rfl (hend q List.mem_cons_self)

theorem countP_sorted_cons {q : List Nat × Nat → Bool} {p : List Nat × Nat} {r : List (List Nat × Nat)}
    (hq : ∀ a b, a.2 ≤ b.2 → q b = true → q a = true) (hhd : ∀ y ∈ r, p.2 ≤ y.2) (hp : q p = false) :
    (p :: r).countP q = 0 := by
  rw [List.countP_eq_zero]
  intro y hy h
  rcases List.mem_cons.1 hy with rfl | hy
  · simp [hp] at h
  · simp [hq _ _ (hhd y hy) h] at hp

/-- second phase: something with the in-interval sum `k0` has been collected; the loop walks the block of sums `k0` and
breaks on the first larger sum -/
theorem steps_phase2 (iStart iEnd : Int) (k0 : Nat) (hk : iStart ≤ (k0 : Int) ∧ (k0 : Int) < iEnd) :
    ∀ (l res : List (List Nat × Nat)) (c0 : List Nat), (l.map (·.2)).Pairwise (· ≤ ·) → (∀ y ∈ l, k0 ≤ y.2) →
      scanSteps iStart iEnd (res ++ [(c0, k0)]) l = min (l.countP (fun p => decide (p.2 ≤ k0)) + 1) l.length
  | [], res, c0, _, _ => by simp [scanSteps]
  | (c, s) :: r, res, c0, hsorted, hlb => by
    obtain ⟨hhd, htl⟩ := sorted_cons.1 hsorted
    have hs0 : k0 ≤ s := hlb (c, s) List.mem_cons_self
    rw [scanSteps_cons, stopCond_concat _ _ _ _ _ hk.2]
    by_cases h1 : k0 < s
    · rw [countP_sorted_cons (fun a b hab hb => by simp at hb ⊢; omega) hhd (by simpa using h1)]
      simp only [h1, decide_true, if_true, List.length_cons]
      omega
    · obtain rfl : s = k0 := by omega
      simp only [h1, decide_false, Bool.false_eq_true, if_false, hk, and_self, if_true]
      rw [steps_phase2 iStart iEnd s hk r (res ++ [(c0, s)]) c htl (fun y hy => hlb y (List.mem_cons_of_mem _ hy)),
        List.countP_cons_of_pos (by simp)]
      simp only [List.length_cons]
      omega

def LeastIn (iStart iEnd : Int) (l : List (List Nat × Nat)) (k : Nat) : Prop :=
  (∃ p ∈ l, p.2 = k) ∧ iStart ≤ (k : Int) ∧ (k : Int) < iEnd ∧
    ∀ y ∈ l, iStart ≤ (y.2 : Int) → (y.2 : Int) < iEnd → k ≤ y.2

/-- over a sorted stream holding a sum in the interval, with `k` the least such sum: the loop pulls the elements with a sum
`≤ k` and one more (the first larger sum, on which it breaks), or the whole stream when there is no larger sum -/
theorem exit_after_min_block (iStart iEnd : Int) :
    ∀ (l : List (List Nat × Nat)) (k : Nat), (l.map (·.2)).Pairwise (· ≤ ·) → LeastIn iStart iEnd l k →
      scanSteps iStart iEnd [] l = min (l.countP (fun p => decide (p.2 ≤ k)) + 1) l.length
  | [], k, _, h => by obtain ⟨⟨p, hp, _⟩, _⟩ := h; simp at hp
  | (c, s) :: r, k, hsorted, hleast => by
    obtain ⟨⟨q, hq, hqk⟩, hk1, hk2, hmin⟩ := hleast
    obtain ⟨hhd, htl⟩ := sorted_cons.1 hsorted
    have hsk : s ≤ k := by
      rcases List.mem_cons.1 hq with rfl | hq
      · simp at hqk; omega
      · have := hhd q hq; omega
    rw [scanSteps_cons, stopCond_nil, decide_eq_false (by omega), List.countP_cons_of_pos (by simpa using hsk)]
    simp only [Bool.false_eq_true, if_false, List.length_cons]
    by_cases h2 : iStart ≤ (s : Int) ∧ (s : Int) < iEnd
    · have hks : k ≤ s := hmin (c, s) List.mem_cons_self h2.1 h2.2
      obtain rfl : s = k := by omega
      rw [if_pos h2, steps_phase2 iStart iEnd s h2 r [] c htl hhd]
      omega
    · have hq' : q ∈ r := by
        rcases List.mem_cons.1 hq with rfl | hq
        · obtain rfl : s = k := hqk
          exact absurd ⟨hk1, hk2⟩ h2
        · exact hq
      rw [if_neg h2, exit_after_min_block iStart iEnd r k htl
        ⟨⟨q, hq', hqk⟩, hk1, hk2, fun y hy => hmin y (List.mem_cons_of_mem _ hy)⟩]
      omega

/-- … a larger sum exists: the block of sums `≤ k` and the first larger one -/
theorem exit_after_min_block_larger (iStart iEnd : Int) (l : List (List Nat × Nat)) (k : Nat)
    (hsorted : (l.map (·.2)).Pairwise (· ≤ ·)) (hleast : LeastIn iStart iEnd l k) (hlarger : ∃ p ∈ l, k < p.2) :
    scanSteps iStart iEnd [] l = l.countP (fun p => decide (p.2 ≤ k)) + 1 := by
  rw [exit_after_min_block iStart iEnd l k hsorted hleast]
  have hle : l.countP (fun p => decide (p.2 ≤ k)) ≤ l.length := List.countP_le_length
  have hne : l.countP (fun p => decide (p.2 ≤ k)) ≠ l.length := by
    intro h
    obtain ⟨p, hp, hpk⟩ := hlarger
    have := (List.countP_eq_length.1 h) p hp
    simp at this; omega
  omega

/-- over a sorted stream with NO sum in the interval: the loop pulls the sums below `iEnd` and one more (the first sum
`≥ iEnd`, on which it breaks), or the whole stream when every sum is below `iEnd` -/
theorem exit_at_interval_end (iStart iEnd : Int) :
    ∀ (l : List (List Nat × Nat)), (l.map (·.2)).Pairwise (· ≤ ·) →
      (∀ y ∈ l, ¬ (iStart ≤ (y.2 : Int) ∧ (y.2 : Int) < iEnd)) →
      scanSteps iStart iEnd [] l = min (l.countP (fun p => decide ((p.2 : Int) < iEnd)) + 1) l.length
  | [], _, _ => by simp [scanSteps]
  | (c, s) :: r, hsorted, hnone => by
    obtain ⟨hhd, htl⟩ := sorted_cons.1 hsorted
    rw [scanSteps_cons, stopCond_nil]
    by_cases h1 : iEnd ≤ (s : Int)
    · rw [countP_sorted_cons (fun a b hab hb => by simp at hb ⊢; omega) hhd (by simpa using h1)]
      simp only [h1, decide_true, if_true, List.length_cons]
      omega
    · rw [decide_eq_false h1, if_neg (hnone (c, s) List.mem_cons_self),
        exit_at_interval_end iStart iEnd r htl (fun y hy => hnone y (List.mem_cons_of_mem _ hy)),
        List.countP_cons_of_pos (by simp; omega)]
      simp only [Bool.false_eq_true, if_false, List.length_cons]
      omega

theorem take_countP_le (k : Nat) :
    ∀ (l : List (List Nat × Nat)), (l.map (·.2)).Pairwise (· ≤ ·) →
      ∀ p ∈ l.take (l.countP (fun p => decide (p.2 ≤ k))), p.2 ≤ k
  | [], _, p, hp => by simp at hp
  | q :: r, hsorted, p, hp => by
    obtain ⟨hhd, htl⟩ := sorted_cons.1 hsorted
    by_cases hq : q.2 ≤ k
    · rw [List.countP_cons_of_pos (by simpa using hq), List.take_succ_cons] at hp
      rcases List.mem_cons.1 hp with rfl | hp
      · exact hq
      · exact take_countP_le k r htl p hp
    · rw [countP_sorted_cons (fun a b hab hb => by simp at hb ⊢; omega) hhd (by simpa using hq)] at hp
      simp at hp

theorem sortedCombinations_ne_nil (scores : List Nat) (hne : scores ≠ []) : sortedCombinations scores ≠ [] := by
  intro h
  have hperm := combos_complete scores
  rw [h] at hperm
  have hnil : allCombos scores.length = [] := by simpa using hperm.symm
  have hmem : [0] ∈ allCombos scores.length := by
    cases scores with
    | nil => exact absurd rfl hne
    | cons a t =>
      simp only [allCombos, List.mem_filter]
      refine ⟨?_, by simp⟩
      simp only [List.length_cons, List.range_succ_eq_map, subsets]
      simp [nil_mem_subsets]
  rw [hnil] at hmem
  simp at hmem

theorem scoreSum_ge_of_mem_allCombos (scores : List Nat) (c : List Nat) (hc : c ∈ allCombos scores.length) :
    ∃ x ∈ scores, x ≤ scoreSum scores c := by
  simp only [allCombos, List.mem_filter] at hc
  obtain ⟨hsub, hne⟩ := hc
  cases c with
  | nil => simp at hne
  | cons a t =>
    have ha : a ∈ List.range scores.length := mem_of_mem_subsets hsub a List.mem_cons_self
    have ha' : a < scores.length := List.mem_range.1 ha
    refine ⟨scores[a], List.getElem_mem ha', ?_⟩
    simp only [scoreSum, List.map_cons, List.sum_cons]
    have : scores.getD a 0 = scores[a] := by simp [List.getD, ha']
    omega

/-- `min_combinations_in_interval_iter_sorted` with an interval that ends at or below the least score (inverted and empty
intervals there included): one combination is pulled from `sorted_combinations`, nothing is returned -/
theorem min_combinations_inverted_interval_steps (scores : List Nat) (iStart iEnd : Int) (hne : scores ≠ [])
    (hend : ∀ x ∈ scores, iEnd ≤ (x : Int)) :
    minCombinationsSteps scores iStart iEnd = 1 ∧ minCombinations scores iStart iEnd = [] := by
  refine early_exit_below_all iStart iEnd _ (sortedCombinations_ne_nil scores hne) ?_
  rintro ⟨c, k⟩ hp
  obtain ⟨hc, rfl⟩ := (mem_sortedCombinations_iff scores c k).1 hp
  obtain ⟨x, hx, hxk⟩ := scoreSum_ge_of_mem_allCombos scores c hc
  have := hend x hx
  show iEnd ≤ (scoreSum scores c : Int)
  omega

/-- the same with the least score named through `List.min?` -/
theorem min_combinations_inverted_interval_steps_min (scores : List Nat) (iStart iEnd : Int) (m : Nat)
    (hmin : scores.min? = some m) (hend : iEnd ≤ (m : Int)) :
    minCombinationsSteps scores iStart iEnd = 1 ∧ minCombinations scores iStart iEnd = [] := by
  have hne : scores ≠ [] := by
    intro h; subst h; simp at hmin
  have hm := List.min?_eq_some_iff.1 hmin
  apply min_combinations_inverted_interval_steps scores iStart iEnd hne
  intro x hx
  have := hm.2 x hx
  omega

/-- scores `[1, 1, 1, 1]`, interval `[100, 0)`: the loop breaks on the first combination, the variant that tests `i_end`
only for sums `≥ i_start` walks all 15; both return nothing -/
theorem early_exit_witness :
    scanSteps 100 0 [] (sortedCombinations [1, 1, 1, 1]) = 1 ∧
    scanStepsNoEarly 100 0 [] (sortedCombinations [1, 1, 1, 1]) = 15 ∧
    (sortedCombinations [1, 1, 1, 1]).length = 15 ∧
    (minCombScanNoEarly 100 0 [] (sortedCombinations [1, 1, 1, 1])).1 = minCombinations [1, 1, 1, 1] 100 0 := by
  decide

end WindVerif.Generic
