import WindVerif.Proofs.PoolJoinTimeout
/-!
How many worker processes of a pool are alive at once (C03 / C04).

`ReplaceWorkerThread.run` JOINS the retired worker before it creates and starts the successor.  With `join_timeout=None`
(`Cfg.joinTimeout = false`) the join returns only when the retired process has exited, so a replacement never raises the
number of running worker processes (`aliveCnt`: pc neither `notStarted` nor `exited`): at most `nWorkers` in every reachable
state, even together with the processes that are created but not yet started.  With a finite `join_timeout` the join may
return while the retired worker is still inside `end()` (`WPc.ending`) and the bound fails — one more running process with
every replacement; what remains true for every configuration: the running processes beyond `nWorkers` are retired workers
inside `end()`.

The invariants used are `LInv` (Proofs/PoolLifeInv.lean: wids distinct, a worker that is not `gone` is listed), `UnlExited`
(Proofs/PoolExited.lean: without a join timeout an unlisted worker has exited — the replace thread's join blocks while the
retired worker is inside `end()`) and the small `AInv` below.  `liveCnt` (Proofs/PoolLiveInv.lean) counts the workers that are
not `gone` — it includes `notStarted` and excludes `ending` —; `alive_balance` relates the two counts.
-/
namespace WindVerif.Pool

def running : WPc → Bool
  | .notStarted | .exited => false
  | _ => true

def aliveCnt (s : St) : Nat := s.workers.countP (fun w => running w.pc)

/-- worker processes created (`_init_process`) but not started yet -/
def notStartedCnt (s : St) : Nat := s.workers.countP (fun w => w.pc == .notStarted)

/-- workers inside `end()` (stop order taken / wid posted / raised; the `finally:` of `run` still to finish) -/
def endingCnt (s : St) : Nat := s.workers.countP (fun w => w.pc == .ending)

def unlistedCnt (s : St) : Nat := s.workers.countP (fun w => !s.procs.contains w.wid)

def isJoin : RPc → Bool
  | .join _ => true
  | _ => false

def isRepl (s : St) (t : Tid) : Bool := decide (t = .r) && isJoin s.rpc

/-- number of replacements performed along a schedule (steps of the replace thread that create and list a successor) -/
def replCount (s : St) : List Tid → Nat
  | [] => 0
  | t :: ts =>
    match step s t with
    | none => 0
    | some s' => (if isRepl s t then 1 else 0) + replCount s' ts

theorem countP_le_of_listed {l : List Worker} {p : Worker → Bool} {procs : List Nat}
    (hnd : (l.map (·.wid)).Nodup) (h : ∀ w ∈ l, p w = true → w.wid ∈ procs) : l.countP p ≤ procs.length := by
  rw [List.countP_eq_length_filter, ← List.length_map (f := (·.wid))]
  apply List.Nodup.length_le_of_subset
  · exact ((List.filter_sublist (l := l)).map _).nodup hnd
  · intro a ha
    obtain ⟨w, hw, rfl⟩ := List.mem_map.1 ha
    rw [List.mem_filter] at hw
    exact h w hw.1 hw.2

theorem countP_balance {α} {l : List α} {p q r t : α → Bool}
    (h : ∀ x ∈ l, (if p x = true then 1 else 0) + (if q x = true then 1 else 0) =
      (if r x = true then 1 else 0) + (if t x = true then 1 else 0)) :
    l.countP p + l.countP q = l.countP r + l.countP t := by
  induction l with
  | nil => rfl
  | cons a l ih =>
    have h1 := h a (List.mem_cons_self ..)
    have h2 := ih (fun x hx => h x (List.mem_cons_of_mem _ hx))
    simp only [List.countP_cons]
    omega

theorem nodup_rename {l : List Nat} {a nw : Nat} (hl : l.Nodup) (hnw : nw ∉ l) :
    (l.map (fun x => if x = a then nw else x)).Nodup := by
  induction l with
  | nil => exact List.nodup_nil
  | cons b l ih =>
    rw [List.nodup_cons] at hl
    have hnw' : nw ∉ l := fun hh => hnw (List.mem_cons_of_mem _ hh)
    have hnb : nw ≠ b := fun e => hnw (e ▸ List.mem_cons_self ..)
    rw [List.map_cons, List.nodup_cons]
    refine ⟨?_, ih hl.2 hnw'⟩
    intro hmem
    obtain ⟨c, hc, hce⟩ := List.mem_map.1 hmem
    by_cases hb : b = a
    · rw [if_pos hb] at hce
      by_cases hca : c = a
      · exact hl.1 (by rw [hb, ← hca]; exact hc)
      · rw [if_neg hca] at hce; exact hnw' (hce ▸ hc)
    · rw [if_neg hb] at hce
      by_cases hca : c = a
      · rw [if_pos hca] at hce; exact hnb hce
      · rw [if_neg hca] at hce; exact hl.1 (hce ▸ hc)

structure KeepW (s s' : St) : Prop where
  procs : s'.procs = s.procs
  widCounter : s'.widCounter = s.widCounter
  wids : s'.workers.map (·.wid) = s.workers.map (·.wid)

structure ReplW (s s' : St) (wid : Nat) : Prop where
  rpc : s.rpc = .join wid
  joined : workerExited s wid = true ∨ s.cfg.joinTimeout = true
  procs : s'.procs = s.procs.map (fun x => if x = wid then s.widCounter else x)
  widCounter : s'.widCounter = s.widCounter + 1
  workers : s'.workers = s.workers ++ [mkWorker s.cfg s.widCounter]

theorem stepR_shape {s s' : St} (h : stepR s = some s') :
    s.rAlive = true ∧ ((KeepW s s' ∧ isJoin s.rpc = false) ∨ ∃ wid, ReplW s s' wid) := by
  obtain ⟨hal, ⟨r, hr, _, rfl⟩ | ⟨wid, r, hr, _, rfl⟩ | ⟨wid, hr, hj, rfl⟩ | ⟨nw, w, hr, _, rfl⟩⟩ := stepR_cases h
  · exact ⟨hal, .inl ⟨⟨rfl, rfl, rfl⟩, by rw [hr]; rfl⟩⟩
  · exact ⟨hal, .inl ⟨⟨rfl, rfl, rfl⟩, by rw [hr]; rfl⟩⟩
  · exact ⟨hal, .inr ⟨wid, hr, by simpa using hj, rfl, rfl, rfl⟩⟩
  · exact ⟨hal, .inl ⟨⟨rfl, rfl, upd_wids _ rfl⟩, by rw [hr]; rfl⟩⟩

theorem step_shape {s s' : St} {t : Tid} (h : step s t = some s') :
    (KeepW s s' ∧ isRepl s t = false) ∨ (t = .r ∧ s.rAlive = true ∧ ∃ wid, ReplW s s' wid) := by
  cases t with
  | c =>
    refine Or.inl ⟨⟨(stepC_procsM h).1, (stepC_procsM h).2, ?_⟩, rfl⟩
    rcases stepC_workers h with e | ⟨w, _, e⟩
    · rw [e]
    · rw [e]; exact upd_wids _ rfl
  | f =>
    refine Or.inl ⟨⟨(stepF_procsM h).1, (stepF_procsM h).2, ?_⟩, rfl⟩
    rw [(stepF_frameM h).2.1]
  | r =>
    obtain ⟨hal, hk | hr⟩ := stepR_shape h
    · exact Or.inl ⟨hk.1, by unfold isRepl; rw [hk.2]; rfl⟩
    · exact Or.inr ⟨rfl, hal, hr⟩
  | w k =>
    obtain ⟨w, w', _, _, _, hwid, _, _, hf⟩ := stepW_summary h
    refine Or.inl ⟨⟨hf.procs, hf.widCounter, ?_⟩, rfl⟩
    rw [hf.workers]; exact upd_wids _ hwid

structure AInv (s : St) : Prop where
  wids : s.workers.map (·.wid) = List.range s.widCounter
  procsNodup : s.procs.Nodup
  len : s.procs.length = s.cfg.nWorkers

theorem AInv_init (cfg : Cfg) : AInv (init cfg) := by
  refine ⟨?_, List.nodup_range, List.length_range⟩
  show (((List.range cfg.nWorkers).map (mkWorker cfg)).map (·.wid)) = List.range cfg.nWorkers
  rw [List.map_map]
  have : ((fun w : Worker => w.wid) ∘ mkWorker cfg) = id := rfl
  rw [this, List.map_id]

theorem AInv_step {s s' : St} {t : Tid} (hL : LInv s) (hA : AInv s) (h : step s t = some s') :
    AInv s' ∧ s'.workers.length = s.workers.length + (if isRepl s t then 1 else 0) := by
  have hcfg := step_cfg h
  rcases step_shape h with ⟨hk, hnr⟩ | ⟨ht, _, wid, hr⟩
  · refine ⟨⟨?_, ?_, ?_⟩, ?_⟩
    · rw [hk.wids, hk.widCounter]; exact hA.wids
    · rw [hk.procs]; exact hA.procsNodup
    · rw [hk.procs, hcfg]; exact hA.len
    · rw [hnr]
      have := congrArg List.length hk.wids
      simpa using this
  · have hfresh : s.widCounter ∉ s.procs := fun hm => Nat.lt_irrefl _ (hL.procsLt _ hm)
    refine ⟨⟨?_, ?_, ?_⟩, ?_⟩
    · rw [hr.workers, hr.widCounter, List.map_append, hA.wids, List.range_succ]; rfl
    · rw [hr.procs]; exact nodup_rename hA.procsNodup hfresh
    · rw [hr.procs, List.length_map, hcfg]; exact hA.len
    · have : isRepl s t = true := by unfold isRepl; rw [ht, hr.rpc]; rfl
      rw [this, hr.workers]; simp

theorem AInv_run {s s' : St} {sched : List Tid} (hL : LInv s) (hA : AInv s) (h : run s sched = some s') :
    AInv s' ∧ s'.workers.length = s.workers.length + replCount s sched := by
  induction sched generalizing s with
  | nil => simp only [run, Option.some.injEq] at h; subst h; exact ⟨hA, rfl⟩
  | cons t ts ih =>
    simp only [run] at h
    split at h
    · cases h
    · rename_i s1 hs1
      obtain ⟨hA1, hl1⟩ := AInv_step hL hA hs1
      obtain ⟨hA2, hl2⟩ := ih (LInv_step hL hs1) hA1 h
      refine ⟨hA2, ?_⟩
      simp only [replCount, hs1]
      omega

theorem AInv_reach {cfg : Cfg} {s : St} (h : Reach cfg s) : AInv s := by
  obtain ⟨sched, hs⟩ := h
  exact (AInv_run (LInv_init cfg) (AInv_init cfg) hs).1

/-- a plain `FunctorPool` has no replace thread: no step is a replacement -/
theorem replCount_plain {s s' : St} {sched : List Tid} (hL : LInv s) (hf : s.cfg.factory = false)
    (h : run s sched = some s') : replCount s sched = 0 := by
  induction sched generalizing s with
  | nil => rfl
  | cons t ts ih =>
    simp only [run] at h
    split at h
    · cases h
    · rename_i s1 hs1
      have hnr : isRepl s t = false := by
        rcases step_shape hs1 with ⟨_, hnr⟩ | ⟨_, hal, _⟩
        · exact hnr
        · have := (hL.rAliveIn hal).2; rw [hf] at this; cases this
      have := ih (LInv_step hL hs1) (by rw [step_cfg hs1]; exact hf) h
      simp only [replCount, hs1, hnr, this]
      rfl

/-- the pool lists exactly `nWorkers` workers, always (a replacement overwrites a slot) -/
theorem listed_length (cfg : Cfg) (s : St) (h : Reach cfg s) : s.procs.length = cfg.nWorkers := by
  rw [← (LInv_reach h).2]; exact (AInv_reach h).len

/-- … and no wid twice -/
theorem listed_nodup (cfg : Cfg) (s : St) (h : Reach cfg s) : s.procs.Nodup := (AInv_reach h).procsNodup

theorem listed_exists (cfg : Cfg) (s : St) (h : Reach cfg s) (wid : Nat) (hw : wid ∈ s.procs) :
    ∃ w ∈ s.workers, w.wid = wid := by
  have hlt := (LInv_reach h).1.procsLt wid hw
  have : wid ∈ s.workers.map (·.wid) := by rw [(AInv_reach h).wids]; exact List.mem_range.2 hlt
  obtain ⟨w, hw, he⟩ := List.mem_map.1 this
  exact ⟨w, hw, he⟩

/-- the number of workers ever created is `nWorkers` + the number of replacements performed; their wids are
`0 … (number created) - 1` and the wid counter is that number -/
theorem created_eq (cfg : Cfg) (sched : List Tid) (s : St) (h : run (init cfg) sched = some s) :
    s.workers.length = cfg.nWorkers + replCount (init cfg) sched ∧ s.widCounter = s.workers.length ∧
    s.workers.map (·.wid) = List.range s.workers.length := by
  obtain ⟨hA, hl⟩ := AInv_run (LInv_init cfg) (AInv_init cfg) h
  have hw : s.workers.length = s.widCounter := by
    have := congrArg List.length hA.wids
    simpa using this
  refine ⟨?_, hw.symm, by rw [hw]; exact hA.wids⟩
  rw [hl]
  show ((List.range cfg.nWorkers).map (mkWorker cfg)).length + _ = _
  rw [List.length_map, List.length_range]

theorem listed_count (cfg : Cfg) (s : St) (h : Reach cfg s) :
    s.workers.countP (fun w => s.procs.contains w.wid) = cfg.nWorkers := by
  obtain ⟨hL, _⟩ := LInv_reach h
  rw [← listed_length cfg s h]
  apply Nat.le_antisymm
  · apply countP_le_of_listed hL.nodup
    intro w _ hp
    simpa using hp
  · rw [List.countP_eq_length_filter,
      ← List.length_map (f := fun w : Worker => w.wid) (as := s.workers.filter (fun w => s.procs.contains w.wid))]
    apply List.Nodup.length_le_of_subset (listed_nodup cfg s h)
    intro a ha
    obtain ⟨w, hw, rfl⟩ := listed_exists cfg s h a ha
    exact List.mem_map.2 ⟨w, List.mem_filter.2 ⟨hw, by simpa using ha⟩, rfl⟩

/-- the number of workers ever created is `nWorkers` + the number of workers that are not listed any more (each
replacement unlists exactly one) -/
theorem created_unlisted (cfg : Cfg) (s : St) (h : Reach cfg s) : s.workers.length = cfg.nWorkers + unlistedCnt s := by
  have h1 := List.length_eq_countP_add_countP (fun w : Worker => s.procs.contains w.wid) (l := s.workers)
  rw [listed_count cfg s h] at h1
  rw [h1]
  unfold unlistedCnt
  congr 1
  apply List.countP_congr
  intro w _
  cases s.procs.contains w.wid <;> simp

/-- the workers that have not left their loop (created-but-not-started ones included) are never more than `nWorkers`, in
every configuration -/
theorem liveCnt_le_workers (cfg : Cfg) (s : St) (h : Reach cfg s) : liveCnt s ≤ cfg.nWorkers := by
  obtain ⟨hL, _⟩ := LInv_reach h
  rw [← listed_length cfg s h]
  apply countP_le_of_listed hL.nodup
  intro w hw hp
  exact hL.listed w hw (by simpa using hp)

theorem alive_balance (s : St) : aliveCnt s + notStartedCnt s = liveCnt s + endingCnt s := by
  unfold aliveCnt notStartedCnt liveCnt endingCnt
  apply countP_balance
  intro w _
  cases w.pc <;> rfl

/-- every configuration: the running worker processes (and the ones created but not started) beyond `nWorkers` are retired
workers still inside `end()` -/
theorem alive_le_general (cfg : Cfg) (s : St) (h : Reach cfg s) :
    aliveCnt s + notStartedCnt s ≤ cfg.nWorkers + endingCnt s := by
  rw [alive_balance]
  exact Nat.add_le_add_right (liveCnt_le_workers cfg s h) _

theorem alive_notStarted_eq (s : St) :
    aliveCnt s + notStartedCnt s = s.workers.countP (fun w => w.pc != .exited) + s.workers.countP (fun _ => false) := by
  unfold aliveCnt notStartedCnt
  apply countP_balance
  intro w _
  cases w.pc <;> rfl

/-- `join_timeout=None`: worker processes running or created-but-not-started are never more than `nWorkers`: each of them is
listed (a replaced worker has exited before its slot was overwritten — the replace thread's join blocks while the retired
worker is still inside `end()`), and the pool lists `nWorkers` distinct wids -/
theorem alive_notStarted_le_workers (cfg : Cfg) (hjt : cfg.joinTimeout = false) (s : St) (h : Reach cfg s) :
    aliveCnt s + notStartedCnt s ≤ cfg.nWorkers := by
  obtain ⟨hL, _⟩ := LInv_reach h
  rw [alive_notStarted_eq, ← listed_length cfg s h]
  have h0 : s.workers.countP (fun _ => false) = 0 := by rw [List.countP_eq_zero]; intro _ _ hh; cases hh
  rw [h0, Nat.add_zero]
  apply countP_le_of_listed hL.nodup
  intro w hw hp
  by_cases hn : w.wid ∈ s.procs
  · exact hn
  · have := unlisted_exited' cfg hjt s h w hw hn
    rw [this] at hp; cases hp

/-- **`join_timeout=None`: in every reachable state at most `nWorkers` worker processes are running** — a successor is
started only after the worker it replaces has exited, so replacement never raises the number of running processes -/
theorem alive_le_workers (cfg : Cfg) (hjt : cfg.joinTimeout = false) (s : St) (h : Reach cfg s) :
    aliveCnt s ≤ cfg.nWorkers :=
  Nat.le_trans (Nat.le_add_right _ _) (alive_notStarted_le_workers cfg hjt s h)

/-- `join_timeout=None`: whenever the replace thread PERFORMS its `join` step for worker `wid` (the step that creates the
successor: `step s .r = some s'` at `rpc = .join wid`), that worker has already exited.  The step is a hypothesis (`hs`): the
retired worker posts its wid and only then runs `end()`, so the replace thread can ARRIVE at the join while the worker is
still inside `end()` (`successor_join_waits`); the join then blocks until the exit -/
theorem successor_after_exit (cfg : Cfg) (hjt : cfg.joinTimeout = false) (s : St) (h : Reach cfg s) (wid : Nat)
    (hr : s.rpc = .join wid) (s' : St) (hs : step s .r = some s') : ∀ w ∈ s.workers, w.wid = wid → w.pc = .exited := by
  obtain ⟨hL, hc⟩ := LInv_reach h
  obtain ⟨_, ⟨_, hr', _⟩ | ⟨_, _, hr', _⟩ | ⟨_, hr', hj, _⟩ | ⟨_, _, hr', _⟩⟩ := stepR_cases hs <;> rw [hr] at hr' <;> cases hr'
  rw [hc, hjt] at hj
  exact workerExited_all hL (by simpa using hj)

/-- every configuration: the worker the replace thread is about to join has left its loop for good (exited or inside
`end()`) -/
theorem successor_after_gone (cfg : Cfg) (s : St) (h : Reach cfg s) (wid : Nat) (hr : s.rpc = .join wid) :
    ∀ w ∈ s.workers, w.wid = wid → gone w.pc = true := by
  obtain ⟨hL, _⟩ := LInv_reach h
  have hp : wid ∈ pending s := by unfold pending; rw [hr]; exact List.mem_append_left _ (List.mem_singleton.2 rfl)
  exact (hL.pend wid hp).2

/-- finite `join_timeout`: a reachable state with `nWorkers + 1` running worker processes (the retired worker 0 inside
`end()`, its successor started) -/
theorem alive_exceeds_with_timeout :
    ∃ sched s, jtCfg.joinTimeout = true ∧ run (init jtCfg) sched = some s ∧ aliveCnt s = jtCfg.nWorkers + 1 :=
  have ⟨s, hs, hp⟩ := exists_of_any (o := run (init jtCfg) jtSched) (P := fun s => aliveCnt s = jtCfg.nWorkers + 1)
    (by decide +kernel)
  ⟨jtSched, s, rfl, hs, hp⟩

/-- … the successor (worker 1) processes chunk 1, retires, and is replaced too while workers 0 and 1 are both still inside
`end()` -/
def jtSched2 : List Tid := jtSched ++ [.f, .w 1, .w 1, .w 1, .w 1, .w 1, .w 1, .w 1, .r, .r, .r]

/-- finite `join_timeout`: the number of running worker processes grows with every replacement — a reachable state with
`nWorkers + 2` of them after two replacements -/
theorem alive_grows_with_timeout :
    ∃ sched s, jtCfg.joinTimeout = true ∧ run (init jtCfg) sched = some s ∧ replCount (init jtCfg) sched = 2 ∧
      aliveCnt s = jtCfg.nWorkers + 2 :=
  have ⟨s, hs, hp⟩ := exists_of_any (o := run (init jtCfg) jtSched2) (P := fun s => aliveCnt s = jtCfg.nWorkers + 2)
    (by decide +kernel)
  ⟨jtSched2, s, rfl, hs, by decide +kernel, hp⟩

def njCfg : Cfg := { jtCfg with joinTimeout := false }

/-- as `jtSched`, but the retiring worker 0 posts its wid, runs `end()` and exits (two steps) BEFORE the replace thread
moves (`join_timeout=None`): the replace thread's join finds it exited -/
def njSched : List Tid :=
  [.c, .c, .c, .c, .c, .c, .c, .w 0, .w 0, .f, .f, .f, .f, .f, .w 0, .w 0, .w 0, .w 0, .w 0, .w 0, .r, .r, .r]

/-- after the replacement: worker 0 exited, worker 1 listed and running — the bound `nWorkers = 1` is attained, two workers
have been created, one replacement performed, one worker unlisted -/
theorem njSched_run : (run (init njCfg) njSched).map
    (fun s => (s.procs, s.workers.map (fun w => (w.wid, w.pc)), aliveCnt s, unlistedCnt s)) =
    some ([1], [(0, .exited), (1, .bfClear)], 1, 1) ∧ replCount (init njCfg) njSched = 1 := by
  decide +kernel

/-- the other order: worker 0 posts its wid, the replace thread takes it and arrives at its join while worker 0 is still inside
`end()`: the join BLOCKS (the replace thread is not enabled; worker 0 is), one running process — `successor_after_exit`
without its hypothesis `hs` is false in this state -/
def njSchedWait : List Tid :=
  [.c, .c, .c, .c, .c, .c, .c, .w 0, .w 0, .f, .f, .f, .f, .f, .w 0, .w 0, .w 0, .w 0, .w 0, .r]

theorem successor_join_waits : (run (init njCfg) njSchedWait).map
    (fun s => (s.rpc, s.workers.map (fun w => (w.wid, w.pc)), (step s .r).isSome, (step s (.w 0)).isSome, aliveCnt s)) =
    some (.join 0, [(0, .ending)], false, true, 1) := by
  decide +kernel

end WindVerif.Pool
