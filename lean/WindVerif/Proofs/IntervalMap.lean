import WindVerif.Model.SpanSet
import WindVerif.Proofs.Sorted
import WindVerif.Proofs.SpanSet
/-! Theorems about the model of `ImmutIntervalMap` (C16). -/
namespace WindVerif.SpanSet

/-- two closed intervals share no point -/
def Apart (a b : Span) : Prop := a.2 < b.1 ∨ b.2 < a.1

def Inside (key : Int) (iv : Span) : Prop := iv.1 ≤ key ∧ key ≤ iv.2

/-- the defining dict is acceptable: every interval has start ≤ end and no two intervals share a point -/
def Acceptable (items : List (Span × Nat)) : Prop :=
  (∀ it ∈ items, it.1.1 ≤ it.1.2) ∧ (items.map (·.1)).Pairwise Apart

theorem apart_symm {a b : Span} (h : Apart a b) : Apart b a := h.symm

/-- the Overlaps span set of the constructor keeps every interval exactly when no two share a point -/
theorem build_overlaps_length_iff (xs : List Span) :
    (build .overlaps xs).length = xs.length ↔ xs.Pairwise Apart := by
  refine (build_length_iff .overlaps xs).trans (List.Pairwise.iff fun a b => ?_)
  unfold Rel.holds Apart
  simp only [Bool.and_eq_false_iff, decide_eq_false_iff_not]
  omega

/-- the sorted `(end, position)` pairs -/
def sortedPairs (items : List (Span × Nat)) : List (Int × Nat) :=
  ((items.map (·.1)).map (·.2)).zipIdx.mergeSort (fun a b => a.1 ≤ b.1)

/-- the map that a successful construction returns -/
def mkMap (items : List (Span × Nat)) : IMap :=
  { starts := (items.map (·.1)).map (·.1), vals := items.map (·.2),
    sortedEnds := (sortedPairs items).map (·.1), sortedIdx := (sortedPairs items).map (·.2) }

theorem imapInit_eq (items : List (Span × Nat)) :
    (Acceptable items → imapInit items = .ok (mkMap items)) ∧
    (¬ Acceptable items → imapInit items = .error .keyError) := by
  unfold imapInit
  split
  · next h1 =>
    obtain ⟨it, hit, hlt⟩ := List.any_eq_true.1 h1
    exact ⟨fun ha => absurd (of_decide_eq_true hlt) (Int.not_lt.2 (ha.1 it hit)), fun _ => rfl⟩
  · next h1 =>
    have hv : ∀ it ∈ items, it.1.1 ≤ it.1.2 := fun it hit =>
      Int.not_lt.1 fun hlt => h1 (List.any_eq_true.2 ⟨it, hit, decide_eq_true hlt⟩)
    have hb : ((build .overlaps (items.map (·.1))).length != items.length) = true ↔
        ¬ (items.map (·.1)).Pairwise Apart := by
      rw [bne_iff_ne, ne_eq, ← build_overlaps_length_iff, List.length_map]
    dsimp only
    split
    · next h2 => exact ⟨fun ha => absurd ha.2 (hb.1 h2), fun _ => rfl⟩
    · next h2 => exact ⟨fun _ => rfl, fun hn => absurd ⟨hv, Classical.not_not.1 (mt hb.2 h2)⟩ hn⟩

theorem imapInit_err (items : List (Span × Nat)) (h : ¬ Acceptable items) :
    imapInit items = .error .keyError :=
  (imapInit_eq items).2 h

theorem imapInit_ok (items : List (Span × Nat)) (m : IMap) (h : imapInit items = .ok m) :
    Acceptable items ∧ m = mkMap items := by
  by_cases ha : Acceptable items
  · rw [(imapInit_eq items).1 ha] at h
    exact ⟨ha, (Except.ok.inj h).symm⟩
  · rw [imapInit_err items ha] at h; cases h

/-- construction succeeds exactly for acceptable dicts, and raises `KeyError` otherwise -/
theorem imapInit_ok_iff (items : List (Span × Nat)) :
    (∃ m, imapInit items = .ok m) ↔ Acceptable items :=
  ⟨fun ⟨m, hm⟩ => (imapInit_ok items m hm).1, fun h => ⟨_, (imapInit_eq items).1 h⟩⟩

theorem acceptable_dich (items : List (Span × Nat)) (h : (items.map (·.1)).Pairwise Apart) :
    ∀ a ∈ items, ∀ b ∈ items, a = b ∨ Apart a.1 b.1 := by
  have hp := List.pairwise_map.1 h
  exact fun a ha b hb => List.Pairwise.forall_of_forall_of_flip (R := fun a b => a = b ∨ Apart a.1 b.1)
    (fun _ _ => .inl rfl) (hp.imp .inr) (hp.imp fun hab => .inr (apart_symm hab)) ha hb

theorem inside_unique (items : List (Span × Nat)) (h : Acceptable items) (key : Int) (a b : Span × Nat)
    (ha : a ∈ items) (hb : b ∈ items) (hka : Inside key a.1) (hkb : Inside key b.1) : a.1 = b.1 := by
  rcases acceptable_dich items h.2 a ha b hb with rfl | hab
  · rfl
  · unfold Apart at hab; unfold Inside at hka hkb; omega

theorem imapLen_spec (items : List (Span × Nat)) (m : IMap) (h : imapInit items = .ok m) :
    imapLen m = items.length := by
  obtain ⟨_, rfl⟩ := imapInit_ok items m h
  simp [imapLen, mkMap]

theorem sp_perm (items : List (Span × Nat)) :
    (sortedPairs items).Perm ((items.map (·.1.2)).zipIdx) := by
  unfold sortedPairs
  rw [List.map_map]
  exact List.mergeSort_perm _ _

theorem sp_mem (items : List (Span × Nat)) (p : Int × Nat) (hp : p ∈ sortedPairs items) :
    ∃ it, items[p.2]? = some it ∧ it.1.2 = p.1 := by
  have := (sp_perm items).mem_iff.1 hp
  rw [List.mem_zipIdx_iff_getElem?, List.getElem?_map] at this
  cases h : items[p.2]? with
  | none => rw [h] at this; cases this
  | some it => rw [h] at this; exact ⟨it, rfl, Option.some.inj this⟩

theorem ends_nodup (items : List (Span × Nat)) (h : Acceptable items) : (items.map (·.1.2)).Nodup := by
  rw [List.nodup_iff_pairwise_ne, List.pairwise_map]
  refine (List.pairwise_map.1 h.2).imp_of_mem fun {a b} ha hb hab => ?_
  have := h.1 a ha; have := h.1 b hb
  unfold Apart at hab; omega

theorem sp_strict (items : List (Span × Nat)) (h : Acceptable items) :
    Sorted.Strict ((sortedPairs items).map (·.1)) :=
  Sorted.strict_mergeSort (fun p : Int × Nat => p.1) _
    (by rw [List.zipIdx_map_fst, List.map_map]; exact ends_nodup items h)

theorem ends_mem (items : List (Span × Nat)) (e : Int) :
    e ∈ (sortedPairs items).map (·.1) ↔ ∃ it ∈ items, it.1.2 = e := by
  rw [((sp_perm items).map _).mem_iff, List.zipIdx_map_fst, List.mem_map]

/-- the item read back for an `(end, position)` pair -/
def readItem (items : List (Span × Nat)) (p : Int × Nat) : Option (Span × Nat) :=
  match (mkMap items).starts[p.2]?, (mkMap items).vals[p.2]? with
  | some s, some v => some ((s, p.1), v)
  | _, _ => none

theorem readback (items : List (Span × Nat)) (p : Int × Nat) (it : Span × Nat)
    (h1 : items[p.2]? = some it) (h2 : it.1.2 = p.1) : readItem items p = some it := by
  simp only [readItem, mkMap, List.map_map, List.getElem?_map, h1, Option.map_some, Function.comp, ← h2]

/-- what the lookup computes: the item with the smallest end `≥ key` decides -/
theorem imapGet_cases (items : List (Span × Nat)) (h : Acceptable items) (key : Int) :
    (imapGet (mkMap items) key = .error .keyError ∧ ∀ it ∈ items, it.1.2 < key) ∨
    (∃ it ∈ items, key ≤ it.1.2 ∧ (∀ it' ∈ items, key ≤ it'.1.2 → it.1.2 ≤ it'.1.2) ∧
       imapGet (mkMap items) key = if key < it.1.1 then .error .keyError else .ok it.2) := by
  obtain ⟨L, R, hL, hR, sR, hE⟩ := Sorted.strict_split2 _ key (sp_strict items h)
  have hmem := ends_mem items
  have hE' : (mkMap items).sortedEnds = L ++ R := hE
  unfold imapGet
  simp only [hE', Sorted.bisectLeftNum_split hL hR]
  cases R with
  | nil =>
    refine .inl ⟨by simp, fun it hit => hL _ ?_⟩
    rw [← List.append_nil L, ← hE]; exact (hmem _).2 ⟨it, hit, rfl⟩
  | cons r R =>
    -- the pair at position `L.length` carries the end `r` and the position of its item
    have hEi : ((sortedPairs items).map (·.1))[L.length]? = some r := by
      rw [hE, List.getElem?_append_right (Nat.le_refl _), Nat.sub_self]; rfl
    rw [List.getElem?_map] at hEi
    obtain ⟨p, hp, hpr⟩ := Option.map_eq_some_iff.1 hEi
    obtain ⟨it, hit, hite⟩ := sp_mem items p (List.mem_of_getElem? hp)
    have hend : it.1.2 = r := hite.trans hpr
    refine .inr ⟨it, List.mem_of_getElem? hit, hend ▸ hR r List.mem_cons_self, fun it' hit' hk => ?_, ?_⟩
    · have he : it'.1.2 ∈ L ++ r :: R := hE ▸ (hmem _).2 ⟨it', hit', rfl⟩
      rw [hend]
      rcases List.mem_append.1 he with he | he
      · exact absurd hk (Int.not_le.2 (hL _ he))
      · rcases List.mem_cons.1 he with he | he
        · exact Int.le_of_eq he.symm
        · exact Int.le_of_lt ((List.pairwise_cons.1 sR).1 _ he)
    · rw [if_neg (by simp)]
      simp only [mkMap, List.map_map, List.getElem?_map, hp, hit, Option.map_some, Function.comp]

theorem imapGet_hit (items : List (Span × Nat)) (m : IMap) (h : imapInit items = .ok m) (key : Int)
    (it : Span × Nat) (hit : it ∈ items) (hin : Inside key it.1) : imapGet m key = .ok it.2 := by
  obtain ⟨hacc, rfl⟩ := imapInit_ok items m h
  unfold Inside at hin
  rcases imapGet_cases items hacc key with ⟨_, hall⟩ | ⟨it', hit', hk, hmin, hget⟩
  · have := hall it hit; omega
  · have hle := hmin it hit hin.2
    rcases acceptable_dich items hacc.2 it' hit' it hit with rfl | hap
    · rw [hget, if_neg (by omega)]
    · have := hacc.1 it' hit'
      unfold Apart at hap; omega

theorem imapGet_miss (items : List (Span × Nat)) (m : IMap) (h : imapInit items = .ok m) (key : Int)
    (hmiss : ∀ it ∈ items, ¬ Inside key it.1) : imapGet m key = .error .keyError := by
  obtain ⟨hacc, rfl⟩ := imapInit_ok items m h
  rcases imapGet_cases items hacc key with ⟨he, _⟩ | ⟨it', hit', hk, _, hget⟩
  · exact he
  · have := hmiss it' hit'
    unfold Inside at this
    rw [hget, if_pos (by omega)]

theorem imapContains_iff (items : List (Span × Nat)) (m : IMap) (h : imapInit items = .ok m) (key : Int) :
    imapContains m key = true ↔ ∃ it ∈ items, Inside key it.1 := by
  unfold imapContains
  constructor
  · intro hc
    apply Classical.byContradiction
    intro hn
    rw [imapGet_miss items m h key (fun it hit hin => hn ⟨it, hit, hin⟩)] at hc
    cases hc
  · rintro ⟨it, hit, hin⟩
    rw [imapGet_hit items m h key it hit hin]

theorem imapIter_eq (items : List (Span × Nat)) :
    imapIter (mkMap items) = (sortedPairs items).filterMap (readItem items) := by
  unfold imapIter
  rw [show (mkMap items).sortedIdx = (sortedPairs items).map (·.2) from rfl,
    show (mkMap items).sortedEnds = (sortedPairs items).map (·.1) from rfl, List.zip_map', List.filterMap_map]
  rfl

theorem readItem_zipIdx (items : List (Span × Nat)) :
    ((items.map (·.1.2)).zipIdx).filterMap (readItem items) = items := by
  rw [List.zipIdx_map, List.filterMap_map, filterMap_eq_map_of_mem _ (·.1) items.zipIdx, List.zipIdx_map_fst]
  intro q hq
  exact readback items (q.1.1.2, q.2) q.1 (List.mem_zipIdx_iff_getElem?.1 hq) rfl

theorem starts_ascending (l : List (Span × Nat)) (hv : ∀ it ∈ l, it.1.1 ≤ it.1.2)
    (ha : (l.map (·.1)).Pairwise Apart) (he : (l.map (·.1.2)).Pairwise (· < ·)) :
    (l.map (·.1.1)).Pairwise (· < ·) := by
  rw [List.pairwise_map] at *
  refine (ha.and he).imp_of_mem ?_
  intro a b hma hmb ⟨h1, h2⟩
  have := hv a hma; have := hv b hmb
  unfold Apart at h1; omega

/-- iteration lists every `(interval, value)` once, in ascending order -/
theorem imapIter_spec (items : List (Span × Nat)) (m : IMap) (h : imapInit items = .ok m) :
    (imapIter m).Perm items ∧ ((imapIter m).map (·.1.2)).Pairwise (· < ·) ∧
    ((imapIter m).map (·.1.1)).Pairwise (· < ·) := by
  obtain ⟨hacc, rfl⟩ := imapInit_ok items m h
  have hperm : (imapIter (mkMap items)).Perm items := by
    have := (sp_perm items).filterMap (readItem items)
    rwa [readItem_zipIdx, ← imapIter_eq] at this
  have hends : (imapIter (mkMap items)).map (·.1.2) = (sortedPairs items).map (·.1) := by
    rw [imapIter_eq, List.map_filterMap]
    refine filterMap_eq_map_of_mem _ _ _ fun p hp => ?_
    obtain ⟨it, h1, h2⟩ := sp_mem items p hp
    rw [readback items p it h1 h2, Option.map_some, h2]
  have hasc : ((imapIter (mkMap items)).map (·.1.2)).Pairwise (· < ·) := hends ▸ sp_strict items hacc
  refine ⟨hperm, hasc, starts_ascending _ (fun it hit => hacc.1 it (hperm.mem_iff.1 hit)) ?_ hasc⟩
  exact (hperm.symm.map (·.1)).pairwise hacc.2 (fun h => apart_symm h)

end WindVerif.SpanSet
