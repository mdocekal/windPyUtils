import WindVerif.Proofs.LineFilePure
/-! What a line file presents and how reads and edits act on it (C11, C12): the reference `refLines` and the byte-offset
index that realises it; `Good f ls`, which no read disturbs; the edits of `_lines` as operations on the presented list. -/
namespace WindVerif.LineFile

def splitNL : Str → List Str
  | [] => [[]]
  | c :: r =>
    if c = '\n' then [] :: splitNL r
    else match splitNL r with
      | [] => [[c]]          -- unreachable, `splitNL` never returns `[]`
      | l :: ls => (c :: l) :: ls

/-- `content.split('\n')` without the empty piece a final `'\n'` (or an empty file) leaves -/
def refLines (content : Str) : List Str :=
  let p := splitNL content
  if p.getLast? = some [] then p.dropLast else p

def lineAt (content : Str) (o : Nat) : Option Str := (dropBytes content o).map (fun rest => rstripNL (takeLine rest))

theorem splitNL_ne_nil (s : Str) : splitNL s ≠ [] := by
  induction s with
  | nil => simp [splitNL]
  | cons c r ih =>
    unfold splitNL
    split
    · simp
    · split <;> simp

theorem splitNL_append {body : Str} (hb : '\n' ∉ body) (rest : Str) :
    splitNL (body ++ '\n' :: rest) = body :: splitNL rest := by
  induction body with
  | nil => simp [splitNL]
  | cons c b ih =>
    rw [List.cons_append, splitNL, if_neg (List.ne_of_not_mem_cons hb).symm, ih (List.not_mem_of_not_mem_cons hb)]

theorem splitNL_nonl {s : Str} (hs : '\n' ∉ s) : splitNL s = [s] := by
  induction s with
  | nil => rfl
  | cons c b ih => rw [splitNL, if_neg (List.ne_of_not_mem_cons hs).symm, ih (List.not_mem_of_not_mem_cons hs)]

theorem refLines_nil : refLines [] = [] := by
  simp [refLines, splitNL]

theorem refLines_append {body : Str} (hb : '\n' ∉ body) (rest : Str) :
    refLines (body ++ '\n' :: rest) = body :: refLines rest := by
  unfold refLines
  simp only [splitNL_append hb]
  have hne := splitNL_ne_nil rest
  obtain ⟨x, t, ht⟩ := List.exists_cons_of_ne_nil hne
  rw [ht]
  simp only [List.getLast?_cons_cons, List.dropLast_cons_cons]
  split <;> rfl

theorem refLines_nonl {s : Str} (hs : '\n' ∉ s) (hne : s ≠ []) : refLines s = [s] := by
  unfold refLines
  simp [splitNL_nonl hs, hne]

theorem refLines_unfold (s : Str) (hne : s ≠ []) :
    refLines s = rstripNL (takeLine s) :: refLines (s.drop (takeLine s).length) := by
  rcases decomp s with ⟨body, rest, rfl, h2⟩ | h
  · rw [refLines_append h2, takeLine_append h2, rstripNL_append h2, List.append_cons body '\n' rest, List.drop_left]
  · rw [refLines_nonl h hne, takeLine_nonl h, rstripNL_nonl h, List.drop_length, refLines_nil]

theorem lineAt_append (pre s : Str) : lineAt (pre ++ s) (byteLen pre) = some (rstripNL (takeLine s)) := by
  rw [lineAt, dropBytes_append]; rfl

/-- `indexGo` and `refLines` take a text apart in the same way, line by line (`indexGo_cons`, `refLines_unfold`): the
offsets computed behind the prefix `pre` are those of the lines of `s` -/
theorem indexGo_lines (off : Nat) (s : Str) : ∀ pre : Str, byteLen pre = off →
    (indexGo off s).map (lineAt (pre ++ s)) = (refLines s).map some := by
  induction off, s using indexGo.induct with
  | case1 off => intro pre _; rw [indexGo_nil, refLines_nil]; rfl
  | case2 off c r l ih =>
    intro pre ho
    have hl := ih (pre ++ l) (by rw [byteLen_append, ho])
    rw [List.append_assoc, takeLine_append_drop] at hl
    rw [indexGo_cons, refLines_unfold _ (List.cons_ne_nil c r), List.map_cons, List.map_cons, hl, ← ho, lineAt_append]

theorem indexFile_lines (content : Str) : (indexFile content).map (lineAt content) = (refLines content).map some :=
  indexGo_lines 0 content [] rfl

/-- the built index has one entry per `'\n'`-delimited line (an unterminated last line counts, a final `'\n'` adds none),
every offset is on a character boundary and is the start of the corresponding line -/
theorem indexFile_spec (content : Str) :
    (indexFile content).length = (refLines content).length ∧
    ∀ i, i < (refLines content).length →
      ∃ o, (indexFile content)[i]? = some o ∧ lineAt content o = (refLines content)[i]? := by
  have h := indexFile_lines content
  have hlen : (indexFile content).length = (refLines content).length := by simpa using congrArg List.length h
  refine ⟨hlen, fun i hi => ?_⟩
  have hi' : i < (indexFile content).length := hlen ▸ hi
  have hp := getElem?_of_map_eq h i
  rw [List.getElem?_eq_getElem hi', List.getElem?_eq_getElem hi] at hp ⊢
  exact ⟨_, rfl, Option.some.inj hp⟩

def EntryIs (content : Str) (e : Entry) (l : Str) : Prop :=
  match e with
  | .str s => s = l
  | .off o => lineAt content o = some l

/-- the file presents the list `ls`, whatever the handle's cursor is -/
def Good (f : LF) (ls : List Str) : Prop :=
  f.lines.length = ls.length ∧ ∀ (p : Nat) e l, f.lines[p]? = some e → ls[p]? = some l → EntryIs f.content e l

def SameButCursor (f f' : LF) : Prop :=
  f'.content = f.content ∧ f'.lines = f.lines ∧ f'.dirty = f.dirty ∧ f'.closed = f.closed

def entryLine (content : Str) : Entry → Option Str
  | .str s => some s
  | .off o => lineAt content o

theorem entryIs_iff {content : Str} {e : Entry} {l : Str} : EntryIs content e l ↔ entryLine content e = some l := by
  cases e
  · exact Iff.rfl
  · exact ⟨congrArg some, Option.some.inj⟩

/-- `Good` as one equation between lists: every edit of `_lines` that is a `map`-compatible list operation carries it to
the same operation on the presented list -/
theorem good_iff {f : LF} {ls : List Str} : Good f ls ↔ f.lines.map (entryLine f.content) = ls.map some := by
  constructor
  · intro ⟨hlen, hE⟩
    refine List.ext_getElem? fun p => ?_
    rw [List.getElem?_map, List.getElem?_map]
    cases he : f.lines[p]? with
    | none => rw [List.getElem?_eq_none (hlen ▸ List.getElem?_eq_none_iff.mp he)]; rfl
    | some e =>
      have hp : p < ls.length := hlen ▸ (List.getElem?_eq_some_iff.mp he).1
      rw [List.getElem?_eq_getElem hp]
      exact congrArg some (entryIs_iff.mp (hE p e _ he (List.getElem?_eq_getElem hp)))
  · intro h
    refine ⟨by simpa using congrArg List.length h, fun p e l he hl => ?_⟩
    have hp := getElem?_of_map_eq h p
    rw [he, hl] at hp
    exact entryIs_iff.mpr (Option.some.inj hp)

theorem same_refl (f : LF) : SameButCursor f f := ⟨rfl, rfl, rfl, rfl⟩

theorem same_trans {f g k : LF} (h1 : SameButCursor f g) (h2 : SameButCursor g k) : SameButCursor f k :=
  ⟨h2.1.trans h1.1, h2.2.1.trans h1.2.1, h2.2.2.1.trans h1.2.2.1, h2.2.2.2.trans h1.2.2.2⟩

theorem closed_of_same {f f' : LF} (hs : SameButCursor f f') (hc : f.closed = false) : f'.closed = false :=
  hs.2.2.2.trans hc

theorem good_of_same (f f' : LF) (ls : List Str) (h : Good f ls) (hs : SameButCursor f f') : Good f' ls := by
  unfold Good at *
  rw [hs.1, hs.2.1]; exact h

/-- a caller-supplied offset index (any subset or permutation of line starts) is honoured -/
theorem new_custom_good (content : Str) (offs : List Nat) (ls : List Str)
    (h : offs.map (lineAt content) = ls.map some) : Good (LF.new content (some offs)) ls :=
  good_iff.mpr ((List.map_map ..).trans h)

theorem open_good (f : LF) (ls : List Str) (h : Good f ls) :
    Good f.open ls ∧ f.open.closed = false ∧ f.open.dirty = f.dirty ∧ f.open.content = f.content := by
  unfold LF.open
  cases hc : f.closed with
  | true => exact ⟨h, rfl, rfl, rfl⟩
  | false => exact ⟨h, hc, rfl, rfl⟩

/-- reading position `p` returns `ls[p]` whatever the cursor is, and moves nothing but the cursor -/
theorem getPos_spec (f : LF) (ls : List Str) (h : Good f ls) (p : Nat) (l : Str) (hp : ls[p]? = some l) :
    ∃ f', f.getPos p = .ok (f', l) ∧ SameButCursor f f' := by
  have hpl : p < f.lines.length := h.1 ▸ (List.getElem?_eq_some_iff.mp hp).1
  have he := List.getElem?_eq_getElem hpl
  have hent := h.2 p _ l he hp
  unfold LF.getPos
  rw [he]
  cases hq : f.lines[p] with
  | str s =>
    rw [hq] at hent; cases hent
    exact ⟨f, rfl, same_refl f⟩
  | off o =>
    rw [hq] at hent
    obtain ⟨rest, hr, hl⟩ := Option.map_eq_some_iff.mp hent
    subst hl
    exact ⟨{ f with cursor := o + byteLen (takeLine rest) }, by simp only [LF.readAt, hr], rfl, rfl, rfl, rfl⟩

theorem getInt_natCast (f : LF) (p : Nat) :
    f.getInt (p : Int) = if f.closed then .error .runtimeError else f.getPos p := by
  unfold LF.getInt
  split
  · rfl
  · by_cases hp : p < f.lines.length
    · rw [index_nat hp]
    · rw [index_nat_none (Nat.le_of_not_lt hp), LF.getPos, List.getElem?_eq_none (Nat.le_of_not_lt hp)]

theorem getInt_closed {f : LF} (hc : f.closed = true) (i : Int) : f.getInt i = .error .runtimeError := by
  rw [LF.getInt, if_pos hc]

/-- `f[i]` for an `int`: like a list, positive and negative `i`; `IndexError` outside; `RuntimeError` when closed -/
theorem getInt_spec (f : LF) (ls : List Str) (h : Good f ls) (i : Int) :
    (f.closed = true → f.getInt i = .error .runtimeError) ∧
    (f.closed = false → match Py.index ls.length i with
      | some p => ∃ f' l, ls[p]? = some l ∧ f.getInt i = .ok (f', l) ∧ SameButCursor f f'
      | none => f.getInt i = .error .indexError) := by
  refine ⟨fun hc => getInt_closed hc i, fun hc => ?_⟩
  rw [LF.getInt, if_neg (by simp [hc]), h.1]
  cases hi : Py.index ls.length i with
  | none => rfl
  | some p =>
    have hp := List.getElem?_eq_getElem (index_lt hi)
    obtain ⟨f', h1, h2⟩ := getPos_spec f ls h p _ hp
    exact ⟨f', _, hp, h1, h2⟩

theorem getInt_nat {f : LF} {ls : List Str} (h : Good f ls) (hc : f.closed = false) {p : Nat} {l : Str}
    (hp : ls[p]? = some l) : ∃ f', f.getInt (p : Int) = .ok (f', l) ∧ SameButCursor f f' := by
  rw [getInt_natCast, hc]
  exact getPos_spec f ls h p l hp

theorem getMany_spec (sel : List Int) : ∀ (f : LF) (ls : List Str), Good f ls →
    (∀ ps, sel.mapM (Py.index ls.length) = some ps →
      ∃ f' out, f.getMany sel = .ok (f', out) ∧ out.map some = ps.map (ls[·]?) ∧ SameButCursor f f') ∧
    (sel.mapM (Py.index ls.length) = none → f.getMany sel = .error .indexError) := by
  induction sel with
  | nil => intro f ls h; exact ⟨fun ps hps => ⟨f, [], rfl, by cases hps; rfl, same_refl f⟩, fun hn => nomatch hn⟩
  | cons i r ih =>
    intro f ls h
    rw [List.mapM_cons]
    unfold LF.getMany
    rw [h.1]
    cases hi : Py.index ls.length i with
    | none => exact ⟨fun ps hps => (nomatch hps), fun _ => rfl⟩
    | some p =>
      have hp := List.getElem?_eq_getElem (index_lt hi)
      obtain ⟨f1, h1, h2⟩ := getPos_spec f ls h p _ hp
      obtain ⟨ihA, ihB⟩ := ih f1 ls (good_of_same _ _ _ h h2)
      simp only [h1]
      cases hr : List.mapM (Py.index ls.length) r with
      | none => exact ⟨fun ps hps => (nomatch hps), fun _ => by rw [ihB hr]⟩
      | some qs =>
        refine ⟨fun ps hps => ?_, fun hn => nomatch hn⟩
        cases hps
        obtain ⟨f2, out, e1, e2, e3⟩ := ihA qs hr
        exact ⟨f2, _ :: out, by rw [e1], by rw [List.map_cons, List.map_cons, e2, hp], same_trans h2 e3⟩

/-- an iterable of indices selects like a list -/
theorem getIter_spec (f : LF) (ls : List Str) (h : Good f ls) (hc : f.closed = false) (sel : List Int) :
    (∀ ps, sel.mapM (Py.index ls.length) = some ps →
      ∃ f' out, f.getIter sel = .ok (f', out) ∧ out.map some = ps.map (ls[·]?) ∧ SameButCursor f f') ∧
    (sel.mapM (Py.index ls.length) = none → f.getIter sel = .error .indexError) := by
  unfold LF.getIter
  rw [if_neg (by simp [hc])]
  exact getMany_spec sel f ls h

/-- a slice selects the positions `range(len)[slice]` enumerates -/
theorem getSlice_spec (f : LF) (ls : List Str) (h : Good f ls) (hc : f.closed = false) (s : Py.Slice) :
    (∀ idx, Py.sliceIndices ls.length s = some idx → (∀ p ∈ idx, p < ls.length) →
      ∃ f' out, f.getSlice s = .ok (f', out) ∧ out.map some = idx.map (ls[·]?) ∧ SameButCursor f f') ∧
    (Py.sliceIndices ls.length s = none → f.getSlice s = .error .valueError) := by
  unfold LF.getSlice
  rw [h.1]
  constructor
  · intro idx hidx hlt
    simp only [hc, hidx]
    exact (getMany_spec _ f ls h).1 idx (mapM_index_nat _ idx hlt)
  · intro hn; simp [hc, hn]

/-- one step of an iteration that has started: the `pos`-th line whatever happened to the handle in between (random
accesses, other iterations), then `StopIteration` -/
theorem iterNext_spec (f : LF) (ls : List Str) (h : Good f ls) (it : Iter) (hs : it.started = true)
    (ht : it.total = ls.length) :
    (∀ l, ls[it.pos]? = some l →
      ∃ f', f.iterNext it = .ok (f', { it with pos := it.pos + 1 }, some l) ∧ SameButCursor f f') ∧
    (it.total ≤ it.pos → f.iterNext it = .ok (f, it, none)) := by
  constructor
  · intro l hl
    have hp : it.pos < ls.length := (List.getElem?_eq_some_iff.mp hl).1
    obtain ⟨f', h1, h2⟩ := getPos_spec f ls h it.pos l hl
    refine ⟨f', ?_, h2⟩
    simp [LF.iterNext, hs, ht, hp, h1]
  · intro hle
    have : ¬ it.pos < it.total := by omega
    simp [LF.iterNext, hs, this]

theorem good_set {f : LF} {ls : List Str} (h : Good f ls) (p : Nat) (s : Str) (d : Bool) :
    Good { f with lines := f.lines.set p (.str s), dirty := d } (ls.set p s) :=
  good_iff.mpr (by
    show (f.lines.set p (.str s)).map (entryLine f.content) = _
    rw [List.map_set, List.map_set, good_iff.mp h]; rfl)

theorem good_eraseIdx {f : LF} {ls : List Str} (h : Good f ls) (p : Nat) (d : Bool) :
    Good { f with lines := f.lines.eraseIdx p, dirty := d } (ls.eraseIdx p) :=
  good_iff.mpr (by
    show (f.lines.eraseIdx p).map (entryLine f.content) = _
    simp only [List.eraseIdx_eq_take_drop_succ, List.map_append, List.map_take, List.map_drop, good_iff.mp h])

theorem good_insertAt {f : LF} {ls : List Str} (h : Good f ls) (p : Nat) (s : Str) (d : Bool) :
    Good { f with lines := Py.insertAt f.lines p (.str s), dirty := d } (Py.insertAt ls p s) :=
  good_iff.mpr (by
    show (Py.insertAt f.lines p (.str s)).map (entryLine f.content) = _
    simp only [Py.insertAt, List.map_append, List.map_cons, List.map_take, List.map_drop, good_iff.mp h]; rfl)

theorem delItem_spec (f : LF) (ls : List Str) (h : Good f ls) (i : Int) :
    match Py.index ls.length i with
    | some p => ∃ f', f.delItem i = .ok f' ∧ Good f' (ls.eraseIdx p) ∧ f'.dirty = true ∧ f'.content = f.content ∧
        f'.closed = f.closed
    | none => f.delItem i = .error .indexError := by
  unfold LF.delItem
  rw [h.1]
  cases hi : Py.index ls.length i with
  | none => rfl
  | some p => exact ⟨_, rfl, good_eraseIdx h p true, rfl, rfl, rfl⟩

theorem pop_spec (f : LF) (ls : List Str) (h : Good f ls) (hc : f.closed = false) (i : Int) :
    match Py.index ls.length i with
    | some p => ∃ f' l, ls[p]? = some l ∧ f.pop i = .ok (f', l) ∧ Good f' (ls.eraseIdx p) ∧ f'.dirty = true ∧
        f'.content = f.content
    | none => f.pop i = .error .indexError := by
  have hg := (getInt_spec f ls h i).2 hc
  unfold LF.pop
  cases hi : Py.index ls.length i with
  | none => rw [hi] at hg; simp [hg]
  | some p =>
    rw [hi] at hg
    obtain ⟨f1, l, e1, e2, e3⟩ := hg
    have hd := delItem_spec f1 ls (good_of_same _ _ _ h e3) i
    rw [hi] at hd
    obtain ⟨f2, d1, d2, d3, d4, d5⟩ := hd
    exact ⟨f2, l, e1, by simp [e2, d1], d2, d3, d4.trans e3.1⟩

theorem setItem_nat {f : LF} {ls : List Str} (h : Good f ls) {p : Nat} (hp : p < ls.length) (s : Str) :
    ∃ f', f.setItem (p : Int) s = .ok f' ∧ Good f' (ls.set p s) ∧ f'.dirty = true ∧ f'.content = f.content ∧
        f'.closed = f.closed := by
  unfold LF.setItem
  rw [h.1, index_nat hp]
  exact ⟨_, rfl, good_set h p s true, rfl, rfl, rfl⟩

/-- the swap loop in round `i = |pre|`: on the presented list `pre ++ mid ++ suf` with `|suf| = i` it reverses `mid` and
leaves `pre` and `suf` -/
theorem reverseGo_spec (n fuel : Nat) : ∀ (f : LF) (pre mid suf : List Str), Good f (pre ++ (mid ++ suf)) →
    f.closed = false → suf.length = pre.length → n = 2 * pre.length + mid.length → mid.length < 2 * fuel →
    ∃ f', f.reverseGo n fuel pre.length = .ok f' ∧ Good f' (pre ++ (mid.reverse ++ suf)) ∧
      f'.content = f.content ∧ f'.closed = false ∧ (2 ≤ mid.length → f'.dirty = true) ∧
      (f.dirty = true → f'.dirty = true) := by
  induction fuel with
  | zero => intro f pre mid suf h hc hs hn hf; exact absurd hf (Nat.not_lt_zero _)
  | succ m ih =>
    intro f pre mid suf h hc hs hn hf
    unfold LF.reverseGo
    rcases short_or_ends mid with ⟨hm, hr⟩ | ⟨x, mid', y, rfl⟩
    · rw [if_pos (by omega), hr]
      exact ⟨f, rfl, h, rfl, hc, fun h2 => absurd hm (Nat.not_lt.mpr h2), id⟩
    · simp only [List.cons_append, List.append_assoc, List.nil_append] at h
      simp only [List.length_cons, List.length_append, List.length_nil] at hf hn
      -- the arithmetic of this round, `n = 2 * |pre| + |mid'| + 2`
      obtain ⟨a1, a2, a3, a4⟩ : ¬ pre.length ≥ n / 2 ∧ n - pre.length - 1 = pre.length + mid'.length + 1 ∧
          n = 2 * (pre.length + 1) + mid'.length ∧ mid'.length < 2 * m := by omega
      rw [if_neg a1, a2]
      obtain ⟨hx, hy, hsw⟩ := swap_ends pre mid' suf x y rfl
      obtain ⟨f1, e1, s1⟩ := getInt_nat h hc hy
      have g1 := good_of_same _ _ _ h s1
      have c1 := closed_of_same s1 hc
      obtain ⟨f2, e2, s2⟩ := getInt_nat g1 c1 hx
      obtain ⟨f3, e3, g3, d3, k3, c3⟩ := setItem_nat (good_of_same _ _ _ g1 s2) (List.getElem?_eq_some_iff.mp hx).1 y
      obtain ⟨f4, e4, g4, d4, k4, c4⟩ := setItem_nat g3
        (by rw [List.length_set]; exact (List.getElem?_eq_some_iff.mp hy).1) x
      rw [hsw, ← List.singleton_append, ← List.append_assoc] at g4
      obtain ⟨f5, e5, g5, k5, c5, -, d5⟩ := ih f4 (pre ++ [y]) mid' (x :: suf) g4
        (by rw [c4, c3]; exact closed_of_same s2 c1) (by simp [hs]) (by rw [List.length_append]; exact a3) a4
      refine ⟨f5, ?_, by simpa using g5, ?_, c5, fun _ => d5 d4, fun _ => d5 d4⟩
      · simp only [e1, e2, e3, e4]
        rwa [List.length_append] at e5
      · rw [k5, k4, k3, s2.1, s1.1]

theorem viewGo_spec (fuel : Nat) : ∀ (f : LF) (ls : List Str) (p : Nat), Good f ls → ls.length ≤ p + fuel →
    ∃ f', f.viewGo fuel p = .ok (f', ls.drop p) ∧ SameButCursor f f' := by
  induction fuel with
  | zero =>
    intro f ls p h hf
    exact ⟨f, by rw [List.drop_eq_nil_of_le (i := p) hf]; rfl, same_refl f⟩
  | succ n ih =>
    intro f ls p h hf
    unfold LF.viewGo
    rw [h.1]
    by_cases hp : p ≥ ls.length
    · exact ⟨f, by rw [if_pos hp, List.drop_eq_nil_of_le hp], same_refl f⟩
    · have hlt : p < ls.length := Nat.lt_of_not_le hp
      obtain ⟨f1, e1, e2⟩ := getPos_spec f ls h p ls[p] (List.getElem?_eq_getElem hlt)
      obtain ⟨f2, d1, d2⟩ := ih f1 ls (p + 1) (good_of_same _ _ _ h e2) (by omega)
      refine ⟨f2, ?_, same_trans e2 d2⟩
      simp only [hp, if_false, e1, d1]
      rw [List.drop_eq_getElem_cons hlt]

/-- iteration over the whole current view yields exactly the presented list -/
theorem view_spec (f : LF) (ls : List Str) (h : Good f ls) (hc : f.closed = false) :
    ∃ f', f.view = .ok (f', ls) ∧ SameButCursor f f' := by
  obtain ⟨f', e1, e2⟩ := viewGo_spec (f.lines.length + 1) f ls 0 h (by rw [h.1]; omega)
  exact ⟨f', by simpa [LF.view, hc] using e1, e2⟩

/-- `save` writes exactly the lines, each followed by the chosen line ending; the source content is untouched -/
theorem save_spec (f : LF) (ls : List Str) (h : Good f ls) (hc : f.closed = false) (le : Str) :
    ∃ f', f.save le = .ok (f', (ls.map (fun l => rstripNL l ++ le)).flatten) ∧ SameButCursor f f' := by
  obtain ⟨f', e1, e2⟩ := view_spec f ls h hc
  exact ⟨f', by simp [LF.save, e1], e2⟩

/-- reopening what `save` wrote with the default ending gives the same list (lines without line breaks) -/
theorem reopen_roundtrip (ls : List Str) (h : ∀ l ∈ ls, '\n' ∉ l) :
    refLines ((ls.map (fun l => rstripNL l ++ ['\n'])).flatten) = ls := by
  induction ls with
  | nil => simp [refLines_nil]
  | cons l r ih =>
    have hl : '\n' ∉ l := h l (by simp)
    have hr := ih (fun x hx => h x (by simp [hx]))
    simp only [List.map_cons, List.flatten_cons, rstripNL_nonl hl, List.append_assoc, List.singleton_append]
    rw [refLines_append hl, hr]

end WindVerif.LineFile
