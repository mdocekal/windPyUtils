import WindVerif.Spec.Pool
/-! Data level of the pool: chunking of the input and what the caller receives for a given emission order of chunks. -/
namespace WindVerif.Pool

/-- number of chunks: ⌈n/k⌉ -/
def chunkLen (n k : Nat) : Nat := (n + k - 1) / k

/-- the i-th chunk of the reference cutting -/
def chunkAt {α} (data : List α) (k i : Nat) : List α := (data.drop (i * k)).take k

theorem lt_chunkLen_iff (n k i : Nat) (hk : 0 < k) : i < chunkLen n k ↔ i * k < n := by
  unfold chunkLen
  rw [← Nat.succ_le_iff, Nat.le_div_iff_mul_le hk, Nat.succ_mul]
  omega

theorem chunkLen_add (m k : Nat) (hk : 0 < k) : chunkLen (k + m) k = chunkLen m k + 1 := by
  unfold chunkLen
  have : k + m + k - 1 = (m + k - 1) + k := by omega
  rw [this, Nat.add_div_right _ hk]

theorem flatten_chunks {α} (data : List α) (k n : Nat) :
    ((List.range n).map (chunkAt data k)).flatten = data.take (n * k) := by
  induction n with
  | zero => simp
  | succ n ih =>
    rw [List.range_succ, List.map_append, List.flatten_append, ih, Nat.succ_mul, List.take_add]
    simp [chunkAt]

theorem chunkingGo_eq {α} (k : Nat) (hk : 0 < k) (rest : List α) : ∀ acc : List α, acc.length < k →
    chunkingGo k acc rest =
      (List.range (chunkLen (acc ++ rest).length k)).map (chunkAt (acc ++ rest) k) := by
  induction rest with
  | nil =>
    intro acc hacc
    simp only [chunkingGo, List.append_nil]
    split
    · have h1 : chunkLen acc.length k = 1 := by
        unfold chunkLen
        apply Nat.div_eq_of_lt_le <;> omega
      rw [h1]
      simp [chunkAt, List.take_of_length_le (Nat.le_of_lt hacc)]
    · have h0 : acc.length = 0 := by omega
      have h1 : chunkLen 0 k = 0 := by
        unfold chunkLen
        apply Nat.div_eq_of_lt; omega
      rw [h0, h1]; rfl
  | cons x r ih =>
    intro acc hacc
    simp only [chunkingGo]
    split
    next hlen =>
      rw [ih [] (by simpa using hk)]
      have hl : (acc ++ x :: r).length = k + r.length := by
        simp only [List.length_append, List.length_cons, List.length_nil] at hlen ⊢; omega
      have happ : acc ++ x :: r = (acc ++ [x]) ++ r := by simp
      rw [hl, chunkLen_add _ _ hk, List.range_succ_eq_map, List.map_cons, List.map_map, happ]
      congr 1
      · simp only [chunkAt, Nat.zero_mul, List.drop_zero]
        rw [List.take_left' hlen]
      · apply List.map_congr_left
        intro i _
        simp only [Function.comp, chunkAt, List.nil_append, Nat.succ_mul]
        rw [Nat.add_comm (i * k) k, ← List.drop_drop, List.drop_left' hlen]
    next hlen =>
      have hlt : (acc ++ [x]).length < k := by
        simp only [List.length_append, List.length_cons, List.length_nil] at hlen ⊢; omega
      rw [ih _ hlt]
      simp

/-- the accumulate-and-yield generator is the reference cutting -/
theorem chunking_eq {α} (data : List α) (k : Nat) (hk : 0 < k) :
    chunking data k = (List.range ((data.length + k - 1) / k)).map (fun i => (data.drop (i * k)).take k) := by
  have := chunkingGo_eq k hk data [] (by simpa using hk)
  simp only [List.nil_append] at this
  rw [chunking, this]
  rfl

theorem chunking_eq' {α} (data : List α) (k : Nat) (hk : 0 < k) :
    chunking data k = (List.range (chunkLen data.length k)).map (chunkAt data k) :=
  chunking_eq data k hk

theorem chunking_flatten {α} (data : List α) (k : Nat) (hk : 0 < k) : (chunking data k).flatten = data := by
  rw [chunking_eq' data k hk, flatten_chunks]
  apply List.take_of_length_le
  have := not_congr (lt_chunkLen_iff data.length k (chunkLen data.length k) hk)
  omega

/-- all chunks have `k` elements except possibly a shorter, non-empty last one; their number is ⌈n/k⌉ -/
theorem chunking_sizes {α} (data : List α) (k : Nat) (hk : 0 < k) :
    (chunking data k).length = (data.length + k - 1) / k ∧
    ∀ i ch, (chunking data k)[i]? = some ch →
      0 < ch.length ∧ ch.length ≤ k ∧ (i + 1 < (chunking data k).length → ch.length = k) := by
  rw [chunking_eq' data k hk]
  refine ⟨by simp [chunkLen], ?_⟩
  intro i ch h
  rw [List.getElem?_eq_some_iff] at h
  obtain ⟨hi, h⟩ := h
  simp only [List.length_map, List.length_range] at hi ⊢
  simp only [List.getElem_map, List.getElem_range] at h
  subst h
  rw [lt_chunkLen_iff _ _ _ hk] at hi
  rw [lt_chunkLen_iff _ _ _ hk, Nat.succ_mul]
  simp only [chunkAt, List.length_take, List.length_drop]
  omega

theorem range_map_getD {γ} (l : List (List γ)) :
    (List.range l.length).map (fun i => (l[i]?).getD []) = l := by
  apply List.ext_getElem
  · simp
  · intro i h1 h2
    simp [h2]

theorem yielded_eq_flatten {α β} (f : α → β) (data : List α) (k : Nat) (order : List Nat) :
    yielded f data k order = (order.map (fun i => (((chunking data k)[i]?).getD []).map f)).flatten := by
  unfold yielded
  rw [List.flatMap_def]

/-- chunks emitted in input order: the caller receives exactly `map f data` -/
theorem yielded_ordered {α β} (f : α → β) (data : List α) (k : Nat) (hk : 0 < k) :
    yielded f data k (List.range (chunking data k).length) = data.map f := by
  rw [yielded_eq_flatten]
  have h : (fun i => (((chunking data k)[i]?).getD []).map f) =
      (List.map f) ∘ (fun (i : Nat) => ((chunking data k)[i]?).getD []) := rfl
  rw [h, ← List.map_map, range_map_getD, ← List.map_flatten, chunking_flatten data k hk]

/-- chunks emitted in any order, each once: the same multiset of results, order inside each chunk kept -/
theorem yielded_unordered {α β} (f : α → β) (data : List α) (k : Nat) (hk : 0 < k) (order : List Nat)
    (hp : order.Perm (List.range (chunking data k).length)) :
    (yielded f data k order).Perm (data.map f) ∧
    yielded f data k order = (order.map (fun i => (((chunking data k)[i]?).getD []).map f)).flatten := by
  refine ⟨?_, yielded_eq_flatten f data k order⟩
  rw [← yielded_ordered f data k hk]
  exact hp.flatMap_right _

end WindVerif.Pool
