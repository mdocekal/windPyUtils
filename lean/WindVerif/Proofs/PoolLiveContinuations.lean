import WindVerif.Proofs.PoolLiveReplace
/-! Liveness of the pool model (C02): the thread-local continuations of the consumer (`toNextCall`, `afterResults`,
`exitJoinFrom`) in a form the preservation proofs can use. -/
namespace WindVerif.Pool

theorem drainBuffer_wf (fuel : Nat) : ∀ (buf : List Nat) (wf : Nat) (acc : List Nat), buf.length < fuel →
    (drainBuffer fuel buf wf acc).2.1 ∉ (drainBuffer fuel buf wf acc).1 := by
  induction fuel with
  | zero => intro buf wf acc h; omega
  | succ n ih =>
    intro buf wf acc h
    unfold drainBuffer
    split
    · rename_i hc
      apply ih
      have hm : wf ∈ buf := by simpa using hc
      rw [List.length_erase_of_mem hm]
      have : 0 < buf.length := List.length_pos_of_mem hm
      omega
    · rename_i hc
      simpa using hc

theorem go_wf (s : St) : ∀ (b buf : List Nat) (wf fin : Nat) (out : List (Nat × Nat)), wf ∉ buf →
    (consumeBatch.go s b buf wf fin out).2.1 ∉ (consumeBatch.go s b buf wf fin out).1 := by
  intro b
  induction b with
  | nil => intro buf wf fin out h; simpa [consumeBatch.go] using h
  | cons i r ih =>
    intro buf wf fin out _
    unfold consumeBatch.go
    have h1 := drainBuffer_wf (buf.length + 2) (i :: buf) wf [] (by simp)
    generalize drainBuffer (buf.length + 2) (i :: buf) wf [] = d at h1
    obtain ⟨buf1, wf1, em⟩ := d
    exact ih buf1 wf1 _ _ h1

theorem go_fin (s : St) : ∀ (b buf : List Nat) (wf fin : Nat) (out : List (Nat × Nat)),
    fin ≤ (consumeBatch.go s b buf wf fin out).2.2.1 := by
  intro b
  induction b with
  | nil => intro buf wf fin out; simp [consumeBatch.go]
  | cons i r ih =>
    intro buf wf fin out
    unfold consumeBatch.go
    generalize drainBuffer (buf.length + 2) (i :: buf) wf [] = d
    obtain ⟨buf1, wf1, em⟩ := d
    exact Nat.le_trans (Nat.le_add_right _ _) (ih buf1 wf1 _ _)

theorem consumeBatch_view (s : St) (call : Call) (hc : s.cur = some call) :
    ∃ buf' wf' fin' out',
      consumeBatch s = { s with buffer := buf', wf := wf', finished := fin', out := out', batch := [], woken := false } ∧
      (s.wf ∉ s.buffer → wf' ∉ buf') ∧ (call.ordered = false → buf' = s.buffer) ∧ s.finished ≤ fin' := by
  cases ho : call.ordered
  · refine ⟨s.buffer, s.wf, s.finished + s.batch.length, s.out ++ s.batch.map (fun j => (s.callNo, j)), ?_, id,
      fun _ => rfl, Nat.le_add_right _ _⟩
    unfold consumeBatch
    simp [hc, ho]
  · have hg := go_wf s s.batch s.buffer s.wf s.finished s.out
    have hcb : consumeBatch s =
        { s with buffer := (consumeBatch.go s s.batch s.buffer s.wf s.finished s.out).1,
                 wf := (consumeBatch.go s s.batch s.buffer s.wf s.finished s.out).2.1,
                 finished := (consumeBatch.go s s.batch s.buffer s.wf s.finished s.out).2.2.1,
                 out := (consumeBatch.go s s.batch s.buffer s.wf s.finished s.out).2.2.2, batch := [], woken := false } := by
      unfold consumeBatch
      simp [hc, ho]
    have hfin : s.finished ≤ (consumeBatch.go s s.batch s.buffer s.wf s.finished s.out).2.2.1 := go_fin s _ _ _ _ _
    generalize consumeBatch.go s s.batch s.buffer s.wf s.finished s.out = g at hg hcb hfin
    obtain ⟨buf, wf, fin, out⟩ := g
    exact ⟨buf, wf, fin, out, hcb, hg, nofun, hfin⟩

theorem consumeBatch_view0 (s : St) (call : Call) (hc : s.cur = some call) :
    ∃ buf' wf' fin' out',
      consumeBatch s = { s with buffer := buf', wf := wf', finished := fin', out := out', batch := [], woken := false } ∧
      s.finished ≤ fin' := by
  obtain ⟨buf, wf, fin, out, h, _, _, hf⟩ := consumeBatch_view s call hc
  exact ⟨buf, wf, fin, out, h, hf⟩

theorem afterResults_spec (s : St) (call : Call) (hc : s.cur = some call) (hwf : s.wf ∉ s.buffer) :
    ∃ buf' wf' fin' out' c',
      afterResults s = { s with buffer := buf', wf := wf', finished := fin', out := out', batch := [], woken := false,
                                cpc := c' } ∧
      wf' ∉ buf' ∧
      ((call.ordered = true ∧ ((c' = .flowClear ∧ bufferFull (afterResults s) = true) ∨
          (c' = .flowIsSet ∧ bufferFull (afterResults s) = false))) ∨
       (call.ordered = false ∧ c' = .rdSending ∧ buf' = s.buffer) ∨
       (∃ wid, c' = .midReady 0 wid ∧ s.procs[0]? = some wid ∧ (call.ordered = false → buf' = s.buffer))) := by
  obtain ⟨buf, wf, fin, out, hcb, hg, hun, _⟩ := consumeBatch_view s call hc
  have hg := hg hwf
  have hcur : (consumeBatch s).cur = some call := by rw [hcb]; exact hc
  obtain ⟨c', heq, hcl⟩ := afterResults_eq s
  rcases hcl with ⟨_, hab⟩ | ⟨wid, h, hp, _⟩
  · rcases afterBatch_cases (consumeBatch s) with ⟨c1, h1, h2, h3, h4⟩ | ⟨c1, h1, h2, h3, h4⟩ | ⟨h1, h4⟩
    · rw [hcur] at h1; cases h1
      refine ⟨buf, wf, fin, out, .flowClear, by rw [hab, h4, hcb], hg, Or.inl ⟨h2, Or.inl ⟨rfl, ?_⟩⟩⟩
      rw [hab, h4]; exact h3
    · rw [hcur] at h1; cases h1
      refine ⟨buf, wf, fin, out, .flowIsSet, by rw [hab, h4, hcb], hg, Or.inl ⟨h2, Or.inr ⟨rfl, ?_⟩⟩⟩
      rw [hab, h4]; exact h3
    · have ho := h1 call hcur
      exact ⟨buf, wf, fin, out, .rdSending, by rw [hab, h4, hcb], hg, Or.inr (Or.inl ⟨ho, rfl, hun ho⟩)⟩
  · subst h
    refine ⟨buf, wf, fin, out, _, by rw [heq, hcb], hg, Or.inr (Or.inr ⟨wid, rfl, ?_, hun⟩)⟩
    rw [hcb] at hp; exact hp

theorem toNextCall_cases (s : St) :
    (∃ call rest, s.callsLeft = call :: rest ∧
      toNextCall s = { s with callsLeft := rest, cur := some call, callNo := s.callNo + 1, finished := 0, batch := [],
                              woken := false, buffer := [], wf := 0,
                              cpc := if s.cfg.factory then .rInitSet else .fInitSet }) ∨
    (s.callsLeft = [] ∧
      toNextCall s = { s with cur := none, cpc := if s.procs.length = 0 then .done else .exitPut 0 }) := by
  unfold toNextCall
  split
  · rename_i call rest hcl
    refine Or.inl ⟨call, rest, hcl, ?_⟩
    dsimp only
    split <;> simp
  · rename_i hcl
    refine Or.inr ⟨hcl, ?_⟩
    dsimp only
    split <;> simp

theorem exitJoinFrom_idx (s : St) (fuel : Nat) : ∀ i, i ≤ s.procs.length → s.procs.length < fuel + i →
    exitJoinFrom s fuel i = .done ∨ ∃ k, exitJoinFrom s fuel i = .exitJoin k ∧ k < s.procs.length := by
  induction fuel with
  | zero => intro i h1 h2; omega
  | succ n ih =>
    intro i h1 h2
    unfold exitJoinFrom
    split
    · exact Or.inl rfl
    · rename_i wid hw
      have hi : i < s.procs.length := (List.getElem?_eq_some_iff.1 hw).1
      split
      · exact ih (i + 1) (by omega) (by omega)
      · exact Or.inr ⟨i, rfl, hi⟩

theorem exitJoinFrom_congr (s s' : St) (h1 : s'.procs = s.procs) (h2 : s'.workers = s.workers) (fuel i : Nat) :
    exitJoinFrom s' fuel i = exitJoinFrom s fuel i := by
  induction fuel generalizing i with
  | zero => rfl
  | succ n ih =>
    unfold exitJoinFrom
    rw [h1]
    have : ∀ wid, workerExited s' wid = workerExited s wid := by
      intro wid; unfold workerExited getWorker; rw [h2]
    simp only [this, ih]

end WindVerif.Pool
