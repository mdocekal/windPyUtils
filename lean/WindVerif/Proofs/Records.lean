import WindVerif.Model.Records
/-! Theorems about the record model (C13): the csv writer followed by the reader, by an invariant of the reader's state
(`Good`); the shared buffer; the JSON glue under a library assumption. -/
namespace WindVerif.Records

def Clean (f : Str) : Prop := '\r' ∉ f ∧ '\n' ∉ f

def IsDelim (d : Char) : Prop := d = ',' ∨ d = '\t'

theorem IsDelim.facts {d : Char} (hd : IsDelim d) : d ≠ '"' ∧ d ≠ '\r' ∧ d ≠ '\n' := by
  rcases hd with rfl | rfl <;> decide

theorem IsDelim.notNL {d : Char} (hd : IsDelim d) : isNL d = false := by
  rcases hd with rfl | rfl <;> decide

theorem run_append (d : Char) (s t : Str) :
    ∀ (p p' : Parser), run d p s = .ok p' → run d p (s ++ t) = run d p' t := by
  induction s with
  | nil => intro p p' h; simp [run] at h; subst h; rfl
  | cons c r ih =>
    intro p p' h
    simp only [run, List.cons_append] at h ⊢
    cases hs : step d p c with
    | error e => simp [hs] at h
    | ok q => simp only [hs] at h ⊢; exact ih q p' h

/-- the parser has read the characters of fields making up `L`, the last one still pending -/
def Good (p : Parser) (L : List Str) : Prop :=
  (p.field.reverse :: p.fields).reverse = L ∧
    (p.state = .startField ∨ p.state = .inField ∨ p.state = .quoteInQuoted)

theorem Good.step_delim {d : Char} (hd : IsDelim d) : ∀ {p : Parser} {L : List Str}, Good p L →
    step d p d = .ok ⟨.startField, [], L.reverse⟩
  | ⟨st, fl, acc⟩, _, ⟨rfl, hs⟩ => by
    obtain ⟨h1, _, _⟩ := hd.facts
    have h4 := hd.notNL
    rcases hs with rfl | rfl | rfl <;> simp [step, stepStartField, Parser.save, h1, h4]

theorem Good.step_nl {d : Char} (hd : IsDelim d) {c : Char} (hc : isNL c = true) : ∀ {p : Parser} {L : List Str}, Good p L →
    step d p c = .ok ⟨.eatCRNL, [], L.reverse⟩
  | ⟨st, fl, acc⟩, _, ⟨rfl, hs⟩ => by
    have hcq : c ≠ '"' := by rintro rfl; exact absurd hc (by decide)
    have hcd : c ≠ d := by rintro rfl; rw [hd.notNL] at hc; cases hc
    rcases hs with rfl | rfl | rfl <;> simp [step, stepStartField, Parser.save, hc, hcq, hcd]

theorem Good.finish : ∀ {p : Parser} {L : List Str}, Good p L → finish p = L
  | ⟨st, fl, acc⟩, _, ⟨rfl, hs⟩ => by rcases hs with rfl | rfl | rfl <;> simp [Records.finish]

theorem run_eatCRNL (d : Char) (fl : Str) (acc : List Str) : ∀ (t : Str), (∀ c ∈ t, isNL c = true) →
    run d ⟨.eatCRNL, fl, acc⟩ t = .ok ⟨.eatCRNL, fl, acc⟩ := by
  intro t
  induction t with
  | nil => intro _; rfl
  | cons c t ih =>
    intro h
    have h := List.forall_mem_cons.1 h
    simp only [run, step, h.1, if_true]
    exact ih h.2

theorem Good.run_nl {d : Char} (hd : IsDelim d) {p : Parser} {L : List Str} (h : Good p L) (t : Str)
    (ht : ∀ c ∈ t, isNL c = true) : ∃ q, run d p t = .ok q ∧ Records.finish q = L := by
  cases t with
  | nil => exact ⟨p, rfl, h.finish⟩
  | cons c t =>
    have ht := List.forall_mem_cons.1 ht
    refine ⟨⟨.eatCRNL, [], L.reverse⟩, ?_, by simp [Records.finish]⟩
    simp only [run, h.step_nl hd ht.1]
    exact run_eatCRNL d _ _ t ht.2

theorem inQuoted_run (d : Char) (f : Str) : ∀ (fl : Str) (acc : List Str),
    run d ⟨.inQuoted, fl, acc⟩ (doubleQuotes f ++ ['"']) = .ok ⟨.quoteInQuoted, f.reverse ++ fl, acc⟩ := by
  induction f with
  | nil => intro fl acc; simp [doubleQuotes, run, step]
  | cons c r ih =>
    intro fl acc
    by_cases hc : c = '"'
    · subst hc
      simp [doubleQuotes, run, step, Parser.add, ih]
    · simp [doubleQuotes, hc, run, step, Parser.add, ih]

theorem plain_run (d : Char) (f : Str) : ∀ (st : PState) (fl : Str) (acc : List Str), needsQuote d f = false →
    st = .startField ∨ st = .inField →
    ∃ st', (st' = .startField ∨ st' = .inField) ∧ run d ⟨st, fl, acc⟩ f = .ok ⟨st', f.reverse ++ fl, acc⟩ := by
  induction f with
  | nil => intro st fl acc _ hst; exact ⟨st, hst, rfl⟩
  | cons c r ih =>
    intro st fl acc h hst
    simp only [needsQuote, List.any_cons, Bool.or_eq_false_iff, beq_eq_false_iff_ne] at h
    obtain ⟨⟨⟨⟨c1, c2⟩, c3⟩, c4⟩, hr⟩ := h
    obtain ⟨st', hst', hrun⟩ := ih .inField (c :: fl) acc hr (.inr rfl)
    refine ⟨st', hst', ?_⟩
    have : step d ⟨st, fl, acc⟩ c = .ok ⟨.inField, c :: fl, acc⟩ := by
      rcases hst with rfl | rfl <;> simp [step, stepStartField, isNL, Parser.add, c1, c2, c3, c4]
    simp only [run, this]
    rw [hrun, List.reverse_cons, List.append_assoc, List.singleton_append]

theorem field_run {d : Char} (only : Bool) (f : Str) (acc : List Str) :
    ∃ p, run d ⟨.startField, [], acc⟩ (writeField d only f) = .ok p ∧ Good p (acc.reverse ++ [f]) := by
  unfold writeField
  split
  · refine ⟨⟨.quoteInQuoted, f.reverse, acc⟩, ?_, by simp [Good]⟩
    have : isNL '"' = false := by decide
    simp [run, step, stepStartField, this, inQuoted_run]
  · rename_i hq
    obtain ⟨st, hst, hrun⟩ := plain_run d f .startField [] acc (by simp at hq; exact hq.1) (.inl rfl)
    exact ⟨_, hrun, by rcases hst with rfl | rfl <;> simp [Good]⟩

theorem joinFields_cons2 (d : Char) (a b : Str) (l : List Str) :
    joinFields d (a :: b :: l) = a ++ d :: joinFields d (b :: l) := by
  simp [joinFields]

theorem row_run {d : Char} (hd : IsDelim d) (only : Bool) (r : List Str) : ∀ (f : Str) (acc : List Str),
    ∃ p, run d ⟨.startField, [], acc⟩ (joinFields d ((f :: r).map (writeField d only))) = .ok p ∧
      Good p (acc.reverse ++ f :: r) := by
  induction r with
  | nil =>
    intro f acc
    simpa [joinFields] using field_run (d := d) only f acc
  | cons g r ih =>
    intro f acc
    obtain ⟨p, hp, hg⟩ := field_run (d := d) only f acc
    obtain ⟨q, hq, hgq⟩ := ih g (acc.reverse ++ [f]).reverse
    refine ⟨q, ?_, by simpa using hgq⟩
    simp only [List.map_cons, joinFields_cons2] at hq ⊢
    rw [run_append d _ _ _ _ hp]
    simp only [run, hg.step_delim hd]
    exact hq

theorem run_startRecord (d : Char) (fl : Str) (acc : List Str) (c : Char) (s : Str) (hc : isNL c = false) :
    run d ⟨.startRecord, fl, acc⟩ (c :: s) = run d ⟨.startField, fl, acc⟩ (c :: s) := by
  have hs : step d ⟨.startRecord, fl, acc⟩ c = step d ⟨.startField, fl, acc⟩ c := by
    simp only [step, hc, stepStartField, Parser.save, Parser.add]
    by_cases h1 : c = '"' <;> by_cases h2 : c = d <;> simp [h1, h2]
  simp only [run, hs]

theorem not_mem_doubleQuotes (x : Char) (hx : x ≠ '"') (f : Str) (hf : x ∉ f) : x ∉ doubleQuotes f := by
  induction f with
  | nil => simp [doubleQuotes]
  | cons c r ih =>
    simp at hf
    unfold doubleQuotes
    split <;> simp [hx, hf.1, ih hf.2]

theorem not_mem_writeField (x : Char) (hx : x ≠ '"') (d : Char) (only : Bool) (f : Str) (hf : x ∉ f) :
    x ∉ writeField d only f := by
  unfold writeField
  split
  · simp [hx, not_mem_doubleQuotes x hx f hf]
  · exact hf

theorem not_mem_joinFields (x d : Char) (hx : x ≠ d) (ws : List Str) (h : ∀ w ∈ ws, x ∉ w) :
    x ∉ joinFields d ws := by
  induction ws with
  | nil => simp [joinFields]
  | cons a l ih =>
    cases l with
    | nil => simpa [joinFields] using h a (by simp)
    | cons b l' =>
      rw [joinFields_cons2]
      have ha := h a (by simp)
      have := ih (fun w hw => h w (by simp [hw]))
      simp [ha, hx, this]

abbrev rowBody (d : Char) (fs : List Str) : Str := joinFields d (fs.map (writeField d (fs.length == 1)))

theorem rowBody_clean {d : Char} (hd : IsDelim d) (fs : List Str) (h : ∀ f ∈ fs, Clean f) : Clean (rowBody d fs) := by
  obtain ⟨_, h2, h3⟩ := hd.facts
  have (x : Char) (hq : x ≠ '"') (hx : x ≠ d) (hf : ∀ f ∈ fs, x ∉ f) : x ∉ rowBody d fs := by
    apply not_mem_joinFields _ _ hx
    intro w hw
    obtain ⟨f, hf', rfl⟩ := List.mem_map.1 hw
    exact not_mem_writeField _ hq _ _ _ (hf f hf')
  exact ⟨this _ (by decide) (Ne.symm h2) fun f hf => (h f hf).1, this _ (by decide) (Ne.symm h3) fun f hf => (h f hf).2⟩

theorem rowBody_ne_nil (d : Char) {fs : List Str} (hne : fs ≠ []) : rowBody d fs ≠ [] := by
  match fs, hne with
  | [f], _ =>
    simp only [rowBody, List.map_cons, List.map_nil, joinFields, writeField]
    split
    · simp
    · rename_i hq; simp at hq; exact hq.2
  | f :: g :: r, _ => simp [rowBody, joinFields_cons2]

/-- The reader starts in `startRecord`, which differs from `startField` on a line break only, and a row of clean fields
does not begin with one. -/
theorem body_run {d : Char} (hd : IsDelim d) (fs : List Str) (h : ∀ f ∈ fs, Clean f) (hne : fs ≠ []) (rest : Str) :
    ∃ p, Good p fs ∧ run d ⟨.startRecord, [], []⟩ (rowBody d fs ++ rest) = run d p rest := by
  obtain ⟨c, s, hcs⟩ := List.exists_cons_of_ne_nil (rowBody_ne_nil d hne)
  have hc : isNL c = false := by
    have hcl := rowBody_clean hd fs h
    rw [hcs] at hcl
    simp only [Clean, List.mem_cons, not_or] at hcl
    simp [isNL, Ne.symm hcl.1.1, Ne.symm hcl.2.1]
  obtain ⟨f, r, rfl⟩ := List.exists_cons_of_ne_nil hne
  obtain ⟨p, hp, hg⟩ := row_run hd ((f :: r).length == 1) r f []
  refine ⟨p, by simpa using hg, ?_⟩
  rw [hcs, List.cons_append, run_startRecord d _ _ c _ hc, ← List.cons_append, ← hcs]
  exact run_append d _ _ _ _ hp

theorem parseRow_fields (d : Char) (hd : IsDelim d) (fs : List Str) (h : ∀ f ∈ fs, Clean f) (t : Str)
    (ht : ∀ c ∈ t, isNL c = true) :
    parseRow d (rowBody d fs ++ t) = .ok fs := by
  unfold parseRow
  by_cases hne : fs = []
  · subst hne
    cases t with
    | nil => rfl
    | cons c t =>
      have ht := List.forall_mem_cons.1 ht
      have : run d ⟨.startRecord, [], []⟩ (c :: t) = .ok ⟨.eatCRNL, [], []⟩ := by
        simp only [run, step, ht.1, if_true]
        exact run_eatCRNL d _ _ t ht.2
      simp [rowBody, joinFields, this, finish]
  · obtain ⟨p, hg, hr⟩ := body_run hd fs h hne t
    obtain ⟨q, hq, hf⟩ := hg.run_nl hd t ht
    simp only [hr, hq, hf]

theorem dropLast_writeRow (d : Char) (fs : List Str) :
    (writeRow d fs).dropLast = rowBody d fs ++ ['\r'] := by
  rw [writeRow, show (['\r', '\n'] : Str) = ['\r'] ++ ['\n'] from rfl, ← List.append_assoc, List.dropLast_concat]

/-- `load(save(r))` at the level of the field strings: any fields without line breaks (delimiters, quotes, blanks,
backslashes, non-ASCII, empty, a lone empty field) survive writer + reader -/
theorem csv_roundtrip (d : Char) (hd : IsDelim d) (fs : List Str) (h : ∀ f ∈ fs, Clean f) :
    parseRow d (writeRow d fs) = .ok fs :=
  parseRow_fields d hd fs h ['\r', '\n'] (by decide)

/-- the same for the line as a saved record file holds it: `save` strips the final `\n` and writes its own, so the reader
sees the row with a trailing `\r` -/
theorem csv_roundtrip_cr (d : Char) (hd : IsDelim d) (fs : List Str) (h : ∀ f ∈ fs, Clean f) :
    parseRow d (writeRow d fs).dropLast = .ok fs := by
  rw [dropLast_writeRow]
  exact parseRow_fields d hd fs h ['\r'] (by decide)

set_option linter.unusedVariables false in
/-- and for a row without any terminator (a file written by other means), except that the empty row has no fields -/
theorem csv_roundtrip_bare (d : Char) (hd : IsDelim d) (fs : List Str) (h : ∀ f ∈ fs, Clean f) (hne : fs ≠ []) :
    parseRow d ((writeRow d fs).dropLast.dropLast) = .ok fs := by
  rw [dropLast_writeRow, List.dropLast_concat, ← List.append_nil (rowBody d fs)]
  exact parseRow_fields d hd fs h [] (List.forall_mem_nil _)

/-- `save(r)` occupies a single line: the only line break is the final terminator -/
theorem csv_single_line (d : Char) (hd : IsDelim d) (fs : List Str) (h : ∀ f ∈ fs, Clean f) :
    ∃ body, writeRow d fs = body ++ ['\r', '\n'] ∧ '\n' ∉ body ∧ '\r' ∉ body :=
  ⟨_, rfl, (rowBody_clean hd fs h).2, (rowBody_clean hd fs h).1⟩

theorem dictToString_empty (d : Char) (fs : List Str) :
    dictToString d ⟨[], 0⟩ fs = (⟨[], 0⟩, writeRow d fs) := by
  simp [dictToString, SIO.write, SIO.truncate0, SIO.seek0]

/-- the shared class-level buffer: whatever the sequence of saves (across record classes), each returns exactly its own
row and leaves the buffer empty at position 0 -/
theorem buffer_reset (rows : List (Char × List Str)) :
    (saveMany ⟨[], 0⟩ rows).2 = rows.map (fun r => writeRow r.1 r.2) ∧ (saveMany ⟨[], 0⟩ rows).1 = ⟨[], 0⟩ := by
  induction rows with
  | nil => simp [saveMany]
  | cons r rest ih =>
    obtain ⟨d, fs⟩ := r
    simp only [saveMany, dictToString_empty, List.map_cons]
    exact ⟨by rw [ih.1], ih.2⟩

/-- the library assumption of `json_glue`: `loads ∘ dumps = id` on the value domain, no raw line break in the output.
A record is its list of `(field name, value)`. -/
structure JsonLib (V : Type) where
  dumps  : List (Str × V) → Str
  loads  : Str → Option (List (Str × V))
  rt     : ∀ o, loads (dumps o) = some o
  single : ∀ o, '\n' ∉ dumps o ∧ '\r' ∉ dumps o

def jsonSave {V} (L : JsonLib V) (r : List (Str × V)) : Str := L.dumps r
/-- `json.loads`, keep the keys that are field names, construct -/
def jsonLoad {V} (L : JsonLib V) (names : List Str) (s : Str) : Option (List (Str × V)) :=
  (L.loads s).map (fun o => o.filter (fun kv => names.contains kv.1))

structure JsonLibOn (V : Type) (P : List (Str × V) → Prop) where
  dumps  : List (Str × V) → Str
  loads  : Str → Option (List (Str × V))
  rt     : ∀ o, P o → loads (dumps o) = some o
  single : ∀ o, P o → '\n' ∉ dumps o ∧ '\r' ∉ dumps o

def jsonSaveOn {V P} (L : JsonLibOn V P) (r : List (Str × V)) : Str := L.dumps r
def jsonLoadOn {V P} (L : JsonLibOn V P) (names : List Str) (s : Str) : Option (List (Str × V)) :=
  (L.loads s).map (fun o => o.filter (fun kv => names.contains kv.1))

theorem json_glue_on {V P} (L : JsonLibOn V P) (names : List Str) (r : List (Str × V)) (hr : r.map (·.1) = names)
    (hP : P r) : jsonLoadOn L names (jsonSaveOn L r) = some r ∧ '\n' ∉ jsonSaveOn L r ∧ '\r' ∉ jsonSaveOn L r := by
  refine ⟨?_, L.single r hP⟩
  unfold jsonLoadOn jsonSaveOn
  rw [L.rt r hP]
  simp only [Option.map_some, Option.some.injEq, List.filter_eq_self]
  intro kv hkv
  subst hr
  simp only [List.contains_eq_mem, List.mem_map, decide_eq_true_eq]
  exact ⟨kv, hkv, rfl⟩

def JsonLib.toOn {V} (L : JsonLib V) : JsonLibOn V (fun _ => True) :=
  { dumps := L.dumps, loads := L.loads, rt := fun o _ => L.rt o, single := fun o _ => L.single o }

theorem json_glue {V} (L : JsonLib V) (names : List Str) (r : List (Str × V)) (hr : r.map (·.1) = names) :
    jsonLoad L names (jsonSave L r) = some r ∧ '\n' ∉ jsonSave L r ∧ '\r' ∉ jsonSave L r :=
  json_glue_on L.toOn names r hr trivial

end WindVerif.Records
