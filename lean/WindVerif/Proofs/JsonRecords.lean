import WindVerif.Proofs.Records
import WindVerif.Proofs.Json
/-!
`JsonRecord` over the concrete JSON model (C13): the library assumption of `Proofs/Records.lean` is discharged by
`WindVerif.Json.encode` / `decode`.  `json.loads ∘ json.dumps` is the identity only on dicts (distinct keys) of well-formed
values, so it is the assumption relative to a domain (`JsonLibOn`) that is met; a record's field names are pairwise
distinct, which puts every record into the domain.
-/
namespace WindVerif.Records
open WindVerif.Json

/-- `json.loads(s)` when the result is a `dict` (anything else has no `.items()`) -/
def loadsObj (s : Str) : Option (List (Str × JVal)) :=
  match decode s with
  | some (.obj o) => some o
  | _ => none

def jsonLibConcrete : JsonLibOn JVal (fun o => WF (.obj o)) where
  dumps o := encode (.obj o)
  loads := loadsObj
  rt o h := by simp only [loadsObj, decode_encode _ h]
  single o h := encode_single_line _ h

def jsonRecordSave (r : List (Str × JVal)) : Str := jsonSaveOn jsonLibConcrete r
def jsonRecordLoad (names : List Str) (s : Str) : Option (List (Str × JVal)) := jsonLoadOn jsonLibConcrete names s

theorem jsonRecordSave_eq (r : List (Str × JVal)) : jsonRecordSave r = encode (.obj r) := rfl

/-- the hypothesis-free corollary of `json_glue`: a record (pairwise distinct field names, well-formed values) survives
save/load through the modelled `json` module, and the saved text is a single line -/
theorem json_record_roundtrip (names : List Str) (hn : names.Nodup) (r : List (Str × JVal)) (hr : r.map (·.1) = names)
    (hv : ∀ kv ∈ r, WF kv.2) :
    jsonRecordLoad names (jsonRecordSave r) = some r ∧ '\n' ∉ jsonRecordSave r ∧ '\r' ∉ jsonRecordSave r :=
  json_glue_on jsonLibConcrete names r hr (.obj r (by rw [hr]; exact hn) hv)

example : jsonRecordLoad ["a".toList, "b".toList]
    (jsonRecordSave [("a".toList, .str "x\ny".toList), ("b".toList, .arr [.int (-1), .float "0.5".toList])]) =
    some [("a".toList, .str "x\ny".toList), ("b".toList, .arr [.int (-1), .float "0.5".toList])] := by rfl

end WindVerif.Records
