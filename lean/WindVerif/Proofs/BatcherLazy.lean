import WindVerif.Model.BatcherLazy
import WindVerif.Proofs.Generic
/-!
Proofs about the lazy `BatcherIter` machine (`Model/BatcherLazy.lean`): no read-ahead, agreement with the list model
`Generic.batcherIter`, behaviour over a failing source, and the read-ahead variant.
-/
namespace WindVerif.BatcherLazy
open WindVerif.Generic

theorem nextGo_full (b : Nat) (f : Bool) : ∀ (rem : List Int) (p : Nat) (acc : List Int),
    acc.length < b → b ≤ acc.length + rem.length →
    nextGo b f rem p acc = (⟨p + (b - acc.length), [], false⟩, .batch (acc ++ rem.take (b - acc.length)))
  | [], p, acc, h1, h2 => by simp at h2; omega
  | x :: r, p, acc, h1, h2 => by
    simp only [nextGo, List.length_append, List.length_cons, List.length_nil]
    split
    next h =>
      have : b - acc.length = 1 := by omega
      rw [this]; simp
    next h =>
      have h3 : (acc ++ [x]).length < b := by simp; omega
      have h4 : b ≤ (acc ++ [x]).length + r.length := by simp at h2 ⊢; omega
      rw [nextGo_full b f r (p + 1) (acc ++ [x]) h3 h4]
      have : b - acc.length = (b - (acc ++ [x]).length) + 1 := by simp; omega
      rw [this, List.take_succ_cons]
      simp only [List.append_assoc, List.cons_append, List.nil_append, Nat.add_assoc, Nat.add_comm 1]

theorem nextGo_short (b : Nat) (f : Bool) : ∀ (rem : List Int) (p : Nat) (acc : List Int),
    acc.length + rem.length < b →
    nextGo b f rem p acc =
      if f then (⟨p + rem.length, [], true⟩, .raised)
      else if (acc ++ rem).length > 0 then (⟨p + rem.length, [], true⟩, .batch (acc ++ rem))
      else (⟨p + rem.length, [], true⟩, .stop)
  | [], p, acc, h => by simp [nextGo]
  | x :: r, p, acc, h => by
    have h3 : (acc ++ [x]).length + r.length < b := by simp at h ⊢; omega
    have h4 : ¬ (acc ++ [x]).length = b := by simp at h ⊢; omega
    simp only [nextGo, if_neg h4]
    rw [nextGo_short b f r (p + 1) (acc ++ [x]) h3]
    simp only [List.append_assoc, List.cons_append, List.nil_append, List.length_cons, Nat.add_assoc, Nat.add_comm 1]

theorem takeFrom_add (step : St → St × Outcome) : ∀ (j k : Nat) (st : St),
    takeFrom step (j + k) st =
      ((takeFrom step j st).1 ++ (takeFrom step k (takeFrom step j st).2).1, (takeFrom step k (takeFrom step j st).2).2)
  | 0, k, st => by simp [takeFrom]
  | j + 1, k, st => by
    rw [Nat.add_right_comm]
    simp only [takeFrom, takeFrom_add step j k, List.cons_append]

theorem takeFrom_succ (step : St → St × Outcome) (k : Nat) (st : St) :
    takeFrom step (k + 1) st = ((step st).2 :: (takeFrom step k (step st).1).1, (takeFrom step k (step st).1).2) := rfl

theorem takeFrom_finished {step : St → St × Outcome} (hstep : ∀ st, st.finished = true → step st = (st, .stop)) :
    ∀ (k : Nat) (st : St), st.finished = true → takeFrom step k st = (List.replicate k .stop, st)
  | 0, st, _ => rfl
  | k + 1, st, h => by
    rw [takeFrom_succ, hstep st h]
    simp only [takeFrom_finished hstep k st h, List.replicate_succ]

theorem next_finished (b : Nat) (src : Src) (st : St) (h : st.finished = true) : next b src st = (st, .stop) := by
  simp [next, h]

theorem nextAhead_finished (b : Nat) (src : Src) (st : St) (h : st.finished = true) :
    nextAhead b src st = (st, .stop) := by
  simp [nextAhead, h]

theorem take_full (items : List Int) (f : Bool) (b : Nat) (hb : 0 < b) : ∀ j : Nat, j * b ≤ items.length →
    take b ⟨items, f⟩ j = ((List.range j).map (fun i => Outcome.batch (batchAt items b i)), ⟨j * b, [], false⟩)
  | 0, _ => by simp [take, takeFrom, St.init]
  | j + 1, h => by
    have hj : j * b ≤ items.length := by rw [Nat.succ_mul] at h; omega
    have ih := take_full items f b hb j hj
    unfold take at ih ⊢
    rw [takeFrom_add, ih]
    have hlen : b ≤ ([] : List Int).length + (items.drop (j * b)).length := by
      rw [Nat.succ_mul] at h; simp; omega
    have h1 : next b ⟨items, f⟩ ⟨j * b, [], false⟩ =
        (⟨(j + 1) * b, [], false⟩, .batch (batchAt items b j)) := by
      simp only [next, Bool.false_eq_true, if_false]
      rw [nextGo_full b f _ _ [] (by simpa using hb) hlen]
      simp [batchAt, Nat.succ_mul]
    simp only [takeFrom, h1, List.range_succ, List.map_append, List.map_cons, List.map_nil]

/-- the call after the last full batch, and everything after it -/
theorem take_tail (items : List Int) (f : Bool) (b : Nat) (hb : 0 < b) (k : Nat) :
    takeFrom (next b ⟨items, f⟩) (1 + k) ⟨items.length / b * b, [], false⟩ =
      ((if f then Outcome.raised
        else if items.length % b = 0 then Outcome.stop else Outcome.batch (batchAt items b (items.length / b)))
        :: List.replicate k .stop, ⟨items.length, [], true⟩) := by
  have hdm := Nat.div_add_mod items.length b
  have hr := Nat.mod_lt items.length hb
  rw [Nat.mul_comm] at hdm
  have hlen : ([] : List Int).length + (items.drop (items.length / b * b)).length < b := by simp; omega
  have hp : items.length / b * b + (items.length - items.length / b * b) = items.length := by omega
  have h1 : next b ⟨items, f⟩ ⟨items.length / b * b, [], false⟩ =
      (⟨items.length, [], true⟩,
        if f then Outcome.raised
        else if items.length % b = 0 then Outcome.stop else Outcome.batch (batchAt items b (items.length / b))) := by
    simp only [next, Bool.false_eq_true, if_false]
    rw [nextGo_short b f _ _ [] hlen]
    simp only [List.nil_append, List.length_drop, hp]
    cases f
    · by_cases h0 : items.length % b = 0
      · have : ¬ items.length - items.length / b * b > 0 := by omega
        simp [h0, this]
      · have : items.length - items.length / b * b > 0 := by omega
        have ht : (items.drop (items.length / b * b)).take b = items.drop (items.length / b * b) :=
          List.take_of_length_le (by simp; omega)
        simp [h0, this, batchAt, ht]
    · simp
  rw [Nat.add_comm, takeFrom_succ, h1]
  simp only [takeFrom_finished (next_finished b _) k ⟨items.length, [], true⟩ rfl]

/-- no read-ahead: after `j` full batches exactly `j * b` items have been pulled -/
theorem lazy_pulled (items : List Int) (fails : Bool) (b j : Nat) (hb : 0 < b) (hj : j * b ≤ items.length) :
    (take b ⟨items, fails⟩ j).2.pulled = j * b ∧
    (take b ⟨items, fails⟩ j).1 = (List.range j).map (fun i => Outcome.batch ((items.drop (i * b)).take b)) := by
  rw [take_full items fails b hb j hj]
  exact ⟨rfl, rfl⟩

/-- a source that ends normally: the outcomes are the batches of the list model, then `stop` for ever; the whole source has been
pulled, never more -/
theorem agrees_with_list (items : List Int) (b k : Nat) (hb : 0 < b) :
    (take b ⟨items, false⟩ ((batcherIter items b).length + k)).1 =
      (batcherIter items b).map Outcome.batch ++ List.replicate k Outcome.stop ∧
    (take b ⟨items, false⟩ ((batcherIter items b).length + k)).2.pulled = items.length := by
  have hdm := Nat.div_add_mod items.length b
  rw [Nat.mul_comm] at hdm
  have hq : items.length / b * b ≤ items.length := by omega
  have hfull := take_full items false b hb _ hq
  have htail := take_tail items false b hb
  rw [batcherIter_eq items b hb, List.length_map, List.length_range, batcherLen_ceil _ _ hb]
  unfold take at hfull ⊢
  by_cases h0 : items.length % b = 0
  · simp only [h0, if_true, Nat.add_zero]
    rw [takeFrom_add, hfull]
    cases k with
    | zero => simp [takeFrom]; omega
    | succ k =>
      have ht := htail k
      rw [Nat.add_comm 1 k] at ht
      rw [ht]
      simp [h0, List.replicate_succ, Function.comp_def]
  · simp only [h0, if_false]
    rw [Nat.add_assoc, takeFrom_add, hfull, htail k]
    simp [h0, List.range_succ]

/-- a source that raises after its items: every complete batch is handed over first, then the exception, then `stop` for ever -/
theorem failing_source_batches (items : List Int) (b k : Nat) (hb : 0 < b) :
    (take b ⟨items, true⟩ (items.length / b + 1 + k)).1 =
      (List.range (items.length / b)).map (fun i => Outcome.batch ((items.drop (i * b)).take b))
        ++ Outcome.raised :: List.replicate k Outcome.stop ∧
    (take b ⟨items, true⟩ (items.length / b + 1 + k)).2.pulled = items.length := by
  have hdm := Nat.div_add_mod items.length b
  rw [Nat.mul_comm] at hdm
  have hq : items.length / b * b ≤ items.length := by omega
  have hfull := take_full items true b hb _ hq
  have htail := take_tail items true b hb k
  unfold take at hfull ⊢
  rw [Nat.add_assoc, takeFrom_add, hfull, htail]
  exact ⟨rfl, rfl⟩

theorem aheadGo_eq (b : Nat) (hb : 0 < b) : ∀ (rem acc : List Int), acc.length ≤ b →
    aheadGo b acc rem = if acc.length = b then acc :: batcherIterGo b [] rem else batcherIterGo b acc rem
  | [], acc, h => by
    simp only [aheadGo, batcherIterGo, List.length_nil]
    by_cases hl : acc.length = b
    · have : acc.length > 0 := by omega
      simp [hl, hb]
    · simp [hl]
  | x :: r, acc, h => by
    simp only [aheadGo, batcherIterGo, List.nil_append]
    by_cases hl : acc.length = b
    · simp only [hl, if_true]
      rw [aheadGo_eq b hb r [x] (by simp; omega)]
    · simp only [hl, if_false]
      rw [aheadGo_eq b hb r (acc ++ [x]) (by simp; omega)]

theorem aheadGo_batcherIter (items : List Int) (b : Nat) (hb : 0 < b) : aheadGo b [] items = batcherIter items b := by
  rw [aheadGo_eq b hb items [] (by simp)]
  have : ¬ 0 = b := by omega
  simp [this, batcherIter]

theorem takeFrom_congr_fst (step : St → St × Outcome) (st st' : St) (h : step st = step st') : ∀ k,
    (takeFrom step k st).1 = (takeFrom step k st').1
  | 0 => rfl
  | k + 1 => by rw [takeFrom_succ, takeFrom_succ, h]

theorem nextAhead_cons (b : Nat) (src : Src) (p : Nat) (acc : List Int) (x : Int) (r : List Int)
    (h : src.items.drop p = x :: r) :
    nextAhead b src ⟨p, acc, false⟩ =
      if acc.length = b then (⟨p + 1, [x], false⟩, .batch acc) else nextAhead b src ⟨p + 1, acc ++ [x], false⟩ := by
  have h' : src.items.drop (p + 1) = r := by
    rw [← List.drop_drop, h]; rfl
  simp only [nextAhead, Bool.false_eq_true, if_false, h, h', nextAheadGo]

theorem aheadGo_ne_nil (b : Nat) : ∀ (rem acc : List Int), acc ≠ [] → aheadGo b acc rem ≠ []
  | [], acc, h => by
    have : acc.length > 0 := List.length_pos_iff.mpr h
    simp [aheadGo, this]
  | x :: r, acc, h => by
    simp only [aheadGo]
    split
    · simp
    · exact aheadGo_ne_nil b r (acc ++ [x]) (by simp)

/-- what the `next()` calls see of the batches `L` of the list-level function: all of them over a source that ends; all but
the last, then the exception, over one that raises -/
def aheadOuts (f : Bool) (L : List (List Int)) : List Outcome :=
  if f then L.dropLast.map .batch ++ [.raised] else L.map .batch

theorem aheadOuts_cons (f : Bool) (a : List Int) {L : List (List Int)} (h : L ≠ []) :
    aheadOuts f (a :: L) = .batch a :: aheadOuts f L := by
  cases f <;> simp [aheadOuts, List.dropLast_cons_of_ne_nil h]

/-- from any live state: the outcomes that belong to the batches of the list-level read-ahead function, then `stop` -/
theorem takeAhead_outcomes (b : Nat) (items : List Int) (f : Bool) :
    ∀ (rem : List Int) (p : Nat) (acc : List Int) (k : Nat), items.drop p = rem →
    (takeFrom (nextAhead b ⟨items, f⟩) ((aheadOuts f (aheadGo b acc rem)).length + k) ⟨p, acc, false⟩).1 =
      aheadOuts f (aheadGo b acc rem) ++ List.replicate k Outcome.stop
  | [], p, acc, k, h => by
    have h1 : nextAhead b ⟨items, f⟩ ⟨p, acc, false⟩ =
        (⟨p, [], true⟩, if f then .raised else if acc.length > 0 then .batch acc else .stop) := by
      simp only [nextAhead, h, nextAheadGo, Bool.false_eq_true, if_false]
      split
      · rfl
      · split <;> rfl
    have hfin := fun k => takeFrom_finished (nextAhead_finished b ⟨items, f⟩) k ⟨p, [], true⟩ rfl
    cases f
    · simp only [aheadOuts, aheadGo, Bool.false_eq_true, if_false] at h1 ⊢
      by_cases hl : acc.length > 0
      · simp only [hl, if_true, List.map_cons, List.map_nil, List.length_singleton] at h1 ⊢
        rw [Nat.add_comm, takeFrom_succ, h1, hfin]
        rfl
      · simp only [hl, if_false, List.map_nil, List.length_nil, Nat.zero_add, List.nil_append] at h1 ⊢
        cases k with
        | zero => rfl
        | succ k => rw [takeFrom_succ, h1, hfin, List.replicate_succ]
    · have h2 : (aheadGo b acc []).dropLast = [] := by
        simp only [aheadGo]; split <;> rfl
      simp only [aheadOuts, if_true, h2, List.map_nil, List.nil_append, List.length_singleton] at h1 ⊢
      rw [Nat.add_comm, takeFrom_succ, h1, hfin]
      rfl
  | x :: r, p, acc, k, h => by
    have h' : items.drop (p + 1) = r := by
      rw [← List.drop_drop, h]; rfl
    have h1 := nextAhead_cons b ⟨items, f⟩ p acc x r h
    simp only [aheadGo]
    by_cases hl : acc.length = b
    · simp only [hl, if_true] at h1 ⊢
      rw [aheadOuts_cons f _ (aheadGo_ne_nil b r [x] (by simp)), List.length_cons, Nat.add_right_comm, takeFrom_succ, h1,
        List.cons_append, takeAhead_outcomes b items f r (p + 1) [x] k h']
    · simp only [hl, if_false] at h1 ⊢
      rw [takeFrom_congr_fst _ _ _ h1, takeAhead_outcomes b items f r (p + 1) (acc ++ [x]) k h']

theorem nextAheadGo_full (b : Nat) (f : Bool) : ∀ (rem : List Int) (p : Nat) (acc : List Int),
    acc.length ≤ b → b < acc.length + rem.length →
    nextAheadGo b f rem p acc =
      (⟨p + (b - acc.length) + 1, (rem.drop (b - acc.length)).take 1, false⟩, .batch (acc ++ rem.take (b - acc.length)))
  | [], p, acc, h1, h2 => by simp at h2; omega
  | x :: r, p, acc, h1, h2 => by
    simp only [nextAheadGo]
    split
    next h =>
      have : b - acc.length = 0 := by omega
      rw [this]; simp
    next h =>
      have h3 : (acc ++ [x]).length ≤ b := by simp; omega
      have h4 : b < (acc ++ [x]).length + r.length := by simp at h2 ⊢; omega
      rw [nextAheadGo_full b f r (p + 1) (acc ++ [x]) h3 h4]
      have : b - acc.length = (b - (acc ++ [x]).length) + 1 := by simp; omega
      rw [this, List.take_succ_cons, List.drop_succ_cons]
      simp only [List.append_assoc, List.cons_append, List.nil_append, Nat.add_assoc, Nat.add_comm 1]

/-- after `j ≥ 1` batches, with an item following them in the source: that item has already been pulled and is held back -/
theorem takeAhead_state (items : List Int) (f : Bool) (b : Nat) (hb : 0 < b) : ∀ j : Nat, (j + 1) * b + 1 ≤ items.length →
    (takeAhead b ⟨items, f⟩ (j + 1)).2 = ⟨(j + 1) * b + 1, (items.drop ((j + 1) * b)).take 1, false⟩
  | 0, h => by
    rw [Nat.zero_add, Nat.one_mul] at h ⊢
    simp only [takeAhead, takeFrom, St.init, nextAhead, Bool.false_eq_true, if_false, List.drop_zero]
    rw [nextAheadGo_full b f items 0 [] (by simp) (by simp; omega)]
    simp
  | j + 1, h => by
    have hE : (j + 1 + 1) * b = (j + 1) * b + b := Nat.succ_mul _ _
    have ih := takeAhead_state items f b hb j (by omega)
    have hlen : ((items.drop ((j + 1) * b)).take 1).length = 1 := by simp; omega
    unfold takeAhead at ih ⊢
    rw [takeFrom_add]
    generalize takeFrom (nextAhead b ⟨items, f⟩) (j + 1) St.init = t at ih
    obtain ⟨os, st⟩ := t
    subst ih
    simp only [takeFrom, nextAhead, Bool.false_eq_true, if_false]
    rw [nextAheadGo_full b f _ _ _ (by omega) (by simp; omega)]
    simp only [hlen, List.drop_drop, hE]
    have e1 : (j + 1) * b + 1 + (b - 1) + 1 = (j + 1) * b + b + 1 := by omega
    have e2 : (j + 1) * b + 1 + (b - 1) = (j + 1) * b + b := by omega
    rw [e1, e2]

end WindVerif.BatcherLazy
