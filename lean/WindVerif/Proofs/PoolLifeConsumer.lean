import WindVerif.Proofs.PoolLifeInv
/-! Worker lifecycle in the pool model (C04): the shape of a step of the consumer; its steps keep the invariant; the
invariant holds in every reachable state. -/
namespace WindVerif.Pool

theorem consumeBatch_same (s : St) :
    SameL s (consumeBatch s) ∧ (consumeBatch s).fRun = s.fRun ∧ (consumeBatch s).cur = s.cur := by
  unfold consumeBatch
  split
  · exact ⟨.of_view rfl, rfl, rfl⟩
  · split <;> exact ⟨.of_view rfl, rfl, rfl⟩

theorem afterResults_same (s : St) :
    SameL s (afterResults s) ∧ (afterResults s).fRun = s.fRun ∧ (afterResults s).cur = s.cur ∧
    inCall (afterResults s).cpc = true ∧
    ∀ i wid, (afterResults s).cpc = .midReady i wid → i = 0 ∧ s.procs[0]? = some wid ∧ s.cfg.readyMid = true := by
  obtain ⟨h, hf, hc⟩ := consumeBatch_same s
  obtain ⟨c', heq, hcl⟩ := afterResults_eq s
  rw [heq]
  refine ⟨⟨h.cfg, h.workers, h.procs, h.widCounter, h.rpc, h.rAlive, h.replQ⟩, hf, hc, ?_, ?_⟩
  · rcases hcl with ⟨h | h | h, _⟩ | ⟨wid, h, _⟩ <;> subst h <;> rfl
  · intro i wid hm
    rcases hcl with ⟨h | h | h, _⟩ | ⟨w0, h, hp, hr, _⟩ <;> subst h <;> cases hm
    exact ⟨rfl, h.procs ▸ hp, hr⟩

theorem afterBatch_same (s : St) : SameL s (afterBatch s) ∧ inCall (afterBatch s).cpc = true ∧
    ∀ i wid, (afterBatch s).cpc ≠ .midReady i wid := by
  obtain ⟨c', heq, hcl⟩ := afterBatch_eq s
  rw [heq]
  refine ⟨.of_view rfl, ?_, ?_⟩ <;> rcases hcl with h | h | h <;> subst h
  · rfl
  · rfl
  · rfl
  all_goals exact nofun

theorem toNextCall_same (s : St) : SameL s (toNextCall s) ∧
    (((toNextCall s).cpc = .rInitSet ∧ s.cfg.factory = true) ∨ (toNextCall s).cpc = .fInitSet ∨
     ((toNextCall s).cpc = .done ∧ s.procs = []) ∨ (toNextCall s).cpc = .exitPut 0) := by
  unfold toNextCall
  split
  · dsimp only
    split
    · rename_i hf; exact ⟨.of_view rfl, Or.inl ⟨rfl, hf⟩⟩
    · exact ⟨.of_view rfl, Or.inr (Or.inl rfl)⟩
  · dsimp only
    split
    · rename_i hf; exact ⟨.of_view rfl, Or.inr (Or.inr (Or.inl ⟨rfl, List.length_eq_zero_iff.1 hf⟩))⟩
    · exact ⟨.of_view rfl, Or.inr (Or.inr (Or.inr rfl))⟩

theorem exitJoinFrom_spec (s : St) (fuel i : Nat) :
    (exitJoinFrom s fuel i = .done ∧ ∀ j, i ≤ j → ∀ wid, s.procs[j]? = some wid → workerExited s wid = true) ∨
    (∃ k, exitJoinFrom s fuel i = .exitJoin k ∧ i ≤ k ∧
      ∀ j, i ≤ j → j < k → ∀ wid, s.procs[j]? = some wid → workerExited s wid = true) := by
  induction fuel generalizing i with
  | zero => exact Or.inr ⟨i, rfl, Nat.le_refl _, fun j h1 h2 => by omega⟩
  | succ n ih =>
    unfold exitJoinFrom
    split
    · rename_i hn
      refine Or.inl ⟨rfl, ?_⟩
      intro j hj wid hw
      have : s.procs.length ≤ i := by simpa using hn
      have : s.procs[j]? = none := by simp; omega
      rw [this] at hw; cases hw
    · rename_i wid hw
      split
      · rename_i he
        rcases ih (i + 1) with ⟨h1, h2⟩ | ⟨k, h1, h2, h3⟩
        · refine Or.inl ⟨h1, ?_⟩
          intro j hj wid' hw'
          rcases Nat.eq_or_lt_of_le hj with rfl | hlt
          · rw [hw] at hw'; cases hw'; exact he
          · exact h2 j hlt wid' hw'
        · refine Or.inr ⟨k, h1, by omega, ?_⟩
          intro j hj hjk wid' hw'
          rcases Nat.eq_or_lt_of_le hj with rfl | hlt
          · rw [hw] at hw'; cases hw'; exact he
          · exact h3 j hlt hjk wid' hw'
      · exact Or.inr ⟨i, rfl, Nat.le_refl _, fun j h1 h2 => by omega⟩

/-- how the consumer, at pc `c`, can arrive at the mid-call wait for worker `wid` in slot `i`: `wid` is what `procs[i]`
holds, and the step is the one that emits the first result of a call (slot 0, with `readyMid`) or the wait for slot `i - 1` -/
def MidFrom (c : CPc) (s s' : St) : Prop :=
  ∀ i wid, s'.cpc = .midReady i wid →
    s.procs[i]? = some wid ∧ s'.workers = s.workers ∧ s'.fRun = s.fRun ∧ s'.cur = s.cur ∧
    ((i = 0 ∧ (c = .lockRel ∨ c = .getBlock) ∧ s.cfg.readyMid = true) ∨ ∃ j w0, i = j + 1 ∧ c = .midReady j w0)

/-- a step of the consumer inside a call leaves the workers and the replace thread alone and stays inside the call — or,
when there is no replace thread (any more), goes back to `nextCall` -/
def InCallTo (s s' : St) : Prop :=
  s'.workers = s.workers ∧ s'.rpc = s.rpc ∧ s'.rAlive = s.rAlive ∧
  (inCall s'.cpc = true ∨ (s' = toNextCall { s with cpc := .nextCall } ∧ (s.cfg.factory = false ∨ s.rAlive = false)))

/-- what a step of the consumer from pc `c` does: it leaves the configuration, the listing and the wids in the replace
queue alone, touches no worker record except to start the worker (`__enter__`), reaches a mid-call wait only as `MidFrom`
says, and from a pc inside a call goes on as `InCallTo` says -/
def CShape (c : CPc) (s s' : St) : Prop :=
  (s'.cfg = s.cfg ∧ s'.procs = s.procs ∧ s'.widCounter = s.widCounter ∧
   s'.replQ.filterMap id = s.replQ.filterMap id ∧
   (s'.workers = s.workers ∨ ∃ w ∈ s.workers, s'.workers = upd w.wid { w with pc := .bfClear } s.workers) ∧
   MidFrom c s s') ∧
  (inCall c = true → InCallTo s s')

def cview (s : St) := (s.cfg, s.procs, s.widCounter, s.replQ.filterMap id, s.workers)

theorem CShape.of_view {c : CPc} {s x : St} (hv : cview x = cview s) (hm : ∀ i wid, x.cpc ≠ .midReady i wid)
    (hin : inCall c = true → x.rpc = s.rpc ∧ x.rAlive = s.rAlive ∧ inCall x.cpc = true) : CShape c s x := by
  simp only [cview, Prod.mk.injEq] at hv
  obtain ⟨h1, h2, h3, h4, h5⟩ := hv
  exact ⟨⟨h1, h2, h3, h4, .inl h5, fun i wid hc => absurd hc (hm i wid)⟩,
    fun h => ⟨h5, (hin h).1, (hin h).2.1, .inl (hin h).2.2⟩⟩

theorem CShape.keep {c : CPc} {s s0 x : St} (e : SameL s0 x) (h1 : s0.cfg = s.cfg) (h2 : s0.procs = s.procs)
    (h3 : s0.widCounter = s.widCounter) (h4 : s0.replQ = s.replQ)
    (h5 : s0.workers = s.workers ∨ ∃ w ∈ s.workers, s0.workers = upd w.wid { w with pc := .bfClear } s.workers)
    (hm : ∀ i wid, x.cpc ≠ .midReady i wid) (hin : inCall c = true → InCallTo s x) : CShape c s x :=
  ⟨⟨e.cfg.trans h1, e.procs.trans h2, e.widCounter.trans h3, by rw [e.replQ, h4], e.workers ▸ h5,
    fun i wid hc => absurd hc (hm i wid)⟩, hin⟩

theorem toNextCall_not_mid (s0 : St) (i wid : Nat) : (toNextCall s0).cpc ≠ .midReady i wid := by
  intro hm
  rcases (toNextCall_same s0).2 with ⟨e, _⟩ | e | ⟨e, _⟩ | e <;> rw [e] at hm <;> cases hm

theorem exitJoinFrom_not_mid (s0 : St) (n k i wid : Nat) : exitJoinFrom s0 n k ≠ .midReady i wid := by
  intro hm
  rcases exitJoinFrom_spec s0 n k with ⟨e, _⟩ | ⟨j, e, _⟩ <;> rw [e] at hm <;> cases hm

theorem CShape.results {c : CPc} {s : St} (s0 : St) (h1 : s0.cfg = s.cfg) (h2 : s0.procs = s.procs)
    (h3 : s0.widCounter = s.widCounter) (h4 : s0.replQ = s.replQ) (h5 : s0.workers = s.workers) (h6 : s0.rpc = s.rpc)
    (h7 : s0.rAlive = s.rAlive) (h8 : s0.fRun = s.fRun) (h9 : s0.cur = s.cur) (hc : c = .lockRel ∨ c = .getBlock) :
    CShape c s (afterResults s0) := by
  obtain ⟨e, ef, ec, ein, em⟩ := afterResults_same s0
  refine ⟨⟨e.cfg.trans h1, e.procs.trans h2, e.widCounter.trans h3, by rw [e.replQ, h4], .inl (e.workers.trans h5), ?_⟩,
    fun _ => ⟨e.workers.trans h5, e.rpc.trans h6, e.rAlive.trans h7, .inl ein⟩⟩
  intro i wid hm
  obtain ⟨rfl, hp, hr⟩ := em i wid hm
  exact ⟨h2 ▸ hp, e.workers.trans h5, ef.trans h8, ec.trans h9, .inl ⟨rfl, hc, h1 ▸ hr⟩⟩

theorem stepC_shape {s s' : St} (h : stepC s = some s') : CShape s.cpc s s' := by
  cases stepC_cases h with
  | @enterNext _ _ w hpc _ hg =>
    exact ⟨⟨rfl, rfl, rfl, rfl, .inr ⟨w, (getWorker_some hg).1, rfl⟩, nofun⟩, by rw [hpc]; exact nofun⟩
  | @enterLast _ _ w hpc _ hg =>
    have hw := (getWorker_some hg).1
    unfold afterEnter
    split
    · exact ⟨⟨rfl, rfl, rfl, rfl, .inr ⟨w, hw, rfl⟩, nofun⟩, by rw [hpc]; exact nofun⟩
    · exact .keep (toNextCall_same _).1 rfl rfl rfl rfl (.inr ⟨w, hw, rfl⟩) (toNextCall_not_mid _)
        (by rw [hpc]; exact nofun)
  | readyNext hpc | rInitSet hpc | rStart hpc | exitPutGiveUp hpc | exitPutNext hpc =>
    exact .of_view rfl nofun (by rw [hpc]; exact nofun)
  | readyLast hpc | nextCall hpc =>
    exact .keep (toNextCall_same _).1 rfl rfl rfl rfl (.inl rfl) (toNextCall_not_mid _) (by rw [hpc]; exact nofun)
  | lockRelResults hpc => exact .results _ rfl rfl rfl rfl rfl rfl rfl rfl rfl (.inl hpc)
  | getBlockToken hpc | getBlockChunk hpc => exact .results _ rfl rfl rfl rfl rfl rfl rfl rfl rfl (.inr hpc)
  | fJoinPlain _ _ hnf =>
    have e := (toNextCall_same { s with cpc := .nextCall }).1
    exact .keep e rfl rfl rfl rfl (.inl rfl) (toNextCall_not_mid _)
      fun _ => ⟨e.workers, e.rpc, e.rAlive, .inr ⟨rfl, .inl (Bool.eq_false_iff.2 hnf)⟩⟩
  | rPutNone => exact .of_view (by simp [cview]) nofun fun _ => ⟨rfl, rfl, rfl⟩
  | rJoin _ hr =>
    have e := (toNextCall_same { s with cpc := .nextCall }).1
    exact .keep e rfl rfl rfl rfl (.inl rfl) (toNextCall_not_mid _)
      fun _ => ⟨e.workers, e.rpc, e.rAlive, .inr ⟨rfl, .inr (Bool.eq_false_iff.2 hr)⟩⟩
  | exitPutLast hpc | exitJoin hpc => exact .of_view rfl (exitJoinFrom_not_mid _ _ _) (by rw [hpc]; exact nofun)
  | @midNext j w0 _ wid' hpc _ _ hw' =>
    -- on to the next slot of the list as it is now
    exact ⟨⟨rfl, rfl, rfl, rfl, .inl rfl, fun i wid hm => by
      cases hm; exact ⟨hw', rfl, rfl, rfl, .inr ⟨j, w0, rfl, hpc⟩⟩⟩, fun _ => ⟨rfl, rfl, rfl, .inl rfl⟩⟩
  | midLast =>
    have ⟨e, ein, em⟩ := afterBatch_same s
    exact .keep e rfl rfl rfl rfl (.inl rfl) em fun _ => ⟨e.workers, e.rpc, e.rAlive, .inl ein⟩
  | _ =>
    -- the other leaves are inside a call and stay there; none touches the replace thread
    exact .of_view rfl nofun fun _ => ⟨rfl, rfl, rfl⟩

theorem LInv_noR {s s' : St} (hI : LInv s) (h : SameL s s') (hp : post s.cpc = true) (hr : s.rAlive = false)
    (hp' : post s'.cpc = true) (hfac : (s'.cpc = .rInitSet ∨ s'.cpc = .rStart) → s.cfg.factory = true)
    (hj : ∀ i, s'.cpc = .exitJoin i → ∀ j < i, ∀ wid, s.procs[j]? = some wid → s.cfg.joinTimeout = false →
      ExitedStrict s.workers wid)
    (hd : s'.cpc = .done → ∀ wid ∈ s.procs, s.cfg.joinTimeout = false → ExitedStrict s.workers wid) : LInv s' :=
  LInv_frame hI h.cfg h.workers h.procs h.widCounter h.rpc h.rAlive (by rw [h.replQ])
    (Or.inr ⟨hp, hp', fun h => (by rw [hr] at h; cases h), hfac, hj, hd⟩)

theorem LInv_toNextCall {s : St} (hI : LInv s) (hp : post s.cpc = true) (hr : s.rAlive = false) : LInv (toNextCall s) := by
  obtain ⟨hs, hc⟩ := toNextCall_same s
  refine LInv_noR hI hs hp hr ?_ ?_ ?_ ?_
  · rcases hc with ⟨h, _⟩ | h | ⟨h, _⟩ | h <;> rw [h] <;> rfl
  · intro hh
    rcases hc with ⟨_, h⟩ | h | ⟨h, _⟩ | h
    · exact h
    all_goals (rw [h] at hh; rcases hh with hh | hh <;> cases hh)
  · intro i hi
    rcases hc with ⟨h, _⟩ | h | ⟨h, _⟩ | h <;> rw [h] at hi <;> cases hi
  · intro hd wid hw
    rcases hc with ⟨h, _⟩ | h | ⟨_, h⟩ | h
    · rw [h] at hd; cases hd
    · rw [h] at hd; cases hd
    · rw [h] at hw; cases hw
    · rw [h] at hd; cases hd

theorem LInv_backToNext {s : St} (hI : LInv s) (hp : post s.cpc = true) (hr : s.rAlive = false) :
    LInv (toNextCall { s with cpc := .nextCall }) :=
  LInv_toNextCall (LInv_noR hI (.of_view rfl) hp hr rfl nofun nofun nofun) rfl hr

theorem workerExited_all {s : St} (hI : LInv s) {wid : Nat} (h : workerExited s wid = true) : ExitedStrict s.workers wid := by
  unfold workerExited at h
  split at h
  · rename_i w hg
    obtain ⟨hwm, hwid⟩ := getWorker_some hg
    intro x hx hxw
    have := wid_inj hI.nodup hx hwm (by rw [hxw, hwid])
    subst this; simpa using h
  · cases h

theorem LInv_exitJoinFrom {s : St} (hI : LInv s) (hp : post s.cpc = true) (hr : s.rAlive = false) (n i : Nat)
    (hprev : ∀ j < i, ∀ wid, s.procs[j]? = some wid → s.cfg.joinTimeout = false → ExitedStrict s.workers wid) :
    LInv { s with cpc := exitJoinFrom s n i } := by
  have hall : ∀ k, (∀ j, i ≤ j → j < k → ∀ wid, s.procs[j]? = some wid → workerExited s wid = true) →
      ∀ j < k, ∀ wid, s.procs[j]? = some wid → s.cfg.joinTimeout = false → ExitedStrict s.workers wid := by
    intro k e2 j hjk wid hj hjt
    rcases Nat.lt_or_ge j i with hlt | hge
    · exact hprev j hlt wid hj hjt
    · exact workerExited_all hI (e2 j hge hjk wid hj)
  rcases exitJoinFrom_spec s n i with ⟨e1, e2⟩ | ⟨k, e1, _, e2⟩ <;> rw [e1]
  · refine LInv_noR hI (.of_view rfl) hp hr rfl nofun nofun fun _ wid hwid hjt => ?_
    obtain ⟨j, hj⟩ := List.getElem?_of_mem hwid
    exact hall (j + 1) (fun j' h1 _ => e2 j' h1) j (Nat.lt_succ_self j) wid hj hjt
  · refine LInv_noR hI (.of_view rfl) hp hr rfl nofun (fun k' hk' => ?_) nofun
    cases hk'
    exact hall k e2

theorem rAlive_false {s : St} (hI : LInv s) (h : inCall s.cpc = false) : s.rAlive = false := by
  cases hr : s.rAlive
  · rfl
  · rw [(hI.rAliveIn hr).1] at h; cases h

theorem LInv_enterStart_aux {s : St} {i : Nat} {w : Worker} (hI : LInv s) (hpc : s.cpc = .enterStart i)
    (hg : getWorker s i = some w) (c' : CPc)
    (hc' : c' = .enterStart (i + 1) ∨
      (s.cfg.nWorkers ≤ i + 1 ∧ (c' = .readyWait 0 ∨ (c' = .nextCall ∧ s.cfg.waitReady = false)))) :
    LInv { (setWorker s { w with pc := .bfClear }) with cpc := c' } := by
  obtain ⟨hwm, hwid⟩ := getWorker_some hg
  have hral : s.rAlive = false := rAlive_false hI (by rw [hpc]; rfl)
  have hpre := hI.pre (by rw [hpc]; trivial)
  have hwpc := hI.starting i hpc w hwm (by omega)
  refine LInv_upd (w' := { w with pc := .bfClear }) (c' := c') (rp' := s.rpc) hI hwm rfl (WInv_start (hI.wk w hwm) hwpc)
    (by rw [hwpc]; exact nofun) id nofun (by rw [hwpc]; exact nofun) rfl (.inl rfl) (fun hh => by rw [hral] at hh; cases hh)
    ?_ hI.rIdle (fun _ => hpre) ?_ ?_ (fun nw hh => by rw [hI.rIdle hral] at hh; cases hh) ?_ ?_ ?_
  · intro hh
    rcases hc' with rfl | ⟨_, rfl | ⟨rfl, _⟩⟩ <;> rcases hh with hh | hh <;> cases hh
  · intro j hj x hx hjx
    rcases hc' with rfl | ⟨_, rfl | ⟨rfl, _⟩⟩ <;> cases hj
    exact ⟨by omega, hI.starting i hpc x hx (by omega)⟩
  · intro x hx hxw hxpc
    rcases hI.notStarted x hx hxpc with ⟨i0, hi0, hle⟩ | hh
    · rw [hpc] at hi0; cases hi0
      rcases hc' with rfl | ⟨hn, _⟩
      · exact Or.inl ⟨i + 1, rfl, by omega⟩
      · have := hI.widLt x hx; omega
    · exact Or.inr hh
  · intro hr x hx hlt
    rcases hc' with rfl | ⟨_, rfl | ⟨rfl, hwr⟩⟩
    · cases hlt
    · cases hlt
    · rw [hwr] at hr; cases hr
  · intro j hj
    rcases hc' with rfl | ⟨_, rfl | ⟨rfl, _⟩⟩ <;> cases hj
  · intro hj
    rcases hc' with rfl | ⟨_, rfl | ⟨rfl, _⟩⟩ <;> cases hj

theorem LInv_readyWait_aux {s : St} {i : Nat} {w : Worker} (hI : LInv s) (hpc : s.cpc = .readyWait i)
    (hg : getWorker s i = some w) (hbf : w.bf = true) (c' : CPc)
    (hc' : c' = .readyWait (i + 1) ∨ (s.cfg.nWorkers ≤ i + 1 ∧ c' = .nextCall)) :
    LInv { s with cpc := c' } := by
  obtain ⟨hwm, hwid⟩ := getWorker_some hg
  have hral : s.rAlive = false := rAlive_false hI (by rw [hpc]; rfl)
  have hpre := hI.pre (by rw [hpc]; trivial)
  constructor <;> try dsimp only
  · exact hI.nodup
  · exact hI.widLt
  · exact hI.procsLt
  · exact hI.nwLe
  · exact hI.wk
  · intro hh; rw [hral] at hh; cases hh
  · intro hh
    rcases hc' with rfl | ⟨_, rfl⟩ <;> rcases hh with hh | hh <;> cases hh
  · exact hI.rIdle
  · intro _; exact hpre
  · intro j hj
    rcases hc' with rfl | ⟨_, rfl⟩ <;> cases hj
  · intro x hx hxpc
    rcases hI.notStarted x hx hxpc with ⟨i0, hi0, _⟩ | hh
    · rw [hpc] at hi0; cases hi0
    · exact Or.inr hh
  · exact hI.rStarting
  · intro hr x hx hlt
    have hlt' : x.wid < i + 1 := by
      rcases hc' with rfl | ⟨hn, rfl⟩
      · exact hlt
      · have : x.wid < s.cfg.nWorkers := hlt
        omega
    rcases Nat.lt_or_ge x.wid i with h | h
    · exact hI.ready hr x hx (by unfold readyUpto; rw [hpc]; exact h)
    · have : x = w := wid_inj hI.nodup hx hwm (by omega)
      rw [this]; exact hbf
  · exact hI.listed
  · exact hI.pendNodup
  · exact hI.pend
  · intro j hj
    rcases hc' with rfl | ⟨_, rfl⟩ <;> cases hj
  · intro hj
    rcases hc' with rfl | ⟨_, rfl⟩ <;> cases hj

theorem range_getElem?_some {n i wid : Nat} (h : (List.range n)[i]? = some wid) : wid = i ∧ i < n := by
  rw [List.getElem?_eq_some_iff] at h
  obtain ⟨h1, h2⟩ := h
  simp at h1 h2
  exact ⟨h2.symm, h1⟩

theorem LInv_stepC_inCall {s s' : St} (hI : LInv s) (hin : inCall s.cpc = true) (h : stepC s = some s') : LInv s' := by
  obtain ⟨⟨e1, e2, e3, e4, _, _⟩, hflow⟩ := stepC_shape h
  obtain ⟨ew, er, ea, hc | ⟨rfl, hr⟩⟩ := hflow hin
  · refine LInv_frame hI e1 ew e2 e3 er ea e4 (Or.inr ⟨post_of_inCall hin, post_of_inCall hc, fun _ => hc, ?_, ?_, ?_⟩)
    · intro hh; rcases hh with hh | hh <;> rw [hh] at hc <;> cases hc
    · intro i hi; rw [hi] at hc; cases hc
    · intro hi; rw [hi] at hc; cases hc
  · refine LInv_backToNext hI (post_of_inCall hin) ?_
    cases hal : s.rAlive
    · rfl
    · rcases hr with hr | hr
      · rw [(hI.rAliveIn hal).2] at hr; cases hr
      · rw [hal] at hr; cases hr

theorem LInv_stepC {s s' : St} (hI : LInv s) (h : stepC s = some s') : LInv s' := by
  -- in `__enter__` the listed wids are `0 … nWorkers - 1`
  have hslot : ∀ {i wid}, (s.cpc = .enterStart i ∨ s.cpc = .readyWait i) → s.procs[i]? = some wid →
      wid = i ∧ i < s.cfg.nWorkers ∧ s.procs.length = s.cfg.nWorkers := by
    intro i wid hpc hw
    have hpre := hI.pre (by rcases hpc with hpc | hpc <;> rw [hpc] <;> trivial)
    rw [hpre.1] at hw
    exact ⟨(range_getElem?_some hw).1, (range_getElem?_some hw).2, by rw [hpre.1]; simp⟩
  cases stepC_cases h with
  | enterNext hpc hw hg =>
    obtain ⟨rfl, _⟩ := hslot (.inl hpc) hw
    exact LInv_enterStart_aux hI hpc hg _ (Or.inl rfl)
  | enterLast hpc hw hg hge =>
    obtain ⟨rfl, hin, hlen⟩ := hslot (.inl hpc) hw
    unfold afterEnter
    split
    · exact LInv_enterStart_aux hI hpc hg _ (Or.inr ⟨by omega, Or.inl rfl⟩)
    · rename_i hnw
      have hwr : s.cfg.waitReady = false := by
        cases hh : s.cfg.waitReady
        · rfl
        · exfalso; apply hnw; exact ⟨hh, show s.procs.length > 0 by omega⟩
      have h1 := LInv_enterStart_aux hI hpc hg .nextCall (Or.inr ⟨by omega, Or.inr ⟨rfl, hwr⟩⟩)
      have hral := rAlive_false hI (by rw [hpc]; rfl)
      exact LInv_toNextCall h1 rfl hral
  | readyNext hpc hw hg hbf =>
    obtain ⟨rfl, _⟩ := hslot (.inr hpc) hw
    exact LInv_readyWait_aux hI hpc hg hbf _ (Or.inl rfl)
  | readyLast hpc hw hg hbf hge =>
    obtain ⟨rfl, hin, hlen⟩ := hslot (.inr hpc) hw
    have h1 := LInv_readyWait_aux hI hpc hg hbf .nextCall (Or.inr ⟨by omega, rfl⟩)
    have hral := rAlive_false hI (by rw [hpc]; rfl)
    exact LInv_toNextCall h1 rfl hral
  | nextCall hpc => exact LInv_toNextCall hI (by rw [hpc]; rfl) (rAlive_false hI (by rw [hpc]; rfl))
  | rInitSet hpc =>
    exact LInv_noR hI (.of_view rfl) (by rw [hpc]; rfl) (rAlive_false hI (by rw [hpc]; rfl)) rfl
      (fun _ => hI.rFactory (Or.inl hpc)) nofun nofun
  | rStart hpc =>
    have hral := rAlive_false hI (by rw [hpc]; rfl)
    have hidle := hI.rIdle hral
    have h1 : LInv { s with cpc := .fInitSet } := LInv_noR hI (.of_view rfl) (by rw [hpc]; rfl) hral rfl nofun nofun nofun
    exact LInv_rThread h1 (fun nw hh => by rw [show s.rpc = _ from hh] at hidle; cases hidle) s.replQ .get true
      (fun _ => ⟨rfl, hI.rFactory (Or.inr hpc)⟩) nofun nofun (by unfold pending; simp [hidle])
  | exitPutGiveUp hpc _ hall =>
    -- the queue is full: the loop is left only when every listed worker has exited
    exact LInv_noR hI (.of_view rfl) (by rw [hpc]; rfl) (rAlive_false hI (by rw [hpc]; rfl)) rfl nofun nofun
      fun _ wid hwid _ => workerExited_all hI (List.all_eq_true.1 hall wid hwid)
  | exitPutNext hpc =>
    exact LInv_noR hI (.of_view rfl) (by rw [hpc]; rfl) (rAlive_false hI (by rw [hpc]; rfl)) rfl nofun nofun nofun
  | @exitPutLast i hpc =>
    have hral := rAlive_false hI (by rw [hpc]; rfl)
    have hI1 : LInv { s with workQ := s.workQ ++ [none], cpc := .exitPut i } :=
      LInv_noR hI (.of_view rfl) (by rw [hpc]; rfl) hral rfl nofun nofun nofun
    rw [hpc]
    exact LInv_exitJoinFrom hI1 rfl hral _ 0 fun j hj => absurd hj (Nat.not_lt_zero j)
  | @exitJoin i wid hpc hw hex =>
    refine LInv_exitJoinFrom hI (by rw [hpc]; rfl) (rAlive_false hI (by rw [hpc]; rfl)) _ (i + 1) ?_
    intro j hj wid' hw' hjt
    rcases Nat.lt_or_ge j i with hlt | hge
    · exact hI.joined i hpc j hlt wid' hw' hjt
    · have : j = i := by omega
      subst this; rw [hw] at hw'; cases hw'
      rw [hjt, Bool.or_false] at hex
      exact workerExited_all hI hex
  | _ => exact LInv_stepC_inCall hI (by rw [‹s.cpc = _›]; rfl) h

theorem LInv_step {s s' : St} {t : Tid} (hI : LInv s) (h : step s t = some s') : LInv s' := by
  cases t with
  | c => exact LInv_stepC hI h
  | f => exact LInv_stepF hI h
  | r => exact LInv_stepR hI h
  | w wid => exact LInv_stepW hI h

theorem LInv_run {s s' : St} {sched : List Tid} (hI : LInv s) (h : run s sched = some s') : LInv s' ∧ s'.cfg = s.cfg := by
  induction sched generalizing s with
  | nil => simp only [run, Option.some.injEq] at h; subst h; exact ⟨hI, rfl⟩
  | cons t ts ih =>
    simp only [run] at h
    split at h
    · cases h
    · rename_i s1 hs1
      obtain ⟨h1, h2⟩ := ih (LInv_step hI hs1) h
      exact ⟨h1, h2.trans (step_cfg hs1)⟩

theorem LInv_init (cfg : Cfg) : LInv (init cfg) := by
  have hw : ∀ w ∈ (init cfg).workers, ∃ k, k < cfg.nWorkers ∧ w = mkWorker cfg k := by
    intro w hw
    obtain ⟨k, hk, rfl⟩ := List.mem_map.1 hw
    exact ⟨k, List.mem_range.1 hk, rfl⟩
  have hcpc : (init cfg).cpc = .enterStart 0 ∨
      (cfg.nWorkers = 0 ∧ ((init cfg).cpc = .readyWait 0 ∨ (init cfg).cpc = .nextCall)) := by
    unfold init; dsimp only
    split
    · rename_i h0; right; refine ⟨h0, ?_⟩; split <;> simp
    · left; rfl
  constructor
  · show (((List.range cfg.nWorkers).map (mkWorker cfg)).map (·.wid)).Nodup
    rw [List.map_map]
    have : ((fun x : Worker => x.wid) ∘ mkWorker cfg) = id := by funext k; rfl
    rw [this, List.map_id]; exact List.nodup_range
  · intro w hm; obtain ⟨k, hk, rfl⟩ := hw w hm; exact hk
  · intro k hk; exact List.mem_range.1 hk
  · exact Nat.le_refl _
  · intro w hm; obtain ⟨k, hk, rfl⟩ := hw w hm; exact WInv_mk _ _
  · intro h; cases h
  · intro h
    rcases hcpc with e | ⟨_, e | e⟩ <;> rw [e] at h <;> rcases h with h | h <;> cases h
  · intro _; rfl
  · intro _; exact ⟨rfl, rfl⟩
  · intro i hi w hm hle; obtain ⟨k, hk, rfl⟩ := hw w hm; rfl
  · intro w hm hpc
    obtain ⟨k, hk, rfl⟩ := hw w hm
    rcases hcpc with e | ⟨e0, _⟩
    · exact Or.inl ⟨0, e, Nat.zero_le _⟩
    · omega
  · intro nw h; cases h
  · intro _ w hm hlt
    obtain ⟨k, hk, rfl⟩ := hw w hm
    exfalso
    unfold readyUpto at hlt
    rcases hcpc with e | ⟨e0, e | e⟩ <;> rw [e] at hlt <;> dsimp only at hlt
    · cases hlt
    · cases hlt
    · have : (init cfg).cfg.nWorkers = cfg.nWorkers := rfl
      omega
  · intro w hm _
    obtain ⟨k, hk, rfl⟩ := hw w hm
    exact List.mem_range.2 hk
  · exact List.nodup_nil
  · intro k hk; cases hk
  · intro i h
    rcases hcpc with e | ⟨_, e | e⟩ <;> rw [e] at h <;> cases h
  · intro h
    rcases hcpc with e | ⟨_, e | e⟩ <;> rw [e] at h <;> cases h

theorem LInv_reach {cfg : Cfg} {s : St} (h : Reach cfg s) : LInv s ∧ s.cfg = cfg := by
  obtain ⟨sched, hs⟩ := h
  exact LInv_run (LInv_init cfg) hs

end WindVerif.Pool
