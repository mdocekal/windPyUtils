import WindVerif.Model.Buffers
import WindVerif.Proofs.AList
import WindVerif.Proofs.ListFacts
/-! Theorems about the models of `Buffer`, `PrintBuffer` and `CircularBuffer` (C15): facts about the association-list store, the
invariant `GInv` of the reorder buffers with the histories of `Buffer` and `PrintBuffer`, and the history invariant `RInv` of the ring. -/
namespace WindVerif.Buffers

def keys (s : Store) : List Nat := s.map (·.1)

theorem mem_keys_iff {s : Store} {i : Nat} : i ∈ keys s ↔ ∃ x, (i, x) ∈ s := by
  simp [keys]

theorem sGet_some_mem {s : Store} {i x : Nat} (h : sGet s i = some x) : (i, x) ∈ s :=
  Cache.al_mem_of_lookup h

theorem sGet_none_iff {s : Store} {i : Nat} : sGet s i = none ↔ i ∉ keys s :=
  Cache.al_lookup_none

theorem mem_sDel {s : Store} {i j y : Nat} : (j, y) ∈ sDel s i ↔ (j, y) ∈ s ∧ j ≠ i := by
  simp [sDel]

theorem sDel_eq_self {s : Store} {i : Nat} (hi : i ∉ keys s) : sDel s i = s :=
  Cache.al_filter_eq_self hi

theorem sDel_length_lt {s : Store} {i x : Nat} (h : sGet s i = some x) : (sDel s i).length < s.length :=
  List.length_filter_lt_length_iff_exists.2 ⟨_, sGet_some_mem h, by simp⟩

theorem keys_perm_sDel {s : Store} {i : Nat} (hnd : (keys s).Nodup) (hi : i ∈ keys s) :
    (keys s).Perm (i :: keys (sDel s i)) := by
  have e : keys (sDel s i) = (keys s).erase i := by
    rw [hnd.erase_eq_filter, keys, keys, sDel, List.filter_map]
    simp only [ne_eq, decide_not]
    rfl
  exact e ▸ List.perm_cons_erase hi

theorem perm_sDel_tail {k v : Nat} {r buf : Store} (hp : ((k, v) :: r).Perm buf) (hnd : (keys buf).Nodup) :
    r.Perm (sDel buf k) := by
  have hk : k ∉ keys r := (List.nodup_cons.1 ((hp.map Prod.fst).nodup_iff.2 hnd)).1
  have e : sDel ((k, v) :: r) k = r := by
    rw [sDel, List.filter_cons_of_neg (by simp)]
    exact sDel_eq_self hk
  exact e ▸ hp.filter _

/-- `sorted(self._buffer.keys())` with the values: the stored entries in the order in which `flush` prints them -/
def sortedEntries (s : Store) : Store := s.mergeSort (fun p q => p.1 ≤ q.1)

theorem sorted_spec (buf : Store) (hk : (keys buf).Nodup) :
    (sortedEntries buf).Perm buf ∧ (keys (sortedEntries buf)).Pairwise (· < ·) := by
  have hperm : (sortedEntries buf).Perm buf := List.mergeSort_perm buf _
  have hle : (sortedEntries buf).Pairwise (fun p q => p.1 ≤ q.1) := pairwise_mergeSort_key (·.1) buf
  have hnd : (keys (sortedEntries buf)).Nodup := (hperm.map _).symm.nodup hk
  exact ⟨hperm, ((List.pairwise_map.2 hle).and hnd).imp (by intro a b; omega)⟩

theorem PBuf.flush_eq (b : PBuf) :
    b.flush = match (sortedEntries b.buffer).getLast? with
      | none => b
      | some last => ⟨[], last.1 + 1, b.out ++ (sortedEntries b.buffer).map (·.2)⟩ := rfl

/-! The invariant of `Buffer`, `PrintBuffer` and `PrintBuffer` with a failing stream (`Proofs/BuffersFail.lean`): the serials
taken so far are exactly the written ones (`outS`, in output order) and the stored ones, each once.  Until a `flush`, `outS` is
`List.range waiting_for`. -/

structure GInv (f : Nat → Nat) (taken outS : List Nat) (buf : Store) (out : List Nat) : Prop where
  nd : taken.Nodup
  out_eq : out = outS.map f
  perm : taken.Perm (outS ++ keys buf)
  val : ∀ i x, (i, x) ∈ buf → x = f i

namespace GInv
variable {f : Nat → Nat} {taken outS : List Nat} {buf : Store} {out : List Nat}

theorem nd' (h : GInv f taken outS buf out) : (outS ++ keys buf).Nodup := h.perm.nodup h.nd

theorem keys_nd (h : GInv f taken outS buf out) : (keys buf).Nodup := (List.nodup_append.1 h.nd').2.1

theorem outS_nd (h : GInv f taken outS buf out) : outS.Nodup := (List.nodup_append.1 h.nd').1

theorem disjoint (h : GInv f taken outS buf out) {i : Nat} (h1 : i ∈ outS) (h2 : i ∈ keys buf) : False :=
  (List.nodup_append.1 h.nd').2.2 i h1 i h2 rfl

theorem mem_taken (h : GInv f taken outS buf out) {i : Nat} : i ∈ taken ↔ i ∈ outS ∨ i ∈ keys buf := by
  rw [h.perm.mem_iff, List.mem_append]

theorem empty (f : Nat → Nat) : GInv f [] [] [] [] :=
  ⟨.nil, rfl, .nil, fun _ _ hx => nomatch hx⟩

theorem snoc (h : GInv f taken outS buf out) {sn : Nat} (hsn : sn ∉ taken) :
    (taken ++ [sn]).Nodup ∧ (taken ++ [sn]).Perm (outS ++ sn :: keys buf) :=
  have hp := List.perm_append_singleton sn taken
  ⟨hp.nodup_iff.2 (List.nodup_cons.2 ⟨hsn, h.nd⟩), hp.trans ((h.perm.cons sn).trans List.perm_middle.symm)⟩

theorem store (h : GInv f taken outS buf out) {sn : Nat} (hsn : sn ∉ taken) :
    GInv f (taken ++ [sn]) outS (sSet buf sn (f sn)) out := by
  have hk : sSet buf sn (f sn) = (sn, f sn) :: buf := by
    rw [sSet, sDel_eq_self fun hk => hsn (h.mem_taken.2 (.inr hk))]
  rw [hk]
  exact ⟨(h.snoc hsn).1, h.out_eq, (h.snoc hsn).2,
    fun j y hy => (List.mem_cons.1 hy).elim (fun e => by cases e; rfl) (h.val j y)⟩

theorem own (h : GInv f taken outS buf out) {sn : Nat} (hsn : sn ∉ taken) :
    GInv f (taken ++ [sn]) (outS ++ [sn]) buf (out ++ [f sn]) :=
  ⟨(h.snoc hsn).1, by simp [h.out_eq], List.append_cons .. ▸ (h.snoc hsn).2, h.val⟩

theorem move (h : GInv f taken outS buf out) {k x : Nat} (hm : (k, x) ∈ buf) :
    GInv f taken (outS ++ [k]) (sDel buf k) (out ++ [x]) :=
  ⟨h.nd, by simp [h.out_eq, h.val _ _ hm],
    List.append_cons .. ▸ h.perm.trans ((keys_perm_sDel h.keys_nd (mem_keys_iff.2 ⟨x, hm⟩)).append_left outS),
    fun j y hy => h.val j y (mem_sDel.1 hy).1⟩

theorem key_ge {w : Nat} (h : GInv f taken (List.range w) buf out) {i : Nat} (hi : i ∈ keys buf) : w ≤ i :=
  Nat.le_of_not_lt fun hlt => h.disjoint (List.mem_range.2 hlt) hi

theorem wf_fresh {w : Nat} (h : GInv f taken (List.range w) buf out) (hn : sGet buf w = none) : w ∉ taken :=
  fun hm => (h.mem_taken.1 hm).elim (fun hr => Nat.lt_irrefl w (List.mem_range.1 hr)) (sGet_none_iff.1 hn)

theorem in_order {w : Nat} (h : GInv f taken (List.range w) buf out) :
    out = (List.range w).map f ∧
    (∀ j, j < w → j ∈ taken) ∧
    (∀ i, (∃ x, (i, x) ∈ buf) ↔ (i ∈ taken ∧ w ≤ i)) ∧
    (∀ i x, (i, x) ∈ buf → x = f i) ∧
    buf.length = taken.length - w := by
  refine ⟨h.out_eq, fun j hj => h.mem_taken.2 (.inl (List.mem_range.2 hj)), fun i => ?_, h.val, ?_⟩
  · rw [← mem_keys_iff, h.mem_taken, List.mem_range]
    exact ⟨fun hi => ⟨.inr hi, h.key_ge hi⟩, fun ⟨h1, h2⟩ => h1.resolve_left (Nat.not_lt.2 h2)⟩
  · have := h.perm.length_eq
    rw [List.length_append, List.length_range, keys, List.length_map] at this
    omega

end GInv

/-- `pre`: what had been emitted before the loop's own output.  With fuel beyond the number of stored items (each round
deletes one) the loop stops only because `waiting_for` is not stored. -/
theorem drainLoop_inv {f : Nat → Nat} {fed : List Nat} (fuel : Nat) (b : Buf) (pre out : List Nat)
    (h : GInv f fed (List.range b.wf) b.storage (pre ++ out)) (hf : b.storage.length < fuel) :
    let r := Buf.drainLoop fuel b out
    GInv f fed (List.range r.1.wf) r.1.storage (pre ++ r.2) ∧ sGet r.1.storage r.1.wf = none := by
  fun_induction Buf.drainLoop fuel b out with
  | case1 => omega
  | case2 _ _ _ x hx ih =>
    have := sDel_length_lt hx
    exact ih (List.append_assoc .. ▸ List.range_succ ▸ h.move (sGet_some_mem hx)) (by simp only; omega)
  | case3 _ _ _ hx => exact ⟨h, hx⟩

theorem drain_inv {f : Nat → Nat} {fed : List Nat} {b : Buf} {out : List Nat}
    (h : GInv f fed (List.range b.wf) b.storage out) :
    GInv f fed (List.range b.drain.1.wf) b.drain.1.storage (out ++ b.drain.2) ∧
    sGet b.drain.1.storage b.drain.1.wf = none :=
  drainLoop_inv (b.storage.length + 1) b out [] (by rwa [List.append_nil]) (Nat.lt_succ_self _)

inductive Ev
  | feed (i : Nat)
  | drain

def serials : List Ev → List Nat
  | [] => []
  | .feed i :: r => i :: serials r
  | .drain :: r => serials r

/-- run a history from state `b` with the output emitted so far; item of serial `i` is `f i` -/
def runBuf (f : Nat → Nat) : Buf → List Nat → List Ev → Buf × List Nat
  | b, out, [] => (b, out)
  | b, out, .feed i :: r =>
    match b.put i (f i) with
    | .ok b' => runBuf f b' out r
    | .error _ => runBuf f b out r
  | b, out, .drain :: r =>
    let (b', o) := b.drain
    runBuf f b' (out ++ o) r

theorem runBuf_inv (f : Nat → Nat) (evs : List Ev) (fed : List Nat) (b : Buf) (out : List Nat)
    (h : GInv f fed (List.range b.wf) b.storage out) (hnd : (fed ++ serials evs).Nodup) :
    let r := runBuf f b out evs
    GInv f (fed ++ serials evs) (List.range r.1.wf) r.1.storage r.2 := by
  induction evs generalizing fed b out with
  | nil => simpa [serials, runBuf] using h
  | cons e r ih =>
    cases e with
    | feed i =>
      have hi : i ∉ fed := fun hi => (List.nodup_append.1 hnd).2.2 i hi i (by simp [serials]) rfl
      have hput : b.put i (f i) = .ok ⟨sSet b.storage i (f i), b.wf⟩ :=
        if_neg fun hlt => hi (h.mem_taken.2 (.inl (List.mem_range.2 hlt)))
      simp only [runBuf, hput, serials]
      simpa using ih (fed ++ [i]) _ out (h.store hi) (by simpa [serials] using hnd)
    | drain =>
      simp only [runBuf, serials]
      exact ih fed _ _ (drain_inv h).1 (by simpa [serials] using hnd)

theorem runBuf_empty_inv (f : Nat → Nat) (evs : List Ev) (hnd : (serials evs).Nodup) :
    let r := runBuf f Buf.empty [] evs
    GInv f (serials evs) (List.range r.1.wf) r.1.storage r.2 := by
  simpa using runBuf_inv f evs [] Buf.empty [] (GInv.empty f) (by simpa using hnd)

/-- Every serial fed at most once, drains at arbitrary points: at every moment the concatenated output is exactly the
items of serials `0 … waiting_for-1` in ascending order (so: each once, in order, nothing before all its predecessors,
`waiting_for` = number emitted), everything below `waiting_for` has been fed, the buffer holds exactly the fed serials
that are not yet emitted, and `len` is their number. -/
theorem buffer_emits_in_order (f : Nat → Nat) (evs : List Ev) (hnd : (serials evs).Nodup) :
    let r := runBuf f Buf.empty [] evs
    r.2 = (List.range r.1.wf).map f ∧
    (∀ j, j < r.1.wf → j ∈ serials evs) ∧
    (∀ i, (∃ x, (i, x) ∈ r.1.storage) ↔ (i ∈ serials evs ∧ r.1.wf ≤ i)) ∧
    (∀ i x, (i, x) ∈ r.1.storage → x = f i) ∧
    r.1.len = (serials evs).length - r.1.wf :=
  (runBuf_empty_inv f evs hnd).in_order

theorem runBuf_append (f : Nat → Nat) (b : Buf) (out : List Nat) (e1 e2 : List Ev) :
    runBuf f b out (e1 ++ e2) = runBuf f (runBuf f b out e1).1 (runBuf f b out e1).2 e2 := by
  induction e1 generalizing b out with
  | nil => rfl
  | cons e r ih =>
    cases e with
    | feed i =>
      simp only [List.cons_append, runBuf]
      split <;> exact ih _ _
    | drain => exact ih _ _

theorem runBuf_drain_inv (f : Nat → Nat) (evs : List Ev) (hnd : (serials evs).Nodup) :
    let r := runBuf f Buf.empty [] (evs ++ [.drain])
    GInv f (serials evs) (List.range r.1.wf) r.1.storage r.2 ∧ sGet r.1.storage r.1.wf = none := by
  rw [runBuf_append]
  exact drain_inv (runBuf_empty_inv f evs hnd)

/-- right after a drain `waiting_for` is the least serial that has not been fed -/
theorem buffer_wf_after_drain (f : Nat → Nat) (evs : List Ev) (hnd : (serials evs).Nodup) :
    (runBuf f Buf.empty [] (evs ++ [.drain])).1.wf ∉ serials evs :=
  (runBuf_drain_inv f evs hnd).1.wf_fresh (runBuf_drain_inv f evs hnd).2

/-- feeding a permutation of `0..n-1` and draining at the end emits everything exactly once, in order -/
theorem buffer_complete (f : Nat → Nat) (evs : List Ev) (n : Nat) (hperm : (serials evs).Perm (List.range n)) :
    let r := runBuf f Buf.empty [] (evs ++ [.drain])
    r.2 = (List.range n).map f ∧ r.1.wf = n ∧ r.1.len = 0 := by
  have hnd : (serials evs).Nodup := hperm.symm.nodup List.nodup_range
  obtain ⟨hinv, hnone⟩ := runBuf_drain_inv f evs hnd
  generalize runBuf f Buf.empty [] (evs ++ [.drain]) = r at hinv hnone ⊢
  obtain ⟨hout, hbelow, -, -, hlen⟩ := hinv.in_order
  -- `waiting_for` is not among the fed serials `0 … n-1`, everything below it is
  have hwn : r.1.wf = n := by
    have h1 : ¬ r.1.wf < n := fun hlt => hinv.wf_fresh hnone (hperm.mem_iff.2 (List.mem_range.2 hlt))
    have h2 : ¬ n < r.1.wf := fun hlt => Nat.lt_irrefl n (List.mem_range.1 (hperm.mem_iff.1 (hbelow n hlt)))
    omega
  rw [hwn, hperm.length_eq, List.length_range, Nat.sub_self] at hlen
  exact ⟨hwn ▸ hout, hwn, hlen⟩

def runP (f : Nat → Nat) : PBuf → List Nat → PBuf
  | b, [] => b
  | b, sn :: r => runP f (b.print sn (f sn)).1 r

/-- the `while` loop of `print` is the drain loop of `Buffer`, the output file in place of the yielded items -/
theorem chase_eq (fuel : Nat) (b : PBuf) :
    PBuf.chase fuel b =
      (let r := Buf.drainLoop fuel ⟨b.buffer, b.wf⟩ b.out
       ⟨r.1.storage, r.1.wf, r.2⟩) := by
  fun_induction PBuf.chase fuel b with
  | case1 => rfl
  | case2 _ _ _ hx ih => rw [ih, Buf.drainLoop]; simp only [hx]
  | case3 _ _ hx => rw [Buf.drainLoop]; simp only [hx]

/-- invariant of the print buffer: `print` drains at once, so the awaited serial has not been given -/
def PInv (f : Nat → Nat) (fed : List Nat) (b : PBuf) : Prop :=
  GInv f fed (List.range b.wf) b.buffer b.out ∧ b.wf ∉ fed

theorem PInv.print {f : Nat → Nat} {fed : List Nat} {b : PBuf} (h : PInv f fed b) {sn : Nat} (hsn : sn ∉ fed) :
    PInv f (fed ++ [sn]) (b.print sn (f sn)).1 := by
  unfold PBuf.print
  split
  · rename_i heq
    subst heq
    have h2 := drainLoop_inv (b.buffer.length + 1) ⟨b.buffer, b.wf + 1⟩ [] _ (List.range_succ ▸ h.1.own hsn)
      (Nat.lt_succ_self _)
    rw [chase_eq]
    exact ⟨h2.1, h2.1.wf_fresh h2.2⟩
  · rename_i hne
    exact ⟨h.1.store hsn, fun hm => (List.mem_append.1 hm).elim h.2 fun e => hne (List.mem_singleton.1 e).symm⟩

theorem runP_inv (f : Nat → Nat) (sns : List Nat) (fed : List Nat) (b : PBuf)
    (h : PInv f fed b) (hnd : (fed ++ sns).Nodup) : PInv f (fed ++ sns) (runP f b sns) := by
  induction sns generalizing fed b with
  | nil => simpa [runP] using h
  | cons sn r ih =>
    have hi : sn ∉ fed := fun hi => (List.nodup_append.1 hnd).2.2 sn hi sn (by simp) rfl
    simpa [runP] using ih (fed ++ [sn]) _ (h.print hi) (by simpa using hnd)

/-- Every serial printed at most once (any order): the printed output is always exactly the items of serials
`0 … waiting_for-1` in order, `waiting_for` is the least serial not yet given, and the buffer holds exactly the given
serials above it. -/
theorem printbuffer_in_order (f : Nat → Nat) (sns : List Nat) (hnd : sns.Nodup) :
    let b := runP f PBuf.empty sns
    b.out = (List.range b.wf).map f ∧
    b.wf ∉ sns ∧ (∀ j, j < b.wf → j ∈ sns) ∧
    (∀ i, (∃ x, (i, x) ∈ b.buffer) ↔ (i ∈ sns ∧ b.wf < i)) ∧
    (∀ i x, (i, x) ∈ b.buffer → x = f i) ∧
    b.len = sns.length - b.wf := by
  have h := runP_inv f sns [] PBuf.empty ⟨GInv.empty f, List.not_mem_nil⟩ (by simpa using hnd)
  rw [List.nil_append] at h
  obtain ⟨hout, hbelow, hst, hval, hlen⟩ := h.1.in_order
  refine ⟨hout, h.2, hbelow, fun i => ?_, hval, hlen⟩
  rw [hst]
  exact ⟨fun ⟨h1, h2⟩ => ⟨h1, Nat.lt_of_le_of_ne h2 fun e => h.2 (e ▸ h1)⟩, fun ⟨h1, h2⟩ => ⟨h1, Nat.le_of_lt h2⟩⟩

/-- `flush()` prints everything stored in ascending serial order, empties the buffer and moves `waiting_for` behind the
biggest stored serial; on an empty buffer it does nothing -/
theorem printbuffer_flush (b : PBuf) (hk : (b.buffer.map (·.1)).Nodup) :
    (b.buffer = [] → b.flush = b) ∧
    (b.buffer ≠ [] →
      ∃ sorted : List (Nat × Nat), sorted.Perm b.buffer ∧ (sorted.map (·.1)).Pairwise (· < ·) ∧
        b.flush.out = b.out ++ sorted.map (·.2) ∧ b.flush.buffer = [] ∧
        (∀ p ∈ b.buffer, p.1 < b.flush.wf) ∧ (∃ p ∈ b.buffer, b.flush.wf = p.1 + 1)) := by
  refine ⟨fun h => by simp [PBuf.flush, h], fun hne => ?_⟩
  obtain ⟨hperm, hlt⟩ := sorted_spec b.buffer hk
  have hfl := b.flush_eq
  generalize sortedEntries b.buffer = sorted at *
  rcases hgl : sorted.getLast? with _ | last
  · exact absurd (hperm.symm.trans (.of_eq (List.getLast?_eq_none_iff.1 hgl))).eq_nil hne
  · rw [hgl] at hfl
    refine ⟨sorted, hperm, hlt, by rw [hfl], by rw [hfl], fun p hp => ?_,
      last, hperm.mem_iff.1 (List.mem_of_getLast? hgl), by rw [hfl]⟩
    -- every entry is the last one of `sorted` or stands before it
    obtain ⟨ys, rfl⟩ := List.getLast?_eq_some_iff.1 hgl
    rw [keys, List.map_append, List.pairwise_append] at hlt
    rw [hfl]
    rcases List.mem_append.1 (hperm.mem_iff.2 hp) with h | h
    · exact Nat.lt_succ_of_lt (hlt.2.2 p.1 (List.mem_map_of_mem h) last.1 (by simp))
    · rw [List.mem_singleton.1 h]; exact Nat.lt_succ_self _

/-- a history of `put x` (`some x`) and `clear` (`none`); returns the ring and the items put since the last clear -/
def runRing : Ring → List Nat → List (Option Nat) → Ring × List Nat
  | r, hist, [] => (r, hist)
  | r, hist, some x :: evs => runRing (r.put x) (hist ++ [x]) evs
  | r, _, none :: evs => runRing r.clear [] evs

theorem mod_ne_of_lt {c k n : Nat} (hkn : k < n) (hnc : n < k + c) : k % c ≠ n % c := by
  intro h
  have := Nat.eq_zero_of_dvd_of_lt (Nat.dvd_of_mod_eq_zero (Nat.sub_mod_eq_zero_of_mod_eq h.symm)) (by omega)
  omega

/-- the ring after the items `hist` have been put since the last clear: item number `k` sits in cell `k % c`, as long as
it has not been overwritten -/
structure RInv (c : Nat) (r : Ring) (hist : List Nat) : Prop where
  len : r.buffer.length = c
  size : r.size = min hist.length c
  off : r.offset = hist.length % c
  get : ∀ k, k < hist.length → hist.length ≤ k + c → r.buffer[k % c]? = hist[k]?

theorem RInv.new (c : Nat) : RInv c (Ring.new c) [] :=
  ⟨List.length_replicate, (Nat.zero_min c).symm, (Nat.zero_mod c).symm, fun _ hk => nomatch hk⟩

theorem RInv.clear {c : Nat} {r : Ring} {hist : List Nat} (h : RInv c r hist) : RInv c r.clear [] :=
  ⟨h.len, (Nat.zero_min c).symm, (Nat.zero_mod c).symm, fun _ hk => nomatch hk⟩

theorem RInv.put {c : Nat} (hc : 0 < c) {r : Ring} {hist : List Nat} (h : RInv c r hist) (x : Nat) :
    RInv c (r.put x) (hist ++ [x]) := by
  refine ⟨by simp [Ring.put, h.len], ?_, ?_, fun k hk hkc => ?_⟩
  · simp only [Ring.put, Ring.maxSize, h.len, h.size, List.length_append, List.length_singleton]
    rcases Nat.lt_or_ge hist.length c with hl | hl
    · rw [Nat.min_eq_left (Nat.le_of_lt hl), if_pos hl, Nat.min_eq_left hl]
    · rw [Nat.min_eq_right hl, if_neg (Nat.lt_irrefl c), Nat.min_eq_right (Nat.le_succ_of_le hl)]
  · simp [Ring.put, Ring.maxSize, h.len, h.off]
  · rw [List.length_append, List.length_singleton] at hk hkc
    simp only [Ring.put, h.off]
    by_cases hkl : k = hist.length
    · subst hkl
      rw [List.getElem?_set_self (by rw [h.len]; exact Nat.mod_lt _ hc)]
      simp
    · have hk' : k < hist.length := by omega
      rw [List.getElem?_set_ne (mod_ne_of_lt hk' (by omega)).symm, h.get k hk' (by omega),
        List.getElem?_append_left hk']

def Ring.val (r : Ring) (n : Nat) : Nat := match r.get (n : Int) with | .ok x => x | .error _ => 0

/-- the cell of the storage that `self[n]` reads: `(offset - size + n) % max_size` with Python's non-negative `%` -/
def Ring.cell (r : Ring) (n : Nat) : Nat := (((r.offset : Int) - (r.size : Int) + (n : Int)) % (r.maxSize : Int)).toNat

theorem Ring.get_of_lt (r : Ring) {n : Nat} (hn : n < r.size) :
    r.get (n : Int) = match r.buffer[r.cell n]? with | some x => .ok x | none => .error .indexError := by
  unfold Ring.get
  rw [if_neg (by omega)]
  rfl

theorem Ring.get_ok (r : Ring) (h : 0 < r.maxSize) (n : Nat) (hn : n < r.size) : r.get (n : Int) = .ok (r.val n) := by
  have hidx : r.cell n < r.buffer.length := (Int.toNat_lt' h).2 (Int.emod_lt_of_pos _ (Int.natCast_pos.2 h))
  rw [Ring.val, r.get_of_lt hn, List.getElem?_eq_getElem hidx]

theorem Ring.get_err (r : Ring) (i : Int) (hi : ¬ (0 ≤ i ∧ i < r.size)) : r.get i = .error .indexError := by
  unfold Ring.get
  rw [if_pos (by omega)]

theorem Ring.toList_eq_map (r : Ring) (h : 0 < r.maxSize) : r.toList = (List.range r.size).map r.val :=
  filterMap_eq_map_of_mem _ _ _ fun i hi => by rw [Ring.get_ok r h i (List.mem_range.1 hi)]

theorem Ring.toList_length (r : Ring) (h : 0 < r.maxSize) : r.toList.length = r.size := by
  rw [Ring.toList_eq_map r h, List.length_map, List.length_range]

theorem Ring.toList_getElem? (r : Ring) (h : 0 < r.maxSize) (n : Nat) :
    r.toList[n]? = if n < r.size then some (r.val n) else none := by
  rw [Ring.toList_eq_map r h]
  by_cases hn : n < r.size
  · rw [if_pos hn, List.getElem?_map, List.getElem?_range hn]; rfl
  · rw [if_neg hn, List.getElem?_eq_none]
    simp only [List.length_map, List.length_range]; omega

theorem RInv.pos {c : Nat} (hc : 0 < c) {r : Ring} {hist : List Nat} (h : RInv c r hist) : 0 < r.maxSize :=
  Nat.lt_of_lt_of_eq hc h.len.symm

theorem RInv.val_eq {c : Nat} (hc : 0 < c) {r : Ring} {hist : List Nat} (h : RInv c r hist) (n : Nat)
    (hn : n < r.size) : hist[hist.length - c + n]? = some (r.val n) := by
  -- `d` items have been dropped; item `n` is number `d + n` of all that were put
  have h1 : hist.length - c + r.size = hist.length := h.size ▸ Nat.sub_add_min_cancel _ _
  have h2 : r.size ≤ c := h.size ▸ Nat.min_le_right _ _
  generalize hist.length - c = d at h1 ⊢
  have hk : d + n < hist.length ∧ hist.length ≤ d + n + c := by omega
  have hidx : r.cell n = (d + n) % c := by
    have e : ((r.offset : Int) - (r.size : Int) + (n : Int))
        = ((d + n : Nat) : Int) - (c : Int) * ((hist.length / c : Nat) : Int) := by
      have := Nat.mod_add_div hist.length c
      have := h.off
      omega
    rw [Ring.cell, e, Ring.maxSize, h.len, Int.sub_mul_emod_self_left, ← Int.natCast_emod, Int.toNat_natCast]
  have hg := Ring.get_ok r (h.pos hc) n hn
  rw [r.get_of_lt hn, hidx, h.get _ hk.1 hk.2, List.getElem?_eq_getElem hk.1] at hg
  rw [List.getElem?_eq_getElem hk.1, Except.ok.inj hg]

theorem RInv.toList_eq {c : Nat} (hc : 0 < c) {r : Ring} {hist : List Nat} (h : RInv c r hist) :
    r.toList = hist.drop (hist.length - c) := by
  apply List.ext_getElem?
  intro i
  rw [Ring.toList_getElem? r (h.pos hc) i, List.getElem?_drop]
  split
  · exact (h.val_eq hc i ‹_›).symm
  · have := h.size ▸ Nat.sub_add_min_cancel hist.length c
    rw [List.getElem?_eq_none (by omega)]

theorem runRing_inv {c : Nat} (hc : 0 < c) (evs : List (Option Nat)) (r : Ring) (hist : List Nat)
    (h : RInv c r hist) : RInv c (runRing r hist evs).1 (runRing r hist evs).2 := by
  induction evs generalizing r hist with
  | nil => exact h
  | cons e evs ih =>
    cases e with
    | none => exact ih _ _ h.clear
    | some x => exact ih _ _ (h.put hc x)

/-- after any sequence of put/clear the ring presents exactly the last `min(k, c)` items put since the last clear,
oldest first -/
theorem ring_spec (c : Nat) (hc : 0 < c) (evs : List (Option Nat)) :
    let r := runRing (Ring.new c) [] evs
    r.1.toList = r.2.drop (r.2.length - c) ∧ r.1.size = min r.2.length c ∧ r.1.maxSize = c :=
  have h := runRing_inv hc evs (Ring.new c) [] (RInv.new c)
  ⟨h.toList_eq hc, h.size, h.len⟩

theorem ring_maxSize_pos (c : Nat) (hc : 0 < c) (evs : List (Option Nat)) :
    0 < (runRing (Ring.new c) [] evs).1.maxSize :=
  (runRing_inv hc evs _ [] (RInv.new c)).pos hc

/-- indexing agrees with the presented list and rejects every index outside `0 .. len-1` -/
theorem Ring.get_spec (r : Ring) (h : 0 < r.maxSize) (i : Int) :
    (0 ≤ i ∧ i < r.size → ∃ x, r.get i = .ok x ∧ r.toList[i.toNat]? = some x) ∧
    (¬ (0 ≤ i ∧ i < r.size) → r.get i = .error .indexError) := by
  refine ⟨fun ⟨h0, h1⟩ => ?_, r.get_err i⟩
  obtain ⟨n, rfl⟩ := Int.eq_ofNat_of_zero_le h0
  have hn : n < r.size := Int.ofNat_lt.1 h1
  exact ⟨r.val n, r.get_ok h n hn, by rw [Int.toNat_natCast, r.toList_getElem? h, if_pos hn]⟩

theorem ring_get_spec (c : Nat) (hc : 0 < c) (evs : List (Option Nat)) (i : Int) :
    let r := (runRing (Ring.new c) [] evs).1
    (0 ≤ i ∧ i < r.size → ∃ x, r.get i = .ok x ∧ r.toList[i.toNat]? = some x) ∧
    (¬ (0 ≤ i ∧ i < r.size) → r.get i = .error .indexError) :=
  Ring.get_spec _ (ring_maxSize_pos c hc evs) i

end WindVerif.Buffers
