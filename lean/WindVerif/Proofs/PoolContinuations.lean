import WindVerif.Spec.Pool
/-!
Mid-call `until_all_ready()` (`Cfg.readyMid`, program counters `CPc.midReady`): the shape of the thread-local continuations
`afterBatch`, `enterMid`, `afterResults` — each of them only sets the consumer's pc (after `consumeBatch`).  Shared by the
safety, lifecycle and liveness developments.
-/
namespace WindVerif.Pool

def AfterPc (c : CPc) : Prop := c = .flowClear ∨ c = .flowIsSet ∨ c = .rdSending ∨ ∃ wid, c = .midReady 0 wid

theorem afterBatch_eq (s : St) :
    ∃ c', afterBatch s = { s with cpc := c' } ∧ (c' = .flowClear ∨ c' = .flowIsSet ∨ c' = .rdSending) := by
  unfold afterBatch
  split
  · split
    · split
      · exact ⟨_, rfl, Or.inl rfl⟩
      · exact ⟨_, rfl, Or.inr (Or.inl rfl)⟩
    · exact ⟨_, rfl, Or.inr (Or.inr rfl)⟩
  · exact ⟨_, rfl, Or.inr (Or.inr rfl)⟩

theorem afterBatch_cases (s : St) :
    (∃ call, s.cur = some call ∧ call.ordered = true ∧ bufferFull s = true ∧ afterBatch s = { s with cpc := .flowClear }) ∨
    (∃ call, s.cur = some call ∧ call.ordered = true ∧ bufferFull s = false ∧ afterBatch s = { s with cpc := .flowIsSet }) ∨
    ((∀ call, s.cur = some call → call.ordered = false) ∧ afterBatch s = { s with cpc := .rdSending }) := by
  unfold afterBatch
  split
  · rename_i call hc
    split
    · rename_i ho
      split
      · rename_i hb; exact Or.inl ⟨call, hc, ho, hb, rfl⟩
      · rename_i hb; exact Or.inr (Or.inl ⟨call, hc, ho, by simpa using hb, rfl⟩)
    · rename_i ho
      refine Or.inr (Or.inr ⟨?_, rfl⟩)
      intro c hcc; rw [hc] at hcc; cases hcc; simpa using ho
  · rename_i hc
    refine Or.inr (Or.inr ⟨?_, rfl⟩)
    intro c hcc; rw [hc] at hcc; cases hcc

theorem enterMid_eq (s : St) :
    ∃ c', enterMid s = { s with cpc := c' } ∧
      (c' = .flowClear ∨ c' = .flowIsSet ∨ c' = .rdSending ∨ ∃ wid, c' = .midReady 0 wid ∧ s.procs[0]? = some wid) := by
  unfold enterMid
  split
  · rename_i wid hw
    exact ⟨_, rfl, Or.inr (Or.inr (Or.inr ⟨wid, rfl, hw⟩))⟩
  · obtain ⟨c', h1, h2⟩ := afterBatch_eq s
    refine ⟨c', h1, ?_⟩
    rcases h2 with h | h | h
    · exact Or.inl h
    · exact Or.inr (Or.inl h)
    · exact Or.inr (Or.inr (Or.inl h))

theorem afterResults_eq (s : St) :
    ∃ c', afterResults s = { consumeBatch s with cpc := c' } ∧
      ((c' = .flowClear ∨ c' = .flowIsSet ∨ c' = .rdSending) ∧ afterResults s = afterBatch (consumeBatch s) ∨
       ∃ wid, c' = .midReady 0 wid ∧ (consumeBatch s).procs[0]? = some wid ∧ s.cfg.readyMid = true ∧ s.finished = 0 ∧
         0 < (consumeBatch s).finished) := by
  unfold afterResults
  dsimp only
  split
  · rename_i hcond
    unfold enterMid
    split
    · rename_i wid hw
      exact ⟨_, rfl, Or.inr ⟨wid, rfl, hw, hcond.1, hcond.2.1, hcond.2.2⟩⟩
    · obtain ⟨c', h1, h2⟩ := afterBatch_eq (consumeBatch s)
      exact ⟨c', h1, Or.inl ⟨h2, rfl⟩⟩
  · obtain ⟨c', h1, h2⟩ := afterBatch_eq (consumeBatch s)
    exact ⟨c', h1, Or.inl ⟨h2, rfl⟩⟩

theorem afterResults_pc (s : St) : ∃ c', afterResults s = { consumeBatch s with cpc := c' } ∧ AfterPc c' := by
  obtain ⟨c', h1, h2⟩ := afterResults_eq s
  refine ⟨c', h1, ?_⟩
  rcases h2 with ⟨h | h | h, _⟩ | ⟨wid, h, _⟩
  · exact Or.inl h
  · exact Or.inr (Or.inl h)
  · exact Or.inr (Or.inr (Or.inl h))
  · exact Or.inr (Or.inr (Or.inr ⟨wid, h⟩))

theorem afterResults_noMid (s : St) (h : s.cfg.readyMid = false) : afterResults s = afterBatch (consumeBatch s) := by
  unfold afterResults
  simp [h]

theorem toNextCall_setCpc (s : St) (pc : CPc) : toNextCall { s with cpc := pc } = toNextCall s := by
  unfold toNextCall
  cases s.callsLeft <;> rfl

end WindVerif.Pool
