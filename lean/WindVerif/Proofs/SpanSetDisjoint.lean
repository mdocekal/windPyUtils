import WindVerif.Proofs.SpanSet
/-!
`SpanSet.isdisjoint(other)` (`all(x not in self for x in s)`) asks `self`'s relation with the elements of `other` as
probes.  For the two symmetric relations (Exact, Overlaps) the operands may be swapped; for the two asymmetric ones
(PartOf, Includes) they may not.
-/
namespace WindVerif.SpanSet

def Rel.symm (r : Rel) : Prop := ∀ x y : Span, r.holds x y = r.holds y x

theorem exact_symm : Rel.symm .exact := by
  intro x y
  simp only [Rel.holds]
  rw [Bool.eq_iff_iff]
  simp only [Bool.and_eq_true, beq_iff_eq]
  constructor <;> (intro h; exact ⟨h.1.symm, h.2.symm⟩)

theorem overlaps_symm : Rel.symm .overlaps := by
  intro x y
  simp only [Rel.holds]
  rw [Bool.eq_iff_iff]
  simp only [Bool.and_eq_true, decide_eq_true_eq]
  constructor <;> (intro h; exact ⟨h.2, h.1⟩)

theorem isdisjoint_eq_true (A : SpanSet) (s : List Span) :
    isdisjoint A s = true ↔ ∀ x ∈ s, ∀ y ∈ A.spans, A.rel.holds x y = false := by
  rw [isdisjoint_iff]
  constructor
  · intro h x hx y hy
    cases hxy : A.rel.holds x y with
    | false => rfl
    | true =>
      have : mem A x = true := (mem_iff A x).2 ⟨y, hy, hxy⟩
      rw [h x hx] at this; exact absurd this (by decide)
  · intro h x hx
    cases hm : mem A x with
    | false => rfl
    | true =>
      obtain ⟨y, hy, hxy⟩ := (mem_iff A x).1 hm
      rw [h x hx y hy] at hxy; exact absurd hxy (by decide)

/-- swapping the operands of `isdisjoint` is harmless when both use the same symmetric relation -/
theorem isdisjoint_swap_of_symm (A B : SpanSet) (hrel : A.rel = B.rel) (hs : Rel.symm A.rel) :
    isdisjoint A B.spans = isdisjoint B A.spans := by
  rw [Bool.eq_iff_iff, isdisjoint_eq_true, isdisjoint_eq_true, ← hrel]
  constructor
  · intro h x hx y hy; rw [hs x y]; exact h y hy x hx
  · intro h x hx y hy; rw [hs x y]; exact h y hy x hx

/-- the witness sets of the two counterexamples (`Props/C10.lean`) are sets whose spans are all kept by the constructor -/
theorem swap_witness_spans :
    (mk .partOf [(0, 10)]).spans = [(0, 10)] ∧ (mk .partOf [(2, 3), (20, 30)]).spans = [(2, 3), (20, 30)] ∧
    (mk .includes [(0, 10)]).spans = [(0, 10)] ∧ (mk .includes [(2, 3), (20, 30)]).spans = [(2, 3), (20, 30)] := by decide +kernel

end WindVerif.SpanSet
