import WindVerif.Proofs.LineFile
/-!
`save(out, line_ending)` for every line ending, the empty one included: `print(line.rstrip("\n"), file=f, end=line_ending)`
writes the ending as it is given — an empty ending writes nothing between the lines.  Corollaries of `save_spec`.
-/
namespace WindVerif.LineFile

/-- with the empty ending the saved text is the concatenation of the (stripped) lines -/
theorem save_empty_ending (f : LF) (ls : List Str) (h : Good f ls) (hc : f.closed = false) :
    ∃ f', f.save [] = .ok (f', (ls.map rstripNL).flatten) ∧ SameButCursor f f' := by
  simpa only [List.append_nil] using save_spec f ls h hc []

/-- a measure of texts that is additive over `++` (characters, bytes) takes the saved text to the sum over the lines
plus once the ending per line -/
theorem measure_flatten_ending (μ : Str → Nat) (h0 : μ [] = 0) (hadd : ∀ a b, μ (a ++ b) = μ a + μ b) (ls : List Str)
    (le : Str) :
    μ ((ls.map (fun l => rstripNL l ++ le)).flatten) = (ls.map (fun l => μ (rstripNL l))).sum + ls.length * μ le := by
  induction ls with
  | nil => simp [h0]
  | cons l r ih =>
    simp only [List.map_cons, List.flatten_cons, hadd, ih, List.sum_cons, List.length_cons, Nat.add_mul, Nat.one_mul]
    omega

/-- the saved text has the sum of the line lengths plus `n` times the length of the ending — in characters and in
bytes (utf-8) -/
theorem save_ending_length (f : LF) (ls : List Str) (h : Good f ls) (hc : f.closed = false) (le : Str) :
    ∃ f' out, f.save le = .ok (f', out) ∧
      out.length = (ls.map (fun l => (rstripNL l).length)).sum + ls.length * le.length ∧
      byteLen out = (ls.map (fun l => byteLen (rstripNL l))).sum + ls.length * byteLen le := by
  obtain ⟨f', e1, _⟩ := save_spec f ls h hc le
  exact ⟨f', _, e1, measure_flatten_ending List.length rfl (fun _ _ => List.length_append) ls le,
    measure_flatten_ending byteLen rfl byteLen_append ls le⟩

/-- the seeded variant: `line_ending = line_ending or "\n"` before the loop -/
def LF.saveOrDefault (f : LF) (lineEnding : Str) : Except Err (LF × Str) :=
  f.save (if lineEnding = [] then ['\n'] else lineEnding)

/-- the variant differs from `save` on the empty ending: lines `a`, `b` are saved as `ab`, the variant writes `a\nb\n` -/
theorem save_or_default_wrong :
    let f := (LF.new "a\nb\n".toList (some [0, 2])).open
    (f.save []).toOption.map (·.2) = some "ab".toList ∧
    (f.saveOrDefault []).toOption.map (·.2) = some "a\nb\n".toList ∧
    (f.save []).toOption.map (·.2) ≠ (f.saveOrDefault []).toOption.map (·.2) := by
  decide +kernel

theorem save_or_default_witness_good :
    Good (LF.new "a\nb\n".toList (some [0, 2])).open ["a".toList, "b".toList] ∧
    (LF.new "a\nb\n".toList (some [0, 2])).open.closed = false :=
  ⟨(open_good _ _ (new_custom_good _ _ _ (by decide +kernel))).1, rfl⟩

end WindVerif.LineFile
