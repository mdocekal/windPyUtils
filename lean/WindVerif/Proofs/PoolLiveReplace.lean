import WindVerif.Proofs.PoolLiveWorkers
/-! Liveness of the pool model (C02): congruence lemmas for the parts of the invariant; the steps of the replace thread. -/
namespace WindVerif.Pool

variable {s s' : St}

theorem LockI_congr (h : LockI s) (h1 : s'.lock = s.lock) (h2 : cIn s'.cpc = cIn s.cpc) (h3 : s'.workers = s.workers) :
    LockI s' := by
  obtain ⟨l1, l2, l3, l4⟩ := h
  constructor
  · rw [h1, h2, h3]; exact l1
  · rw [h1, h2]; exact l2
  · rw [h1, h3]; exact l3
  · rw [h3]; exact l4

theorem ProcI_congr (h : ProcI s) (h1 : s'.procs = s.procs) (h2 : s'.workers = s.workers) (h3 : s'.cfg = s.cfg)
    (h4 : ∀ nw, s'.rpc = .start nw → s.rpc = .start nw) (h5 : idxV s'.cpc s.procs.length) : ProcI s' := by
  obtain ⟨p1, p2, p3, p4, p5, p6⟩ := h
  constructor
  · rw [h1, h2]; exact p1
  · rw [h1, h3]; exact p2
  · rw [h1]; exact h5
  · rw [h1]; intro nw hnw; exact p4 nw (h4 nw hnw)
  · rw [h2]; exact p5
  · rw [h2, h3]; exact p6

theorem idxV_of_true {c : CPc} {n : Nat}
    (h : match c with | .enterStart _ | .readyWait _ | .exitPut _ | .exitJoin _ => False | _ => True) : idxV c n := by
  unfold idxV; cases c <;> simp at h ⊢

theorem ReplI_congr (h : ReplI s) (h1 : s'.cfg = s.cfg) (h2 : s'.rAlive = s.rAlive) (h3 : s'.rpc = s.rpc)
    (h4 : s'.replQ = s.replQ) (h5 : s'.workers = s.workers) (h6 : s'.procs = s.procs)
    (h7 : exitPhasePc s'.cpc = false → none ∈ s'.workQ → none ∈ s.workQ)
    (c1 : rCall s'.cpc = true → s.cfg.factory = true → rCall s.cpc = true ∨ s.rAlive = true)
    (c2 : rStopping s'.cpc = rStopping s.cpc)
    (c3 : exitPhasePc s'.cpc = exitPhasePc s.cpc)
    (c4 : (s'.cpc = .rPutNone ∨ s'.cpc = .rStopSet ∨ s'.cpc = .rJoin) →
      (s.cpc = .rPutNone ∨ s.cpc = .rStopSet ∨ s.cpc = .rJoin) ∨ s.cfg.factory = true) :
    ReplI s' := by
  obtain ⟨r1, r2, r3, r4, r5, r6⟩ := h
  constructor
  · rw [h1, h2]; intro a b
    rcases c1 b a with hh | hh
    · exact r1 a hh
    · exact hh
  · rw [h2, h3]; exact r2
  · rw [h4, c2, h2]; exact r3
  · rw [h5, h6, c3, h1, pending_congr h3 (by rw [h4])]; exact r4
  · intro a b; rw [c3] at a; exact r5 a (h7 (by rw [c3]; exact a) b)
  · rw [h1]; intro a
    rcases c4 a with hh | hh
    · exact r6 hh
    · exact hh

theorem ConsI_congr' (h : ConsI s) (h1 : s'.cpc = s.cpc) (h2 : s'.cur = s.cur) (h3 : s'.woken = s.woken)
    (h4 : s'.batch = s.batch) (h6 : s'.finished = s.finished) (h7 : s'.fTotal = s.fTotal)
    (h8 : getPathPc s.cpc = true → s.batch = [] → s.woken = false → s'.fpc = .idle → s.finished = s.fTotal → none ∈ s'.resQ)
    (h9 : s'.buffer = s.buffer) (h10 : s'.wf = s.wf) (h11 : s'.fRun = s.fRun)
    (h12 : s'.cfg = s.cfg) : ConsI s' := by
  obtain ⟨c1, c2, c3, c4, c5, c6, c7⟩ := h
  constructor
  · rw [h1, h2]; exact c1
  · rw [h1, h2]; exact c2
  · rw [h1, h3]; exact c3
  · rw [h1, h4, h3, h6, h7]; exact h8
  · rw [h10, h9]; exact c5
  · rw [h1, h11, bufferFull_congr h12 h9]; exact c6
  · rw [h1, h11]; exact c7

theorem ConsI_congr (h : ConsI s) (h1 : s'.cpc = s.cpc) (h2 : s'.cur = s.cur) (h3 : s'.woken = s.woken)
    (h4 : s'.batch = s.batch) (h5 : s'.fpc = s.fpc) (h6 : s'.finished = s.finished) (h7 : s'.fTotal = s.fTotal)
    (h8 : none ∈ s.resQ → none ∈ s'.resQ) (h9 : s'.buffer = s.buffer) (h10 : s'.wf = s.wf) (h11 : s'.fRun = s.fRun)
    (h12 : s'.cfg = s.cfg) : ConsI s' :=
  ConsI_congr' h h1 h2 h3 h4 h6 h7 (by rw [h5]; intro a b c d e; exact h8 (h.token a b c d e)) h9 h10 h11 h12

theorem liveCnt_congr (h : s'.workers = s.workers) : liveCnt s' = liveCnt s := by unfold liveCnt; rw [h]

theorem CntI_congr' (h : CntI s) (h1 : liveCnt s' = liveCnt s) (hp : (pending s').length = (pending s).length)
    (h4 : s'.procs.length = s.procs.length) (h5 : s'.cfg = s.cfg) (h6 : noneCount s'.workQ = noneCount s.workQ)
    (h7 : exitPhasePc s'.cpc = exitPhasePc s.cpc) (h8 : stopsSent s' = stopsSent s) : CntI s' := by
  obtain ⟨k1, k2, k3, k4⟩ := h
  constructor
  · rw [h1, hp, h4]; exact k1
  · rw [h7, h1, h8, h6, h4]; exact k2
  · rw [h7, h8, h6]; exact k3
  · rw [h5, h1, h8, h6, h4]; exact k4

theorem rCall_of_rStopping {c : CPc} (h : rStopping c = true) : rCall c = false := by
  cases c <;> first | rfl | cases h

theorem exitPhasePc_of_inCall {c : CPc} (h : inCall c = true) : exitPhasePc c = false := by
  cases c <;> first | rfl | cases h

theorem CntI_join {t : St} {wid : Nat} (hL : LInv s) (ct : CntI s) (hr : s.rpc = .join wid)
    (h1 : t.workers = s.workers ++ [mkWorker s.cfg s.widCounter]) (h2 : t.rpc = .start s.widCounter)
    (h3 : t.replQ = s.replQ) (h4 : t.procs = s.procs.map (fun x => if x = wid then s.widCounter else x))
    (h5 : t.cpc = s.cpc) (h6 : t.cfg = s.cfg) : CntI t := by
  have hal : s.rAlive = true := by
    cases hh : s.rAlive
    · have := hL.rIdle hh; rw [hr] at this; cases this
    · rfl
  obtain ⟨hin, hfac⟩ := hL.rAliveIn hal
  have hnx := exitPhasePc_of_inCall hin
  have hpend : pending s = wid :: s.replQ.filterMap id := by unfold pending; simp [hr]
  obtain ⟨k1, k2, k3, k4⟩ := ct
  have hl : liveCnt t = liveCnt s + 1 := by
    unfold liveCnt; rw [h1]; simp [List.countP_append, mkWorker, gone]
  have hpl : (pending t).length + 1 = (pending s).length := by
    rw [hpend]; unfold pending; rw [h2, h3]; simp
  have hlen : t.procs.length = s.procs.length := by rw [h4, List.length_map]
  constructor
  · rw [hl, hlen]; omega
  · rw [h5, hnx]; intro hc; cases hc
  · rw [h5, hnx]; intro hc; cases hc
  · rw [h6, hfac]; intro hc; cases hc

/-- the replace thread's own fields change (queue, pc, liveness) while the retired workers still to be replaced stay the
same: only the three clauses about the thread itself are due anew -/
theorem LiveInv_replUpd (hV : LiveInv s) {q : List (Option Nat)} {rp : RPc} {ra : Bool}
    (hp : pending { s with replQ := q, rpc := rp, rAlive := ra } = pending s)
    (hst : ∀ nw, rp = .start nw → s.rpc = .start nw)
    (r1 : s.cfg.factory = true → rCall s.cpc = true → ra = true) (r2 : ra = true → rp ≠ .idle)
    (r3 : noneCount q = if rStopping s.cpc = true ∧ ra = true then 1 else 0) :
    LiveInv { s with replQ := q, rpc := rp, rAlive := ra } :=
  ⟨LockI_congr hV.lk rfl rfl rfl, ProcI_congr hV.pr rfl rfl rfl hst hV.pr.idx,
    ⟨r1, r2, r3, fun x hx hg hin => (hV.rp.exitedL x hx hg hin).imp_right fun a => ⟨a.1, by rw [hp]; exact a.2⟩,
      hV.rp.noStop, hV.rp.rFac⟩,
    ConsI_congr hV.cs rfl rfl rfl rfl rfl rfl rfl id rfl rfl rfl rfl,
    CntI_congr' hV.ct rfl (by rw [hp]) rfl rfl rfl rfl rfl⟩

theorem forall_mem_snoc {α : Type} {p : α → Prop} {l : List α} {a : α} (h : ∀ x ∈ l, p x) (ha : p a) :
    ∀ x ∈ l ++ [a], p x := by
  intro x hx
  rcases List.mem_append.1 hx with hx | hx
  · exact h x hx
  · rw [List.mem_singleton.1 hx]; exact ha

theorem LiveInv_stepR (hL : LInv s) (hV : LiveInv s) (h : stepR s = some s') : LiveInv s' := by
  obtain ⟨hal', ⟨r, hr, hq, rfl⟩ | ⟨wid, r, hr, hq, rfl⟩ | ⟨wid, hr, _, rfl⟩ | ⟨nw, w, hr, hg, rfl⟩⟩ := stepR_cases h
  · -- the stop token: the consumer is stopping the thread, and no second token is queued
    have htok := hV.rp.tokR
    rw [hq, noneCount_cons_none, hal'] at htok
    have hstop : rStopping s.cpc = true := by
      cases hc : rStopping s.cpc
      · rw [hc] at htok; cases htok
      · rfl
    exact LiveInv_replUpd hV (by unfold pending; simp [hr, hq]) nofun
      (fun _ hc => by rw [rCall_of_rStopping hstop] at hc; cases hc) nofun
      (by rw [hstop] at htok; simpa using htok)
  · exact LiveInv_replUpd hV (by unfold pending; simp [hr, hq]) nofun (fun _ _ => hal') nofun
      (by rw [← hV.rp.tokR, hq, noneCount_cons_some])
  · -- the successor of the retired worker `wid`: a fresh worker, not started, takes its place in `procs`
    have hpend : pending s = wid :: s.replQ.filterMap id := by unfold pending; simp [hr]
    have hwid := hL.pend wid (by rw [hpend]; simp)
    obtain ⟨lk, pr, rp, cs, ct⟩ := hV
    refine ⟨⟨fun t ht => (lk.lockH t ht).imp_right fun ⟨x, hx, e⟩ => ⟨x, List.mem_append_left _ hx, e⟩, lk.lockC,
        forall_mem_snoc lk.lockW nofun, forall_mem_snoc lk.heldOf nofun⟩,
      ⟨?_, (List.length_map _).trans pr.procsLen, ?_, ?_, forall_mem_snoc pr.bfPc fun _ => .inl rfl,
        forall_mem_snoc pr.retireF nofun⟩,
      ⟨rp.rLive, fun _ => nofun, rp.tokR, forall_mem_snoc ?_ nofun, rp.noStop, rp.rFac⟩,
      ConsI_congr cs rfl rfl rfl rfl rfl rfl rfl id rfl rfl rfl rfl, CntI_join hL ct hr rfl rfl rfl rfl rfl rfl⟩
    · intro j hj
      obtain ⟨y, hy, rfl⟩ := List.mem_map.1 hj
      by_cases he : y = wid
      · exact ⟨mkWorker s.cfg s.widCounter, by simp, by simp [he, mkWorker]⟩
      · obtain ⟨x, hx, hxw⟩ := pr.procsEx y hy
        exact ⟨x, List.mem_append_left _ hx, by simp [he, hxw]⟩
    · show idxV s.cpc (s.procs.map _).length; rw [List.length_map]; exact pr.idx
    · intro nw hnw
      simp only [RPc.start.injEq] at hnw; subst hnw
      exact List.mem_map.2 ⟨wid, hwid.1, by simp⟩
    · -- an old worker that is listed was listed before, not at the slot of `wid`; it is not the one replaced
      intro x hx hxpc hxin
      obtain ⟨y, hy, hyx⟩ := List.mem_map.1 hxin
      have hlt := hL.widLt x hx
      by_cases he : y = wid
      · simp [he] at hyx; omega
      · simp only [he, if_false] at hyx; subst hyx
        refine (rp.exitedL x hx hxpc hy).imp_right fun ⟨hf, hq⟩ => ⟨hf, ?_⟩
        rw [hpend] at hq
        rcases List.mem_cons.1 hq with hq | hq
        · exact absurd hq he
        · unfold pending; simpa using hq
  · obtain ⟨hwm, hwid⟩ := getWorker_some hg
    have hV1 := LiveInv_startWorker hL hV hg (hL.rStarting nw hr w hwm hwid)
    exact LiveInv_replUpd hV1 (by unfold pending; simp [setWorker, hr]) nofun (fun _ _ => hal') nofun hV1.rp.tokR

end WindVerif.Pool
