import WindVerif.Spec.CacheOps
/-!
What the `MutableMapping` mixins do on any implementation of the primitives that behaves as a finite map.  Both abstract
caches are such implementations (`LruSpec.laws`, `LfuSpec.laws`), and their mixin theorems are instances of the ones here.
-/
namespace WindVerif.Cache

/-- `P` implements a finite map from keys to values: `W` is its invariant, `val s k` the value stored under `k`,
`E s s'` says that `s'` has the content of `s` (a lookup may reorder or count, it does not change what is stored), and
`rm s k` is `s` without the key `k`. -/
structure MapLaws {σ : Type} (P : Prim σ) (W : σ → Prop) (val : σ → Key → Option Val) (E : σ → σ → Prop)
    (rm : σ → Key → σ) : Prop where
  get_some : ∀ {s k v}, W s → val s k = some v → ∃ s', P.get s k = .ok (s', v) ∧ E s s' ∧ W s'
  get_none : ∀ {s k}, W s → val s k = none → P.get s k = .error .keyError
  del_get  : ∀ {s s' k v}, W s → P.get s k = .ok (s', v) → P.del s' k = .ok (rm s k)
  val_eq   : ∀ {s s'} k, W s → E s s' → val s' k = val s k
  refl     : ∀ s, E s s
  trans    : ∀ {s₁ s₂ s₃}, E s₁ s₂ → E s₂ s₃ → E s₁ s₃
  keys     : ∀ {s}, W s → ∀ k ∈ P.keys s, (val s k).isSome

namespace MapLaws
variable {σ : Type} {P : Prim σ} {W : σ → Prop} {val : σ → Key → Option Val} {E : σ → σ → Prop} {rm : σ → Key → σ}
  (m : MapLaws P W val E rm) {s : σ}
include m

theorem contains (h : W s) (k : Key) : ∃ s', contains P s k = .ok (s', (val s k).isSome) ∧ E s s' := by
  cases hv : val s k with
  | none => exact ⟨s, by simp only [Cache.contains, m.get_none h hv, Option.isSome_none], m.refl s⟩
  | some v =>
    obtain ⟨s', hg, he, _⟩ := m.get_some h hv
    exact ⟨s', by simp only [Cache.contains, hg, Option.isSome_some], he⟩

theorem getD (h : W s) (k : Key) : ∃ s', getD P s k = .ok (s', val s k) ∧ E s s' := by
  cases hv : val s k with
  | none => exact ⟨s, by simp only [Cache.getD, m.get_none h hv], m.refl s⟩
  | some v =>
    obtain ⟨s', hg, he, _⟩ := m.get_some h hv
    exact ⟨s', by simp only [Cache.getD, hg], he⟩

theorem setdefault_some (h : W s) {k : Key} {w : Val} (hv : val s k = some w) (v : Val) :
    ∃ s', setdefault P s k v = .ok (s', w) ∧ E s s' := by
  obtain ⟨s', hg, he, _⟩ := m.get_some h hv
  exact ⟨s', by simp only [Cache.setdefault, hg], he⟩

theorem setdefault_none (h : W s) {k : Key} (hv : val s k = none) {v : Val} {s' : σ} (hs : P.set s k v = .ok s') :
    setdefault P s k v = .ok (s', v) := by
  simp only [Cache.setdefault, m.get_none h hv, hs]

theorem itemsFrom (ks : List Key) : ∀ {s}, W s → (∀ k ∈ ks, (val s k).isSome) →
    ∃ s', itemsFrom P s ks = .ok (s', ks.map fun k => (k, (val s k).getD 0)) ∧ E s s' ∧ W s' := by
  induction ks with
  | nil => exact fun {s} h _ => ⟨s, rfl, m.refl s, h⟩
  | cons k ks ih =>
    intro s h hks
    obtain ⟨v, hv⟩ := Option.isSome_iff_exists.1 (hks k List.mem_cons_self)
    obtain ⟨s₁, hg, he₁, hw₁⟩ := m.get_some h hv
    have hval : ∀ k', val s₁ k' = val s k' := fun k' => m.val_eq k' h he₁
    obtain ⟨s₂, hi, he₂, hw₂⟩ := ih hw₁ fun k' hk' => hval k' ▸ hks k' (List.mem_cons_of_mem _ hk')
    refine ⟨s₂, ?_, m.trans he₁ he₂, hw₂⟩
    simp only [Cache.itemsFrom, hg, hi, hval, List.map_cons, hv, Option.getD_some]

theorem items (h : W s) :
    ∃ s', items P s = .ok (s', (P.keys s).map fun k => (k, (val s k).getD 0)) ∧ E s s' ∧ W s' :=
  m.itemsFrom _ h (m.keys h)

theorem pop_some (h : W s) {k : Key} {v : Val} (hv : val s k = some v) : pop P s k = .ok (rm s k, v) := by
  obtain ⟨s', hg, _⟩ := m.get_some h hv
  simp only [Cache.pop, hg, m.del_get h hg]

theorem pop_none (h : W s) {k : Key} (hv : val s k = none) : pop P s k = .error .keyError := by
  simp only [Cache.pop, m.get_none h hv]

theorem popitem_cons (h : W s) {k : Key} {ks : List Key} (hk : P.keys s = k :: ks) :
    ∃ v, val s k = some v ∧ popitem P s = .ok (rm s k, k, v) := by
  obtain ⟨v, hv⟩ := Option.isSome_iff_exists.1 (m.keys h k (hk ▸ List.mem_cons_self))
  exact ⟨v, hv, by simp only [Cache.popitem, hk, m.pop_some h hv]⟩

/-- `clear` pops until no key is left; it gets there when removing the first key keeps the invariant and
lowers `len` -/
theorem clear (hrm : ∀ {s k ks}, W s → P.keys s = k :: ks → W (rm s k) ∧ P.len (rm s k) < P.len s) (h : W s) :
    ∃ s', clear P s = .ok s' ∧ P.keys s' = [] := by
  suffices ∀ fuel s, W s → P.len s < fuel → ∃ s', clearLoop P s fuel = .ok s' ∧ P.keys s' = [] from
    this _ s h (Nat.lt_succ_self _)
  intro fuel
  induction fuel with
  | zero => exact fun s _ hf => absurd hf (Nat.not_lt_zero _)
  | succ fuel ih =>
    intro s h hf
    cases hk : P.keys s with
    | nil => exact ⟨s, by simp only [clearLoop, hk], hk⟩
    | cons k ks =>
      obtain ⟨v, _, hp⟩ := m.popitem_cons h hk
      obtain ⟨s', hc, hs'⟩ := ih _ (hrm h hk).1 (by have := (hrm h hk).2; omega)
      exact ⟨s', by simp only [clearLoop, hk, hp, hc], hs'⟩

end MapLaws

theorem update_total {σ : Type} {P : Prim σ} {W : σ → Prop}
    (hset : ∀ s k v, W s → ∃ s', P.set s k v = .ok s' ∧ W s') (ps : List (Key × Val)) :
    ∀ s, W s → ∃ s', update P s ps = .ok s' ∧ W s' := by
  induction ps with
  | nil => exact fun s h => ⟨s, rfl, h⟩
  | cons p ps ih =>
    intro s h
    obtain ⟨s₁, h₁, hw₁⟩ := hset s p.1 p.2 h
    obtain ⟨s₂, h₂, hw₂⟩ := ih s₁ hw₁
    exact ⟨s₂, by simp only [update, h₁, h₂], hw₂⟩

end WindVerif.Cache
