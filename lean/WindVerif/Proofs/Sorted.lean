import WindVerif.Model.Sorted
import WindVerif.Proofs.AList
import WindVerif.Proofs.ListFacts
/-!
Theorems about the model of `SortedSet` / `SortedMap`.

A strictly ascending list splits around any number `x` as `L ++ x :: G` or as `L ++ G`, with `L` below `x` and `G` above
(`strict_split3`).  The `bisect_left` loop returns `L.length` on both forms, so on them every operation of the set and of the
map is an equation between lists (`setAdd_absent`, `mapDel_present`, …); the theorems about an operation take the split
of the state and read the answer off the two forms.
-/
namespace WindVerif.Sorted
open WindVerif.Cache (al_lookup_cons al_lookup_isSome_keys)

def Strict (l : List Int) : Prop := l.Pairwise (· < ·)

theorem strict_nodup {s : List Int} (h : Strict s) : s.Nodup := h.imp Int.ne_of_lt

/-- two strictly ascending lists with the same elements are the same list: the iteration order of a sorted set is
determined by its content -/
theorem strict_unique (a b : List Int) (ha : Strict a) (hb : Strict b) (h : ∀ y, y ∈ a ↔ y ∈ b) : a = b :=
  ((List.perm_ext_iff_of_nodup (strict_nodup ha) (strict_nodup hb)).2 h).eq_of_pairwise
    (fun _ _ _ _ hxy hyx => absurd hyx (Int.lt_asymm hxy)) ha hb

theorem strict_split3 (s : List Int) (x : Int) (h : Strict s) :
    ∃ L G, (∀ y ∈ L, y < x) ∧ (∀ y ∈ G, x < y) ∧ (s = L ++ x :: G ∨ s = L ++ G) := by
  induction s with
  | nil => exact ⟨[], [], nofun, nofun, .inr rfl⟩
  | cons y r ih =>
    obtain ⟨hy, hr⟩ := List.pairwise_cons.1 h
    by_cases hyx : y < x
    · obtain ⟨L, G, hL, hG, hc⟩ := ih hr
      exact ⟨y :: L, G, List.forall_mem_cons.2 ⟨hyx, hL⟩, hG, hc.imp (congrArg (y :: ·)) (congrArg (y :: ·))⟩
    · by_cases hxy : x < y
      · exact ⟨[], y :: r, nofun, List.forall_mem_cons.2 ⟨hxy, fun z hz => Int.lt_trans hxy (hy z hz)⟩, .inr rfl⟩
      · obtain rfl : y = x := Int.le_antisymm (Int.not_lt.1 hxy) (Int.not_lt.1 hyx)
        exact ⟨[], r, nofun, hy, .inl rfl⟩

/-! `bisect` asks of its list only that it is partitioned: the elements below `x` come before the others. -/

section
variable {L R : List Int} {x : Int} (hL : ∀ y ∈ L, y < x) (hR : ∀ y ∈ R, x ≤ y)
include hL hR

theorem filter_lt_append : (L ++ R).filter (· < x) = L := by
  rw [List.filter_append, List.filter_eq_self.2 (fun y hy => decide_eq_true (hL y hy)),
    List.filter_eq_nil_iff.2 (fun y hy => by have := hR y hy; simp only [decide_eq_true_eq]; omega), List.append_nil]

/-- the loop keeps the boundary `L.length` inside `[lo, hi]` and halves the interval -/
theorem bisectLoop_split :
    ∀ fuel lo hi, lo ≤ L.length → L.length ≤ hi → hi ≤ L.length + R.length → hi < lo + fuel →
      bisectLoop (L ++ R) x fuel lo hi = L.length := by
  intro fuel
  induction fuel with
  | zero => intro lo hi h1 h2 _ h4; exact absurd (Nat.le_trans h1 h2) (Nat.not_le.2 h4)
  | succ fuel ih =>
    intro lo hi h1 h2 h3 h4
    rw [bisectLoop]
    split
    · next hlt =>
      generalize hmid : (lo + hi) / 2 = mid
      -- `lo + lo ≤ lo + hi < hi + hi`
      have hb : lo ≤ mid ∧ mid < hi := hmid ▸
        ⟨(Nat.le_div_iff_mul_le Nat.two_pos).2 (Nat.mul_two lo ▸ Nat.add_le_add_left (Nat.le_of_lt hlt) lo),
          Nat.div_lt_of_lt_mul (Nat.two_mul hi ▸ Nat.add_lt_add_right hlt hi)⟩
      have hlen : mid < (L ++ R).length := List.length_append ▸ Nat.lt_of_lt_of_le hb.2 h3
      simp only [List.getElem?_eq_getElem hlen]
      by_cases hm : mid < L.length
      · rw [List.getElem_append_left hm, if_pos (hL _ (List.getElem_mem hm))]
        exact ih _ _ hm h2 h3
          (Nat.lt_of_lt_of_le h4 (Nat.add_right_comm mid 1 fuel ▸ Nat.add_le_add_right hb.1 (fuel + 1)))
      · have hm' : L.length ≤ mid := Nat.le_of_not_lt hm
        rw [List.getElem_append_right hm', if_neg (Int.not_lt.2 (hR _ (List.getElem_mem _)))]
        exact ih _ _ h1 hm' (Nat.le_of_lt (Nat.lt_of_lt_of_le hb.2 h3))
          (Nat.lt_of_lt_of_le hb.2 (Nat.le_of_lt_succ h4))
    · next h => exact Nat.le_antisymm h1 (Nat.le_trans h2 (Nat.le_of_not_lt h))

theorem bisectLeftNum_split : bisectLeftNum (L ++ R) x = L.length :=
  bisectLoop_split hL hR _ 0 _ (Nat.zero_le _) (List.length_append ▸ Nat.le_add_right ..)
    (Nat.le_of_eq List.length_append) (Nat.zero_add _ ▸ Nat.lt_add_one _)

end

section
variable {L G : List Int} {x : Int} (hL : ∀ y ∈ L, y < x) (hG : ∀ y ∈ G, x < y)

include hG in
theorem le_of_above : (∀ y ∈ x :: G, x ≤ y) ∧ ∀ y ∈ G, x ≤ y :=
  ⟨List.forall_mem_cons.2 ⟨Int.le_refl x, fun y hy => Int.le_of_lt (hG y hy)⟩, fun y hy => Int.le_of_lt (hG y hy)⟩

include hL hG

theorem strict_mid : Strict (L ++ x :: G) ↔ Strict (L ++ G) := by
  refine ⟨fun h => h.sublist (List.Sublist.append_left (List.sublist_cons_self x G) L), fun h => ?_⟩
  obtain ⟨sL, sG, hc⟩ := List.pairwise_append.1 h
  exact List.pairwise_append.2 ⟨sL, List.pairwise_cons.2 ⟨hG, sG⟩,
    fun a ha b hb => (List.mem_cons.1 hb).elim (· ▸ hL a ha) (hc a ha b)⟩

theorem not_mem_split : x ∉ L ++ G :=
  fun h => (List.mem_append.1 h).elim (fun h => Int.lt_irrefl x (hL x h)) (fun h => Int.lt_irrefl x (hG x h))

theorem insertionsIndex_present : insertionsIndex (L ++ x :: G) (.num x) = .ok (L.length, true) := by
  simp [insertionsIndex, bisectLeft, bisectLeftNum_split hL (le_of_above hG).1]

theorem insertionsIndex_absent : insertionsIndex (L ++ G) (.num x) = .ok (L.length, false) := by
  simp only [insertionsIndex, bisectLeft, bisectLeftNum_split hL (le_of_above hG).2,
    List.getElem?_append_right (Nat.le_refl _), Nat.sub_self]
  cases G with
  | nil => rfl
  | cons g G => simp [Int.ne_of_gt (hG g List.mem_cons_self)]

theorem setAdd_present : setAdd (L ++ x :: G) x = L ++ x :: G := by
  simp [setAdd, insertionsIndex_present hL hG]

theorem setAdd_absent : setAdd (L ++ G) x = L ++ x :: G := by
  simp [setAdd, insertionsIndex_absent hL hG, insertAt]

theorem setDiscard_present : setDiscard (L ++ x :: G) x = L ++ G := by
  simp [setDiscard, insertionsIndex_present hL hG, List.eraseIdx_append_of_length_le]

theorem setDiscard_absent : setDiscard (L ++ G) x = L ++ G := by
  simp [setDiscard, insertionsIndex_absent hL hG]

end

/-- the part not below `x` is strictly ascending, so its head is its least element -/
theorem strict_split2 (s : List Int) (x : Int) (h : Strict s) :
    ∃ L R, (∀ y ∈ L, y < x) ∧ (∀ y ∈ R, x ≤ y) ∧ Strict R ∧ s = L ++ R := by
  obtain ⟨L, G, hL, hG, rfl | rfl⟩ := strict_split3 s x h
  · exact ⟨L, x :: G, hL, (le_of_above hG).1, (List.pairwise_append.1 h).2.1, rfl⟩
  · exact ⟨L, G, hL, (le_of_above hG).2, (List.pairwise_append.1 h).2.1, rfl⟩

/-- on a strictly ascending list the real `bisect_left` loop returns the number of smaller elements -/
theorem bisect_exact (a : List Int) (x : Int) (h : Strict a) :
    bisectLeftNum a x = (a.filter (· < x)).length := by
  obtain ⟨L, R, hL, hR, -, rfl⟩ := strict_split2 a x h
  rw [bisectLeftNum_split hL hR, filter_lt_append hL hR]

theorem insertionsIndex_num (a : List Int) (x : Int) (h : Strict a) :
    insertionsIndex a (.num x) = .ok ((a.filter (· < x)).length, decide (x ∈ a)) := by
  obtain ⟨L, G, hL, hG, rfl | rfl⟩ := strict_split3 a x h
  · rw [insertionsIndex_present hL hG, filter_lt_append hL (le_of_above hG).1, decide_eq_true (by simp)]
  · rw [insertionsIndex_absent hL hG, filter_lt_append hL (le_of_above hG).2,
      decide_eq_false (not_mem_split hL hG)]

theorem setAdd_strict (s : List Int) (v : Int) (h : Strict s) : Strict (setAdd s v) := by
  obtain ⟨L, G, hL, hG, rfl | rfl⟩ := strict_split3 s v h
  · rwa [setAdd_present hL hG]
  · rw [setAdd_absent hL hG]; exact (strict_mid hL hG).2 h

theorem setAdd_mem (s : List Int) (v y : Int) (h : Strict s) : y ∈ setAdd s v ↔ (y = v ∨ y ∈ s) := by
  obtain ⟨L, G, hL, hG, rfl | rfl⟩ := strict_split3 s v h
  · rw [setAdd_present hL hG]
    exact ⟨Or.inr, fun h => h.elim (fun e => e ▸ List.mem_append_right _ List.mem_cons_self) id⟩
  · rw [setAdd_absent hL hG]
    simp only [List.mem_append, List.mem_cons]
    exact or_left_comm

theorem setDiscard_strict (s : List Int) (v : Int) (h : Strict s) : Strict (setDiscard s v) := by
  obtain ⟨L, G, hL, hG, rfl | rfl⟩ := strict_split3 s v h
  · rw [setDiscard_present hL hG]; exact (strict_mid hL hG).1 h
  · rwa [setDiscard_absent hL hG]

theorem setDiscard_mem (s : List Int) (v y : Int) (h : Strict s) : y ∈ setDiscard s v ↔ (y ≠ v ∧ y ∈ s) := by
  obtain ⟨L, G, hL, hG, rfl | rfl⟩ := strict_split3 s v h
  · have hv := not_mem_split hL hG
    rw [setDiscard_present hL hG]
    simp only [List.mem_append, List.mem_cons] at hv ⊢
    exact ⟨fun h => ⟨fun e => hv (e ▸ h), h.imp_right Or.inr⟩,
      fun h => h.2.elim Or.inl (·.elim (absurd · h.1) Or.inr)⟩
  · rw [setDiscard_absent hL hG]
    exact ⟨fun h => ⟨fun e => not_mem_split hL hG (e ▸ h), h⟩, And.right⟩

theorem setContains_num (s : List Int) (v : Int) (h : Strict s) : setContains s (.num v) = decide (v ∈ s) := by
  rw [setContains, insertionsIndex_num s v h]

theorem setPop_spec (s : List Int) (h : Strict s) :
    match s with
    | [] => setPop s = .error .keyError
    | v :: r => setPop s = .ok (r, v) := by
  cases s with
  | nil => rfl
  | cons v r =>
    have : setDiscard (v :: r) v = r := setDiscard_present (L := []) nofun (List.pairwise_cons.1 h).1
    simp only [setPop, this]

theorem setClear_spec (s : List Int) (h : Strict s) : setClear (s.length + 1) s = [] := by
  induction s with
  | nil => rfl
  | cons v r ih =>
    have hp := setPop_spec (v :: r) h
    simp only at hp
    rw [List.length_cons, setClear, hp]
    exact ih (List.pairwise_cons.1 h).2

theorem mem_dedupAdj (l : List Int) (y : Int) : y ∈ dedupAdj l ↔ y ∈ l := by
  fun_induction dedupAdj l with
  | case1 => rfl
  | case2 x => rfl
  | case3 y' r ih => rw [ih]; simp
  | case4 x y' r hxy ih => rw [List.mem_cons, ih, List.mem_cons (a := y) (b := x)]

theorem dedupAdj_strict (l : List Int) (h : l.Pairwise (· ≤ ·)) : Strict (dedupAdj l) := by
  unfold Strict
  fun_induction dedupAdj l with
  | case1 => exact .nil
  | case2 x => exact List.pairwise_singleton ..
  | case3 y r ih => exact ih (List.pairwise_cons.1 h).2
  | case4 x y r hxy ih =>
    obtain ⟨h1, h2⟩ := List.pairwise_cons.1 h
    refine List.pairwise_cons.2 ⟨fun z hz => ?_, ih h2⟩
    have hxy' := Int.lt_iff_le_and_ne.2 ⟨h1 y List.mem_cons_self, hxy⟩
    rcases List.mem_cons.1 ((mem_dedupAdj _ z).1 hz) with rfl | hz
    · exact hxy'
    · exact Int.lt_of_lt_of_le hxy' ((List.pairwise_cons.1 h2).1 z hz)

theorem strict_mergeSort {α : Type} (f : α → Int) (l : List α) (h : (l.map f).Nodup) :
    Strict ((l.mergeSort (fun a b => f a ≤ f b)).map f) := by
  have hnd := ((List.mergeSort_perm l (fun a b => f a ≤ f b)).map f).nodup_iff.2 h
  rw [List.nodup_iff_pairwise_ne, List.pairwise_map] at hnd
  exact List.pairwise_map.2 (((pairwise_mergeSort_key f l).and hnd).imp Int.lt_iff_le_and_ne.2)

theorem setInit_strict (vals : List Int) : Strict (setInit vals) :=
  dedupAdj_strict _ (pairwise_mergeSort_key id vals)

theorem setInit_mem (vals : List Int) (y : Int) : y ∈ setInit vals ↔ y ∈ vals := by
  rw [setInit, mem_dedupAdj, List.mem_mergeSort]

def MapWf (m : SMap) : Prop := Strict m.keys ∧ m.vals.length = m.keys.length

/-- the mapping a `SortedMap` state stands for -/
def mapLookup (m : SMap) (k : Int) : Option Nat := (m.keys.zip m.vals).lookup k

theorem lookup_zip_none {L : List Int} {VL : List Nat} {k : Int} (h : k ∉ L) : (L.zip VL).lookup k = none :=
  List.lookup_eq_none_iff.2 (fun _ hp => bne_iff_ne.2 (fun e => h (e ▸ (List.of_mem_zip hp).1)))

/-! The two forms of a well-formed state around `k`: `⟨L ++ k :: G, VL ++ w :: VG⟩` and `⟨L ++ G, VL ++ VG⟩`, the values
split where the keys are. -/

section
variable {L G : List Int} {VL VG : List Nat} {k : Int} (hlen : L.length = VL.length) (hL : ∀ y ∈ L, y < k)
  (hG : ∀ y ∈ G, k < y)

include hlen hL in
theorem mapLookup_present (w : Nat) (k' : Int) :
    mapLookup ⟨L ++ k :: G, VL ++ w :: VG⟩ k' = if k' = k then some w else mapLookup ⟨L ++ G, VL ++ VG⟩ k' := by
  unfold mapLookup
  rw [List.zip_append hlen, List.zip_append hlen, List.lookup_append, List.lookup_append, List.zip_cons_cons,
    al_lookup_cons]
  split
  · next e => rw [e, lookup_zip_none (fun h => Int.lt_irrefl k (hL k h))]; rfl
  · rfl

include hL hG

theorem mapLookup_absent : mapLookup ⟨L ++ G, VL ++ VG⟩ k = none :=
  lookup_zip_none (not_mem_split hL hG)

theorem mapWf_mid (w : Nat) : MapWf ⟨L ++ k :: G, VL ++ w :: VG⟩ ↔ MapWf ⟨L ++ G, VL ++ VG⟩ := by
  simp only [MapWf, strict_mid hL hG, List.length_append, List.length_cons]
  exact and_congr_right' ⟨Nat.succ.inj, congrArg Nat.succ⟩

theorem mapGet_absent : mapGet ⟨L ++ G, VL ++ VG⟩ (.num k) = .error .keyError := by
  simp [mapGet, mapIndex, insertionsIndex_absent hL hG]

theorem mapDel_absent : mapDel ⟨L ++ G, VL ++ VG⟩ (.num k) = .error .keyError := by
  simp [mapDel, mapIndex, insertionsIndex_absent hL hG]

include hlen

theorem mapGet_present (w : Nat) : mapGet ⟨L ++ k :: G, VL ++ w :: VG⟩ (.num k) = .ok w := by
  simp [mapGet, mapIndex, insertionsIndex_present hL hG, hlen]

theorem mapSet_present (w v : Nat) :
    mapSet ⟨L ++ k :: G, VL ++ w :: VG⟩ k v = ⟨L ++ k :: G, VL ++ v :: VG⟩ := by
  simp [mapSet, insertionsIndex_present hL hG, hlen]

theorem mapSet_absent (v : Nat) : mapSet ⟨L ++ G, VL ++ VG⟩ k v = ⟨L ++ k :: G, VL ++ v :: VG⟩ := by
  simp [mapSet, insertionsIndex_absent hL hG, insertAt, hlen]

theorem mapDel_present (w : Nat) : mapDel ⟨L ++ k :: G, VL ++ w :: VG⟩ (.num k) = .ok ⟨L ++ G, VL ++ VG⟩ := by
  simp [mapDel, mapIndex, insertionsIndex_present hL hG, hlen, List.eraseIdx_append_of_length_le]

end

theorem map_split (m : SMap) (k : Int) (h : MapWf m) :
    ∃ L G VL VG, L.length = VL.length ∧ (∀ y ∈ L, y < k) ∧ (∀ y ∈ G, k < y) ∧
      ((∃ w, m = ⟨L ++ k :: G, VL ++ w :: VG⟩) ∨ m = ⟨L ++ G, VL ++ VG⟩) := by
  obtain ⟨keys, vals⟩ := m
  obtain ⟨L, G, hL, hG, rfl | rfl⟩ := strict_split3 keys k h.1
  · have hlt : L.length < vals.length :=
      h.2 ▸ List.length_append ▸ Nat.lt_add_of_pos_right (Nat.succ_pos _)
    exact ⟨L, G, vals.take L.length, vals.drop (L.length + 1), (List.length_take_of_le (Nat.le_of_lt hlt)).symm,
      hL, hG, .inl ⟨vals[L.length], by rw [List.getElem_cons_drop, List.take_append_drop]⟩⟩
  · exact ⟨L, G, vals.take L.length, vals.drop L.length,
      (List.length_take_of_le (h.2 ▸ List.length_append ▸ Nat.le_add_right ..)).symm,
      hL, hG, .inr (by rw [List.take_append_drop])⟩

theorem mapIndex_foreign (m : SMap) : mapIndex m .foreign = .ok (0, false) ∨ mapIndex m .foreign = .error .keyError := by
  unfold mapIndex insertionsIndex bisectLeft
  cases m.keys <;> simp

theorem mapGet_num (m : SMap) (k : Int) (h : MapWf m) :
    mapGet m (.num k) = (match mapLookup m k with | some v => .ok v | none => .error .keyError) := by
  obtain ⟨L, G, VL, VG, hlen, hL, hG, ⟨w, rfl⟩ | rfl⟩ := map_split m k h
  · rw [mapGet_present hlen hL hG, mapLookup_present hlen hL, if_pos rfl]
  · rw [mapGet_absent hL hG, mapLookup_absent hL hG]

theorem mapGet_foreign (m : SMap) : mapGet m .foreign = .error .keyError := by
  unfold mapGet
  rcases mapIndex_foreign m with h | h <;> rw [h]

theorem mapSet_wf (m : SMap) (k : Int) (v : Nat) (h : MapWf m) : MapWf (mapSet m k v) := by
  obtain ⟨L, G, VL, VG, hlen, hL, hG, ⟨w, rfl⟩ | rfl⟩ := map_split m k h
  · rw [mapSet_present hlen hL hG]; exact (mapWf_mid hL hG v).2 ((mapWf_mid hL hG w).1 h)
  · rw [mapSet_absent hlen hL hG]; exact (mapWf_mid hL hG v).2 h

theorem mapSet_lookup (m : SMap) (k k' : Int) (v : Nat) (h : MapWf m) :
    mapLookup (mapSet m k v) k' = if k' = k then some v else mapLookup m k' := by
  obtain ⟨L, G, VL, VG, hlen, hL, hG, ⟨w, rfl⟩ | rfl⟩ := map_split m k h
  · rw [mapSet_present hlen hL hG, mapLookup_present hlen hL, mapLookup_present hlen hL]
    split <;> rfl
  · rw [mapSet_absent hlen hL hG, mapLookup_present hlen hL]

theorem mapDel_spec (m : SMap) (k : Int) (h : MapWf m) :
    match mapLookup m k with
    | some _ => ∃ m', mapDel m (.num k) = .ok m' ∧ MapWf m' ∧
        ∀ k', mapLookup m' k' = if k' = k then none else mapLookup m k'
    | none => mapDel m (.num k) = .error .keyError := by
  obtain ⟨L, G, VL, VG, hlen, hL, hG, ⟨w, rfl⟩ | rfl⟩ := map_split m k h
  · rw [mapLookup_present hlen hL, if_pos rfl]
    refine ⟨_, mapDel_present hlen hL hG w, (mapWf_mid hL hG w).1 h, fun k' => ?_⟩
    rw [mapLookup_present hlen hL]
    split
    · next e => rw [e, mapLookup_absent hL hG]
    · rfl
  · rw [mapLookup_absent hL hG]; exact mapDel_absent hL hG

theorem mapPop_spec (m : SMap) (k : Int) (h : MapWf m) :
    match mapLookup m k with
    | some v => ∃ m', mapPop m (.num k) = .ok (m', v) ∧ mapDel m (.num k) = .ok m'
    | none => mapPop m (.num k) = .error .keyError := by
  have hd := mapDel_spec m k h
  rw [mapPop, mapGet_num m k h]
  cases hlk : mapLookup m k with
  | none => rfl
  | some v =>
    rw [hlk] at hd
    obtain ⟨m', hd1, _⟩ := hd
    exact ⟨m', by simp only [hd1], hd1⟩

/-- `popitem` removes the smallest key -/
theorem mapPopitem_spec (m : SMap) (h : MapWf m) :
    match m.keys, m.vals with
    | k :: ks, v :: vs => mapPopitem m = .ok (⟨ks, vs⟩, k, v)
    | _, _ => mapPopitem m = .error .keyError := by
  obtain ⟨_ | ⟨k, ks⟩, vals⟩ := m
  · rfl
  · cases vals with
    | nil => exact absurd h.2 (by simp)
    | cons v vs =>
      have hG := (List.pairwise_cons.1 h.1).1
      have hg : mapGet ⟨k :: ks, v :: vs⟩ (.num k) = .ok v := mapGet_present (L := []) (VL := []) rfl nofun hG v
      have hd : mapDel ⟨k :: ks, v :: vs⟩ (.num k) = .ok ⟨ks, vs⟩ :=
        mapDel_present (L := []) (VL := []) rfl nofun hG v
      simp only [mapPopitem, mapPop, hg, hd]

theorem mapUpdate_wf (m : SMap) (ps : List (Int × Nat)) (h : MapWf m) : MapWf (mapUpdate m ps) := by
  induction ps generalizing m with
  | nil => exact h
  | cons p r ih => exact ih _ (mapSet_wf m p.1 p.2 h)

/-- the pair met last wins: one more pair in front of a run of overrides -/
theorem lookup_reverse_cons (k0 : Int) (v0 : Nat) (r : List (Int × Nat)) (k : Int) (d : Option Nat) :
    (match ((k0, v0) :: r).reverse.lookup k with | some v => some v | none => d) =
      match r.reverse.lookup k with | some v => some v | none => if k = k0 then some v0 else d := by
  rw [List.reverse_cons, List.lookup_append, al_lookup_cons]
  cases r.reverse.lookup k with
  | some w => rfl
  | none => by_cases he : k = k0 <;> simp [he]

theorem mapUpdate_lookup (m : SMap) (ps : List (Int × Nat)) (k : Int) (h : MapWf m) :
    mapLookup (mapUpdate m ps) k = (match ps.reverse.lookup k with | some v => some v | none => mapLookup m k) := by
  induction ps generalizing m with
  | nil => rfl
  | cons p r ih =>
    obtain ⟨k0, v0⟩ := p
    rw [mapUpdate, ih _ (mapSet_wf m k0 v0 h), mapSet_lookup m k0 k v0 h, lookup_reverse_cons]

/-- iteration lists the items in strictly ascending key order -/
theorem mapItems_spec (m : SMap) (h : MapWf m) :
    (mapItems m).map (·.1) = m.keys ∧ (mapItems m).map (·.2) = m.vals ∧ Strict ((mapItems m).map (·.1)) := by
  have h1 : (mapItems m).map (·.1) = m.keys := List.map_fst_zip (Nat.le_of_eq h.2.symm)
  exact ⟨h1, List.map_snd_zip (Nat.le_of_eq h.2), h1 ▸ h.1⟩

/-- one `d[k] = v` of `dict(pairs)` -/
def dictPut (acc : List (Int × Nat)) (k : Int) (v : Nat) : List (Int × Nat) :=
  if (acc.lookup k).isSome then acc.map (fun p => if p.1 = k then (k, v) else p) else acc ++ [(k, v)]

theorem dictOf_cons (acc : List (Int × Nat)) (k : Int) (v : Nat) (r : List (Int × Nat)) :
    dictOf acc ((k, v) :: r) = dictOf (dictPut acc k v) r := by
  rw [dictOf, dictPut]; split <;> rfl

theorem lookup_map_replace (acc : List (Int × Nat)) (k0 : Int) (v0 : Nat) (k : Int) :
    (acc.map (fun p => if p.1 = k0 then (k0, v0) else p)).lookup k =
      if k = k0 then (acc.lookup k0).map (fun _ => v0) else acc.lookup k := by
  induction acc with
  | nil => simp
  | cons p r ih =>
    rw [List.map_cons, al_lookup_cons, al_lookup_cons, al_lookup_cons, ih]
    by_cases ha : k0 = p.1
    · subst ha; by_cases hk : k = p.1 <;> simp [hk]
    · by_cases hk : k = k0 <;> simp [ha, hk, Ne.symm ha]

theorem dictPut_lookup (acc : List (Int × Nat)) (k0 : Int) (v0 : Nat) (k : Int) :
    (dictPut acc k0 v0).lookup k = if k = k0 then some v0 else acc.lookup k := by
  unfold dictPut
  split
  · next hs =>
    obtain ⟨w, hw⟩ := Option.isSome_iff_exists.1 hs
    rw [lookup_map_replace, hw]; rfl
  · next hn =>
    rw [List.lookup_append, al_lookup_cons]
    split
    · next he => rw [he, Option.not_isSome_iff_eq_none.1 hn]; rfl
    · exact Option.or_none

theorem dictPut_keys (acc : List (Int × Nat)) (k : Int) (v : Nat) :
    (dictPut acc k v).map (·.1) = if k ∈ acc.map (·.1) then acc.map (·.1) else acc.map (·.1) ++ [k] := by
  unfold dictPut
  simp only [al_lookup_isSome_keys]
  split
  · rw [List.map_map]
    exact List.map_congr_left (fun p _ => by simp only [Function.comp]; split <;> simp [*])
  · rw [List.map_append]; rfl

theorem dictOf_nodup (acc ps : List (Int × Nat)) (h : (acc.map (·.1)).Nodup) :
    ((dictOf acc ps).map (·.1)).Nodup := by
  induction ps generalizing acc with
  | nil => exact h
  | cons p r ih =>
    rw [dictOf_cons]
    apply ih
    rw [dictPut_keys]
    split
    · exact h
    · next hn => exact List.nodup_append.2 ⟨h, List.pairwise_singleton .., fun a ha b hb => by
        rw [List.mem_singleton.1 hb]; exact fun e => hn (e ▸ ha)⟩

theorem dictOf_lookup (acc ps : List (Int × Nat)) (k : Int) :
    (dictOf acc ps).lookup k =
      (match ps.reverse.lookup k with | some v => some v | none => acc.lookup k) := by
  induction ps generalizing acc with
  | nil => rfl
  | cons p r ih => rw [dictOf_cons, ih, dictPut_lookup, lookup_reverse_cons]

/-- initial pairs behave like `dict(pairs)`: the last pair of a key wins -/
theorem mapInit_lookup (pairs : List (Int × Nat)) (k : Int) :
    mapLookup (mapInit pairs) k = pairs.reverse.lookup k := by
  unfold mapInit mapLookup
  simp only [List.zip_map', List.map_id']
  rw [Cache.al_lookup_perm (List.mergeSort_perm _ _) (dictOf_nodup [] pairs .nil), dictOf_lookup]
  cases pairs.reverse.lookup k <;> rfl

end WindVerif.Sorted
