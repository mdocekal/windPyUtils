import WindVerif.Proofs.PoolLifeWorker
/-! Worker lifecycle in the pool model (C04): the global invariant; worker, feeder and replace-thread steps. -/
namespace WindVerif.Pool

/-- consumer pcs inside an `imap` call, after the replace thread may have been started -/
def inCall : CPc → Bool
  | .fInitSet | .wrSending | .wrDataCnt | .fStart | .rdSending | .rdDataCnt | .qsize1 | .lockAcq | .qsize2 | .getNowait
  | .lockRel | .getBlock | .flowClear | .flowIsSet | .flowSet | .fStopSet | .fJoin | .rPutNone | .rStopSet | .rJoin
  | .midReady _ _ => true
  | _ => false

/-- workers with a smaller wid have been waited for by `until_all_ready` -/
def readyUpto (s : St) : Nat :=
  match s.cpc with
  | .enterStart _ => 0
  | .readyWait j => j
  | _ => s.cfg.nWorkers

/-- retired workers the replace thread has still to replace -/
def pending (s : St) : List Nat := (match s.rpc with | .join wid => [wid] | _ => []) ++ s.replQ.filterMap id

/-- the worker(s) with this wid have left their loop for good (exited, or only `end()` left: `.ending`) -/
def ExitedAll (l : List Worker) (wid : Nat) : Prop := ∀ w ∈ l, w.wid = wid → gone w.pc = true

/-- the worker(s) with this wid have exited (`end()` has run, the process has an exit code) -/
def ExitedStrict (l : List Worker) (wid : Nat) : Prop := ∀ w ∈ l, w.wid = wid → w.pc = .exited

structure LInv (s : St) : Prop where
  nodup : (s.workers.map (·.wid)).Nodup
  widLt : ∀ w ∈ s.workers, w.wid < s.widCounter
  procsLt : ∀ wid ∈ s.procs, wid < s.widCounter
  nwLe : s.cfg.nWorkers ≤ s.widCounter
  wk : ∀ w ∈ s.workers, WInv s.cfg w
  rAliveIn : s.rAlive = true → inCall s.cpc = true ∧ s.cfg.factory = true
  rFactory : (s.cpc = .rInitSet ∨ s.cpc = .rStart) → s.cfg.factory = true
  rIdle : s.rAlive = false → s.rpc = .idle
  pre : (match s.cpc with | .enterStart _ | .readyWait _ => True | _ => False) →
    s.procs = List.range s.cfg.nWorkers ∧ s.widCounter = s.cfg.nWorkers
  starting : ∀ i, s.cpc = .enterStart i → ∀ w ∈ s.workers, i ≤ w.wid → w.pc = .notStarted
  notStarted : ∀ w ∈ s.workers, w.pc = .notStarted → (∃ i, s.cpc = .enterStart i ∧ i ≤ w.wid) ∨ s.rpc = .start w.wid
  rStarting : ∀ nw, s.rpc = .start nw → ∀ w ∈ s.workers, w.wid = nw → w.pc = .notStarted
  ready : s.cfg.waitReady = true → ∀ w ∈ s.workers, w.wid < readyUpto s → w.bf = true
  listed : ∀ w ∈ s.workers, gone w.pc = false → w.wid ∈ s.procs
  pendNodup : (pending s).Nodup
  pend : ∀ wid ∈ pending s, wid ∈ s.procs ∧ ExitedAll s.workers wid
  -- the joins of `__exit__` wait for the exit only without a join timeout
  joined : ∀ i, s.cpc = .exitJoin i → ∀ j < i, ∀ wid, s.procs[j]? = some wid → s.cfg.joinTimeout = false →
    ExitedStrict s.workers wid
  done : s.cpc = .done → ∀ wid ∈ s.procs, s.cfg.joinTimeout = false → ExitedStrict s.workers wid

theorem ExitedAll_upd {l : List Worker} {wid : Nat} {w w' : Worker} (h : ExitedAll l wid) (hw : w ∈ l)
    (hne : gone w.pc = true → gone w'.pc = true) (hwid : w'.wid = w.wid) : ExitedAll (upd w.wid w' l) wid := by
  intro x hx hxw
  rcases mem_upd.1 hx with ⟨rfl, _⟩ | ⟨hx', _⟩
  · exact hne (h w hw (by rw [← hwid, hxw]))
  · exact h x hx' hxw

theorem ExitedStrict_upd {l : List Worker} {wid : Nat} {w w' : Worker} (h : ExitedStrict l wid) (hw : w ∈ l)
    (hne : w.pc ≠ .exited) (hwid : w'.wid = w.wid) : ExitedStrict (upd w.wid w' l) wid := by
  intro x hx hxw
  rcases mem_upd.1 hx with ⟨rfl, _⟩ | ⟨hx', _⟩
  · exact absurd (h w hw (by rw [← hwid, hxw])) hne
  · exact h x hx' hxw

theorem readyUpto_congr {s s' : St} (h1 : s'.cpc = s.cpc) (h2 : s'.cfg = s.cfg) : readyUpto s' = readyUpto s := by
  unfold readyUpto; rw [h1, h2]

/-- The record of worker `w` is replaced by `w'` (a step of the worker; or the worker is started, by `__enter__` or by the
replace thread), the consumer and the replace thread stand at `c'` and `rp'` afterwards, and `w` may have joined the wids
to be replaced.  What is asked of `c'` and `rp'` are the clauses of the invariant that read the two pcs, for the workers
other than `w`. -/
theorem LInv_upd {s s' : St} {w w' : Worker} {c' : CPc} {rp' : RPc} (hI : LInv s) (hwm : w ∈ s.workers)
    (hwid : w'.wid = w.wid) (hW' : WInv s.cfg w') (hgone : gone w.pc = true → gone w'.pc = true)
    (hbf : w.bf = true → w'.bf = true) (hn3 : w'.pc ≠ .notStarted) (hn2 : w.pc ≠ .exited)
    (hv : (s'.workers, s'.cfg, s'.procs, s'.widCounter, s'.rAlive, s'.cpc, s'.rpc) =
      (upd w.wid w' s.workers, s.cfg, s.procs, s.widCounter, s.rAlive, c', rp'))
    (hp : pending s' = pending s ∨ (pending s' = pending s ++ [w.wid] ∧ gone w'.pc = true ∧ gone w.pc = false))
    (hal : s.rAlive = true → inCall c' = true)
    (hfac : (c' = .rInitSet ∨ c' = .rStart) → s.cfg.factory = true)
    (hidle : s.rAlive = false → rp' = .idle)
    (hpre : (match (generalizing := false) c' with | .enterStart _ | .readyWait _ => True | _ => False) →
      s.procs = List.range s.cfg.nWorkers ∧ s.widCounter = s.cfg.nWorkers)
    (hst : ∀ i, c' = .enterStart i → ∀ x ∈ s.workers, i ≤ x.wid → x.wid ≠ w.wid ∧ x.pc = .notStarted)
    (hns : ∀ x ∈ s.workers, x.wid ≠ w.wid → x.pc = .notStarted →
      (∃ i, c' = .enterStart i ∧ i ≤ x.wid) ∨ rp' = .start x.wid)
    (hrs : ∀ nw, rp' = .start nw → ∀ x ∈ s.workers, x.wid = nw → x.wid ≠ w.wid ∧ x.pc = .notStarted)
    (hrd : s.cfg.waitReady = true → ∀ x ∈ s.workers, x.wid < readyUpto { s with cpc := c' } → x.bf = true)
    (hj : ∀ i, c' = .exitJoin i → ∀ j < i, ∀ wid, s.procs[j]? = some wid → s.cfg.joinTimeout = false →
      ExitedStrict s.workers wid)
    (hd : c' = .done → ∀ wid ∈ s.procs, s.cfg.joinTimeout = false → ExitedStrict s.workers wid) : LInv s' := by
  simp only [Prod.mk.injEq] at hv
  obtain ⟨ew, ecfg, eprocs, ewc, eal, ec, er⟩ := hv
  have hmem : ∀ x, x ∈ s'.workers → x = w' ∨ (x ∈ s.workers ∧ x.wid ≠ w.wid) := by
    intro x hx; rw [ew] at hx
    rcases mem_upd.1 hx with ⟨rfl, _⟩ | hx
    · exact Or.inl rfl
    · exact Or.inr hx
  have hlisted : gone w'.pc = false → w.wid ∈ s.procs := by
    intro hne; refine hI.listed w hwm ?_
    cases hgw : gone w.pc
    · rfl
    · rw [hgone hgw] at hne; cases hne
  constructor
  · rw [ew, upd_wids _ hwid]; exact hI.nodup
  · intro x hx; rw [ewc]
    rcases hmem x hx with rfl | ⟨hx, _⟩
    · rw [hwid]; exact hI.widLt w hwm
    · exact hI.widLt x hx
  · rw [eprocs, ewc]; exact hI.procsLt
  · rw [ecfg, ewc]; exact hI.nwLe
  · intro x hx; rw [ecfg]
    rcases hmem x hx with rfl | ⟨hx, _⟩
    · exact hW'
    · exact hI.wk x hx
  · rw [eal, ec, ecfg]; exact fun hr => ⟨hal hr, (hI.rAliveIn hr).2⟩
  · rw [ec, ecfg]; exact hfac
  · rw [eal, er]; exact hidle
  · rw [ec, eprocs, ecfg, ewc]; exact hpre
  · intro i hi x hx hix; rw [ec] at hi
    rcases hmem x hx with rfl | ⟨hx, _⟩
    · exact absurd rfl (hst i hi w hwm (hwid ▸ hix)).1
    · exact (hst i hi x hx hix).2
  · intro x hx hpc; rw [ec, er]
    rcases hmem x hx with rfl | ⟨hx, hxw⟩
    · exact absurd hpc hn3
    · exact hns x hx hxw hpc
  · intro nw hnw x hx hxw; rw [er] at hnw
    rcases hmem x hx with rfl | ⟨hx, _⟩
    · exact absurd rfl (hrs nw hnw w hwm (hwid ▸ hxw)).1
    · exact (hrs nw hnw x hx hxw).2
  · intro hr x hx hlt; rw [ecfg] at hr
    have hlt' : x.wid < readyUpto { s with cpc := c' } := by unfold readyUpto at hlt ⊢; rw [ec, ecfg] at hlt; exact hlt
    rcases hmem x hx with rfl | ⟨hx, _⟩
    · exact hbf (hrd hr w hwm (hwid ▸ hlt'))
    · exact hrd hr x hx hlt'
  · intro x hx hne; rw [eprocs]
    rcases hmem x hx with rfl | ⟨hx, _⟩
    · rw [hwid]; exact hlisted hne
    · exact hI.listed x hx hne
  · rcases hp with hp | ⟨hp, _, hgw⟩ <;> rw [hp]
    · exact hI.pendNodup
    · -- `w` was not among the wids to be replaced: it had not left its loop
      refine List.nodup_append.2 ⟨hI.pendNodup, by simp, fun a ha b hb hab => ?_⟩
      cases List.mem_singleton.1 hb; subst hab
      have := (hI.pend _ ha).2 w hwm rfl
      rw [hgw] at this; cases this
  · intro k hk; rw [eprocs, ew]
    have : k ∈ pending s ∨ (k = w.wid ∧ gone w'.pc = true ∧ gone w.pc = false) := by
      rcases hp with hp | ⟨hp, he⟩ <;> rw [hp] at hk
      · exact Or.inl hk
      · rcases List.mem_append.1 hk with hk | hk
        · exact Or.inl hk
        · exact Or.inr ⟨List.mem_singleton.1 hk, he⟩
    rcases this with hk | ⟨rfl, he, hgw⟩
    · exact ⟨(hI.pend k hk).1, ExitedAll_upd (hI.pend k hk).2 hwm hgone hwid⟩
    · refine ⟨hI.listed w hwm hgw, fun x hx hxw => ?_⟩
      rcases mem_upd.1 hx with ⟨rfl, _⟩ | ⟨_, hne⟩
      · exact he
      · exact absurd hxw hne
  · intro i hi j hj' k hk hjt; rw [ec] at hi; rw [eprocs] at hk; rw [ecfg] at hjt
    rw [ew]; exact ExitedStrict_upd (hj i hi j hj' k hk hjt) hwm hn2 hwid
  · intro hd' k hk hjt; rw [ec] at hd'; rw [eprocs] at hk; rw [ecfg] at hjt
    rw [ew]; exact ExitedStrict_upd (hd hd' k hk hjt) hwm hn2 hwid

theorem LInv_stepW {s s' : St} {wid : Nat} (hI : LInv s) (h : stepW s wid = some s') : LInv s' := by
  obtain ⟨w, w', hg, hn1, hn2, hwid, hn3, hinv, hf⟩ := stepW_summary h
  have hwm := (getWorker_some hg).1
  obtain ⟨hW', hbf⟩ := hinv (hI.wk w hwm)
  have hne : ∀ x ∈ s.workers, x.pc = .notStarted → x.wid ≠ w.wid :=
    fun x hx hp e => hn1 (wid_inj hI.nodup hx hwm e ▸ hp)
  refine LInv_upd hI hwm hwid hW' hf.gone hbf hn3 hn2
    (by rw [hf.workers, hf.cfg, hf.procs, hf.widCounter, hf.rAlive, hf.cpc, hf.rpc]) ?_
    (fun hr => (hI.rAliveIn hr).1) hI.rFactory hI.rIdle hI.pre
    (fun i hi x hx hix => have hp := hI.starting i hi x hx hix; ⟨hne x hx hp, hp⟩)
    (fun x hx _ => hI.notStarted x hx)
    (fun nw hnw x hx hxw => have hp := hI.rStarting nw hnw x hx hxw; ⟨hne x hx hp, hp⟩)
    hI.ready hI.joined hI.done
  unfold pending; rw [hf.rpc]
  rcases hf.replQ with hq | ⟨hq, hg⟩ <;> rw [hq]
  · exact Or.inl rfl
  · exact Or.inr ⟨by rw [List.filterMap_append, ← List.append_assoc]; rfl, hg⟩

/-- consumer pcs after `__enter__` / `until_all_ready` -/
def post : CPc → Bool
  | .enterStart _ | .readyWait _ => false
  | _ => true

theorem post_of_inCall {c : CPc} (h : inCall c = true) : post c = true := by
  cases c <;> first | rfl | cases h

theorem readyUpto_post {s : St} (h : post s.cpc = true) : readyUpto s = s.cfg.nWorkers := by
  unfold readyUpto; cases hc : s.cpc <;> first | rfl | (rw [hc] at h; cases h)

theorem pending_congr {s s' : St} (h1 : s'.rpc = s.rpc) (h2 : s'.replQ.filterMap id = s.replQ.filterMap id) :
    pending s' = pending s := by
  unfold pending; rw [h1, h2]

/-- The invariant looks at the state through `cfg`, `workers`, `procs`, `widCounter`, `rpc`, `rAlive`, the wids in `replQ`
and `cpc`.  A step that keeps the first seven keeps the invariant if it does not move the consumer, or moves it between
pcs after `__enter__`, in a call while the replace thread lives, to `rInitSet` / `rStart` only in a factory pool, and to
the joins of `__exit__` only past workers that have exited. -/
theorem LInv_frame {s s' : St} (hI : LInv s) (h1 : s'.cfg = s.cfg) (h2 : s'.workers = s.workers) (h3 : s'.procs = s.procs)
    (h4 : s'.widCounter = s.widCounter) (h5 : s'.rpc = s.rpc) (h6 : s'.rAlive = s.rAlive)
    (h7 : s'.replQ.filterMap id = s.replQ.filterMap id)
    (hc : s'.cpc = s.cpc ∨ (post s.cpc = true ∧ post s'.cpc = true ∧ (s.rAlive = true → inCall s'.cpc = true) ∧
      ((s'.cpc = .rInitSet ∨ s'.cpc = .rStart) → s.cfg.factory = true) ∧
      (∀ i, s'.cpc = .exitJoin i → ∀ j < i, ∀ wid, s.procs[j]? = some wid → s.cfg.joinTimeout = false →
        ExitedStrict s.workers wid) ∧
      (s'.cpc = .done → ∀ wid ∈ s.procs, s.cfg.joinTimeout = false → ExitedStrict s.workers wid))) : LInv s' := by
  have hp := pending_congr h5 h7
  constructor
  · rw [h2]; exact hI.nodup
  · rw [h2, h4]; exact hI.widLt
  · rw [h3, h4]; exact hI.procsLt
  · rw [h1, h4]; exact hI.nwLe
  · rw [h1, h2]; exact hI.wk
  · rw [h6, h1]
    rcases hc with hc | ⟨_, _, c1, _⟩
    · rw [hc]; exact hI.rAliveIn
    · exact fun hr => ⟨c1 hr, (hI.rAliveIn hr).2⟩
  · rw [h1]
    rcases hc with hc | ⟨_, _, _, c2, _⟩
    · rw [hc]; exact hI.rFactory
    · exact c2
  · rw [h6, h5]; exact hI.rIdle
  · rcases hc with hc | ⟨_, p2, _⟩
    · rw [hc, h3, h1, h4]; exact hI.pre
    · intro hh; cases hcpc : s'.cpc <;> rw [hcpc] at hh p2 <;> first | exact False.elim hh | cases p2
  · rcases hc with hc | ⟨_, p2, _⟩
    · rw [hc, h2]; exact hI.starting
    · intro i hi; rw [hi] at p2; cases p2
  · rw [h2, h5]
    rcases hc with hc | ⟨p1, _⟩
    · rw [hc]; exact hI.notStarted
    · intro w hw hpc
      rcases hI.notStarted w hw hpc with ⟨i, hi, _⟩ | hh
      · rw [hi] at p1; cases p1
      · exact Or.inr hh
  · rw [h5, h2]; exact hI.rStarting
  · rw [h1, h2]
    rcases hc with hc | ⟨p1, p2, _⟩
    · rw [readyUpto_congr hc h1]; exact hI.ready
    · rw [readyUpto_post p2, h1, ← readyUpto_post p1]; exact hI.ready
  · rw [h2, h3]; exact hI.listed
  · rw [hp]; exact hI.pendNodup
  · rw [hp, h3, h2]; exact hI.pend
  · rw [h3, h2, h1]
    rcases hc with hc | ⟨_, _, _, _, c3, _⟩
    · rw [hc]; exact hI.joined
    · exact c3
  · rw [h3, h2, h1]
    rcases hc with hc | ⟨_, _, _, _, _, c4⟩
    · rw [hc]; exact hI.done
    · exact c4

structure SameL (s s' : St) : Prop where
  cfg : s'.cfg = s.cfg
  workers : s'.workers = s.workers
  procs : s'.procs = s.procs
  widCounter : s'.widCounter = s.widCounter
  rpc : s'.rpc = s.rpc
  rAlive : s'.rAlive = s.rAlive
  replQ : s'.replQ = s.replQ

/-- the same fields as a tuple: `SameL` of a record update is one `rfl` -/
def lview (s : St) := (s.cfg, s.workers, s.procs, s.widCounter, s.rpc, s.rAlive, s.replQ)

theorem SameL.of_view {s s' : St} (h : lview s' = lview s) : SameL s s' := by
  simp only [lview, Prod.mk.injEq] at h
  exact ⟨h.1, h.2.1, h.2.2.1, h.2.2.2.1, h.2.2.2.2.1, h.2.2.2.2.2.1, h.2.2.2.2.2.2⟩

theorem stepF_same {s s' : St} (h : stepF s = some s') :
    SameL s s' ∧ s'.cpc = s.cpc ∧ s'.fRun = s.fRun ∧ s'.cur = s.cur := by
  cases (stepF_cases h).2 <;> exact ⟨.of_view rfl, rfl, rfl, rfl⟩

theorem LInv_stepF {s s' : St} (hI : LInv s) (h : stepF s = some s') : LInv s' :=
  have ⟨e, hc, _⟩ := stepF_same h
  LInv_frame hI e.cfg e.workers e.procs e.widCounter e.rpc e.rAlive (by rw [e.replQ]) (Or.inl hc)

theorem not_post_contra {c : CPc} (h : post c = true) :
    ¬ (match (generalizing := false) c with | .enterStart _ | .readyWait _ => True | _ => False) := by
  cases c <;> first | exact id | cases h

/-- the replace thread starts, takes a wid or the stop token from its queue, or stops: the wids still to be replaced stay
the same and no successor is about to be started -/
theorem LInv_rThread {s : St} (hI : LInv s) (hr : ∀ nw, s.rpc ≠ .start nw) (r : List (Option Nat)) (rp : RPc) (al : Bool)
    (hal : al = true → inCall s.cpc = true ∧ s.cfg.factory = true) (hrp : ∀ nw, rp ≠ .start nw)
    (hidle : al = false → rp = .idle)
    (hp : pending { s with replQ := r, rpc := rp, rAlive := al } = pending s) :
    LInv { s with replQ := r, rpc := rp, rAlive := al } := by
  constructor
  · exact hI.nodup
  · exact hI.widLt
  · exact hI.procsLt
  · exact hI.nwLe
  · exact hI.wk
  · exact hal
  · exact hI.rFactory
  · exact hidle
  · exact hI.pre
  · exact hI.starting
  · intro w hw hpc
    rcases hI.notStarted w hw hpc with hh | hh
    · exact Or.inl hh
    · exact absurd hh (hr _)
  · exact fun nw hh => absurd hh (hrp nw)
  · exact hI.ready
  · exact hI.listed
  · rw [hp]; exact hI.pendNodup
  · rw [hp]; exact hI.pend
  · exact hI.joined
  · exact hI.done

theorem LInv_stepR {s s' : St} (hI : LInv s) (h : stepR s = some s') : LInv s' := by
  obtain ⟨hal', hcases⟩ := stepR_cases h
  obtain ⟨hin, hfac⟩ := hI.rAliveIn hal'
  have hpost := post_of_inCall hin
  rcases hcases with ⟨r, hrpc, hq, rfl⟩ | ⟨wid, r, hrpc, hq, rfl⟩ | ⟨wid, hrpc, -, rfl⟩ | ⟨nw, w, hrpc, hg, rfl⟩
  · exact LInv_rThread hI (by rw [hrpc]; exact nofun) r .idle false nofun nofun (fun _ => rfl)
      (by unfold pending; simp [hrpc, hq])
  · exact LInv_rThread hI (by rw [hrpc]; exact nofun) r (.join wid) s.rAlive (fun _ => ⟨hin, hfac⟩) nofun
      (fun hh => by rw [hal'] at hh; cases hh) (by unfold pending; simp [hrpc, hq])
  · -- join: the successor takes the slot of the retired worker
    have hpend : pending s = wid :: s.replQ.filterMap id := by unfold pending; simp [hrpc]
    have hnd := hI.pendNodup
    rw [hpend, List.nodup_cons] at hnd
    have hwid := hI.pend wid (by rw [hpend]; simp)
    have hnone : ∀ w ∈ s.workers, w.pc ≠ .notStarted := by
      intro w hw hpc
      rcases hI.notStarted w hw hpc with ⟨i, hi, _⟩ | hh
      · rw [hi] at hpost; cases hpost
      · rw [hrpc] at hh; cases hh
    constructor <;> try dsimp only
    · rw [List.map_append, List.nodup_append]
      refine ⟨hI.nodup, by simp, ?_⟩
      intro a ha b hb
      simp [mkWorker] at hb; subst hb
      obtain ⟨w, hw, rfl⟩ := List.mem_map.1 ha
      have := hI.widLt w hw; omega
    · intro w hw
      rcases List.mem_append.1 hw with hw | hw
      · have := hI.widLt w hw; omega
      · simp [mkWorker] at hw; subst hw; simp
    · intro k hk
      obtain ⟨x, hx, rfl⟩ := List.mem_map.1 hk
      have := hI.procsLt x hx
      split <;> omega
    · have := hI.nwLe; omega
    · intro w hw
      rcases List.mem_append.1 hw with hw | hw
      · exact hI.wk w hw
      · simp at hw; subst hw; exact WInv_mk _ _
    · exact hI.rAliveIn
    · exact hI.rFactory
    · intro hh; rw [hal'] at hh; cases hh
    · intro hh; exact (not_post_contra hpost hh).elim
    · intro i hi; rw [hi] at hpost; cases hpost
    · intro w hw hpc
      rcases List.mem_append.1 hw with hw | hw
      · exact absurd hpc (hnone w hw)
      · simp at hw; subst hw; exact Or.inr rfl
    · intro nw hh w hw hwn
      simp only [RPc.start.injEq] at hh; subst hh
      rcases List.mem_append.1 hw with hw | hw
      · have := hI.widLt w hw; omega
      · simp at hw; subst hw; rfl
    · intro hr w hw hlt
      change w.wid < readyUpto s at hlt
      rcases List.mem_append.1 hw with hw | hw
      · exact hI.ready hr w hw hlt
      · simp at hw; subst hw
        rw [readyUpto_post hpost] at hlt
        have := hI.nwLe; simp [mkWorker] at hlt; omega
    · intro w hw hne
      rcases List.mem_append.1 hw with hw | hw
      · have h1 := hI.listed w hw hne
        have h2 : w.wid ≠ wid := fun e => by have := hwid.2 w hw e; rw [hne] at this; cases this
        exact List.mem_map.2 ⟨w.wid, h1, by simp [h2]⟩
      · simp at hw; subst hw
        exact List.mem_map.2 ⟨wid, hwid.1, by simp [mkWorker]⟩
    · unfold pending; simpa using hnd.2
    · intro k hk
      have hk' : k ∈ s.replQ.filterMap id := by unfold pending at hk; simpa using hk
      have hkp := hI.pend k (by rw [hpend]; exact List.mem_cons_of_mem _ hk')
      have hne : k ≠ wid := fun e => hnd.1 (e ▸ hk')
      refine ⟨List.mem_map.2 ⟨k, hkp.1, by simp [hne]⟩, ?_⟩
      intro w hw hwk
      rcases List.mem_append.1 hw with hw | hw
      · exact hkp.2 w hw hwk
      · simp at hw; subst hw
        have := hI.procsLt k hkp.1; simp [mkWorker] at hwk; omega
    · intro i hi; rw [hi] at hin; cases hin
    · intro hi; rw [hi] at hin; cases hin

  · -- start the successor
    obtain ⟨hwm, hwid⟩ := getWorker_some hg
    have hpc := hI.rStarting nw hrpc w hwm hwid
    refine LInv_upd (w' := { w with pc := .bfClear }) (c' := s.cpc) (rp' := .get) hI hwm rfl (WInv_start (hI.wk w hwm) hpc)
      (by rw [hpc]; exact nofun) id nofun (by rw [hpc]; exact nofun) rfl (.inl (by unfold pending; simp [hrpc, setWorker]))
      (fun _ => hin) hI.rFactory (fun hh => by rw [hal'] at hh; cases hh) hI.pre
      (fun i hi => by rw [hi] at hpost; cases hpost) ?_ nofun hI.ready
      (fun i hi => by rw [hi] at hin; cases hin) (fun hi => by rw [hi] at hin; cases hin)
    intro x hx hxw hxpc
    rcases hI.notStarted x hx hxpc with ⟨i, hi, _⟩ | hh
    · rw [hi] at hpost; cases hpost
    · rw [hrpc] at hh; cases hh; exact absurd hwid.symm hxw

end WindVerif.Pool
