import WindVerif.Proofs.Storage
/-!
Sessions of `TextFileStorage` (C14): `close()` / leaving the `with storage:` block (`Op.close`, one step at `Pc.xClose`) and
the store that follows it, which re-opens the process's own file in append mode (`oPathsGet`, `oOpenA`).
-/
namespace WindVerif.Storage

theorem fetch_closed (p0 : Proc) (h1 : p0.wOpen = false) (h2 : p0.rOpen = []) :
    (fetch p0).wOpen = false ∧ (fetch p0).rOpen = [] := by
  cases hs : Proc.script p0 with
  | nil => simp [fetch, hs, h1, h2]
  | cons op rest => cases op <;> simp only [fetch, hs] <;> (try split) <;> (try split) <;> simp_all

/-- `close()` is local: a `close` step changes nothing but the closing process's handles and results — the index, the paths,
the counters, the lock, the files and every other process are as before; the closing process keeps its identifier, has no
handle left and has recorded `ok` -/
theorem close_local {s s' : St} {i : Nat} {p : Proc} (hp : s.procs[i]? = some p) (hpc : p.pc = .xClose)
    (hs : step s i = some s') :
    s'.index = s.index ∧ s'.paths = s.paths ∧ s'.cnt = s.cnt ∧ s'.wf = s.wf ∧ s'.lock = s.lock ∧ s'.files = s.files ∧
    (∀ j, j ≠ i → s'.procs[j]? = s.procs[j]?) ∧
    ∃ p', s'.procs[i]? = some p' ∧ p'.results = p.results ++ [.ok] ∧ p'.ident = p.ident ∧ p'.wOpen = false ∧
      p'.rOpen = [] := by
  have hi := (List.getElem?_eq_some_iff.1 hp).1
  simp only [step, getProc_eq, hp, hpc, Option.some.injEq] at hs
  subst hs
  exact ⟨rfl, rfl, rfl, rfl, rfl, rfl, fun j hj => List.getElem?_set_ne (fun h => hj h.symm), _,
    List.getElem?_set_self hi, by simp, by simp, (fetch_closed _ rfl rfl).1, (fetch_closed _ rfl rfl).2⟩

theorem files_append_only (presize : Nat) (scripts : List (List Op)) (hnf : NoFlush scripts) (s : St)
    (hr : Reach presize scripts s) (sched : List Nat) (s' : St) (hs : run s sched = some s') (w : Nat)
    (c : List (Option Nat)) (h : fileOf s w = some c) : ∃ d, fileOf s' w = some (c ++ d) := by
  obtain ⟨sched0, hr⟩ := hr
  obtain ⟨hA, hB, _⟩ := reach_inv hnf hr
  exact (run_AB hA hB hs).2.fileMono w c h

theorem eq_take_append_two {α : Type} {l : List α} {n : Nat} {a b : α} (hl : l.length = n + 2) (ha : l[n]? = some a)
    (hb : l[n + 1]? = some b) : l = l.take n ++ [a, b] := by
  apply List.ext_getElem?
  intro k
  rcases Nat.lt_or_ge k n with h | h
  · rw [List.getElem?_append_left (by rw [List.length_take]; omega), List.getElem?_take_of_lt h]
  · rw [List.getElem?_append_right (by rw [List.length_take]; omega), List.length_take,
      Nat.min_eq_left (by omega)]
    rcases Nat.lt_or_ge k (n + 2) with h2 | h2
    · rcases Nat.eq_or_lt_of_le h with h3 | h3
      · subst h3; simpa using ha
      · have : k = n + 1 := by omega
        subst this
        have : n + 1 - n = 1 := by omega
        rw [this]; simpa using hb
    · rw [List.getElem?_eq_none (by omega), List.getElem?_eq_none (by simp; omega)]

/-- a store — the first one of a session and every later one, in particular the one that re-opened the file in append mode
after a `close` — writes at the end of the process's own file: at the moment the entry is published (`index.setitem`), the
file is what was there when `tell()` was evaluated (`c`, of length `off`) followed by exactly the line of the text; the new
entry is (own file, length of `c`), and what it denotes is that line -/
theorem reopen_appends (presize : Nat) (scripts : List (List Op)) (hnf : NoFlush scripts) (s s' : St)
    (hr : Reach presize scripts s) (i : Nat) (p : Proc) (hp : s.procs[i]? = some p) (hpc : p.pc = .sIdxSet)
    (hs : step s i = some s') :
    ∃ w c, p.ident = some w ∧ fileOf s w = some (c ++ [some p.text, none]) ∧ c.length = p.off ∧
      s'.index[p.gid]? = some (some (w, c.length)) ∧ fileOf s' w = fileOf s w ∧
      entryLine s' p.gid = some [some p.text, none] := by
  obtain ⟨sched0, hr⟩ := hr
  obtain ⟨hA, hB, _⟩ := reach_inv hnf hr
  have hB' := hB.step hA hs
  have hL := hA.loc i p hp
  have hLB := hB.loc i p hp
  have hid := hL.ident_of_isS (by simp [hpc, isS])
  have hlt := hLB.gidLt (Or.inr (Or.inr (Or.inr (Or.inr (Or.inr hpc)))))
  obtain ⟨c0, hc1, hc2, hc3, hc4⟩ := hLB.wrDone (Or.inr hpc)
  have hc0 := eq_take_append_two hc4 hc2 hc3
  have hlen : (c0.take p.off).length = p.off := by rw [List.length_take]; omega
  simp only [step, getProc_eq, hp, hpc, Option.some.injEq] at hs
  subst hs
  have hidx : (setProc { s with index := s.index.set p.gid (some (p.ident.getD 0, p.off)) } i
      { p with pc := .sCntRead }).index[p.gid]? = some (some (p.ident.getD 0, p.off)) := by
    simp only [setProc_index]; exact List.getElem?_set_self hlt
  refine ⟨p.ident.getD 0, c0.take p.off, hid, by rw [hc1, ← hc0], hlen, by rw [hlen]; exact hidx, rfl, ?_⟩
  obtain ⟨c', t', e1, e2, e3, e4⟩ := hB'.entry_line hidx
  have e1' : fileOf s (p.ident.getD 0) = some c' := e1
  rw [hc1] at e1'; cases e1'
  rw [hc2] at e2; cases e2
  exact e4

end WindVerif.Storage
