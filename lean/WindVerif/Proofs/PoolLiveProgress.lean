import WindVerif.Proofs.PoolLiveInv
/-! Liveness of the pool model (C02): the progress argument — under the invariants, some thread is enabled in every
state in which the caller has not finished. -/
namespace WindVerif.Pool

/-- what a worker needs to move -/
def wCan (s : St) (w : Worker) : WPc → Prop
  | .bfClear | .bfSet | .retire | .lockRel | .ending => True
  | .get => s.workQ ≠ []
  | .lockAcq => s.lock = none
  | .putNowait => w.held.isSome
  | .putBlock => w.held.isSome ∧ capFull s.cfg.resCap s.resQ = false
  | .notStarted | .exited => False

theorem stepW_isSome {s : St} {wid : Nat} {w : Worker} {pc : WPc} (hg : getWorker s wid = some w) (hpc : w.pc = pc)
    (h : wCan s w pc) : (stepW s wid).isSome = true := by
  unfold stepW
  rw [hg]
  cases pc <;> simp only [wCan] at h <;> simp only [hpc]
  case bfClear => split <;> rfl
  case bfSet => rfl
  case get =>
    cases hq : s.workQ with
    | nil => exact absurd hq h
    | cons a r =>
      cases a with
      | none => rfl
      | some i => dsimp only; split <;> rfl
  case lockAcq => simp [h]
  case putNowait =>
    cases hh : w.held with
    | none => rw [hh] at h; cases h
    | some i => dsimp only; split <;> rfl
  case lockRel => split <;> rfl
  case putBlock =>
    cases hh : w.held with
    | none => rw [hh] at h; cases h.1
    | some i => simp [h.2]
  case retire => rfl
  case ending => rfl

theorem stepR_isSome {s : St} (hal : s.rAlive = true)
    (h : match s.rpc with
      | .idle => False
      | .get => s.replQ ≠ []
      | .join wid => (workerExited s wid || s.cfg.joinTimeout) = true
      | .start nw => (getWorker s nw).isSome) : (stepR s).isSome = true := by
  unfold stepR
  simp only [hal, Bool.not_true, Bool.false_eq_true, if_false]
  cases hr : s.rpc <;> simp only [hr] at h ⊢
  case get =>
    cases hq : s.replQ with
    | nil => exact absurd hq h
    | cons a r => cases a <;> rfl
  case join wid => simp [h]
  case start nw =>
    cases hg : getWorker s nw with
    | none => rw [hg] at h; cases h
    | some w => rfl

theorem stepF_isSome {s : St} (hal : s.fAlive = true)
    (h : match s.fpc with
      | .idle => False
      | .put => capFull s.cfg.workCap s.workQ = false
      | .runWait => s.fRun = true
      | _ => True) : (stepF s).isSome = true := by
  unfold stepF
  simp only [hal, Bool.not_true, Bool.false_eq_true, if_false]
  cases hf : s.fpc <;> simp only [hf] at h ⊢
  case put => simp [h]
  case rdCnt => rfl
  case wrCnt => rfl
  case stopIsSet => split <;> rfl
  case runWait => simp only [h, if_true]; split <;> rfl
  case wrSending => rfl
  case token => rfl

/-- what the consumer needs to move -/
def cCan (s : St) : CPc → Prop
  | .enterStart i => ∃ wid w, s.procs[i]? = some wid ∧ getWorker s wid = some w
  | .readyWait i => ∃ wid w, s.procs[i]? = some wid ∧ getWorker s wid = some w ∧ w.bf = true
  | .midReady _ wid => ∃ w, getWorker s wid = some w ∧ w.bf = true
  | .fStart => s.cur.isSome
  | .lockAcq => s.lock = none
  | .getBlock => s.resQ ≠ []
  | .fJoin => s.fAlive = false
  | .rJoin => s.rAlive = false
  | .exitPut _ => capFull s.cfg.workCap s.workQ = false ∨ s.procs.all (workerExited s) = true
  | .exitJoin i => ∃ wid, s.procs[i]? = some wid ∧ workerExited s wid = true
  | .done => False
  | _ => True

theorem stepC_isSome {s : St} {c : CPc} (hpc : s.cpc = c) (h : cCan s c) : (stepC s).isSome = true := by
  unfold stepC
  cases c <;> simp only [cCan] at h <;> simp only [hpc]
  case enterStart i => obtain ⟨wid, w, h1, h2⟩ := h; simp only [h1, h2]; split <;> rfl
  case readyWait i => obtain ⟨wid, w, h1, h2, h3⟩ := h; simp only [h1, h2, h3, if_true]; split <;> rfl
  case midReady i wid => obtain ⟨w, h1, h2⟩ := h; simp only [h1, h2, if_true]; split <;> rfl
  case fStart => obtain ⟨c, hc⟩ := Option.isSome_iff_exists.1 h; simp only [hc]; rfl
  case lockAcq => simp only [h, Option.isNone_none, if_true]; rfl
  case getBlock =>
    cases hq : s.resQ with
    | nil => exact absurd hq h
    | cons a r => cases a <;> rfl
  case fJoin => simp only [h, Bool.false_eq_true, if_false]; split <;> rfl
  case rJoin => simp only [h, Bool.false_eq_true, if_false]; rfl
  case exitPut i =>
    cases hcf : capFull s.cfg.workCap s.workQ
    · simp only [Bool.false_eq_true, if_false]; split <;> rfl
    · simp only [h.resolve_left (by rw [hcf]; exact nofun), if_true]; rfl
  case exitJoin i => obtain ⟨wid, h1, h2⟩ := h; simp only [h1, h2, Bool.true_or, if_true]; rfl
  case rdSending | rdDataCnt | qsize1 | qsize2 | getNowait | lockRel | flowIsSet => split <;> rfl
  all_goals rfl

variable {s : St}

theorem worker_can (hL : LInv s) {w : Worker} {pc : WPc} (hw : w ∈ s.workers) (hpc : w.pc = pc) (h : wCan s w pc) :
    ∃ t, (step s t).isSome = true :=
  ⟨.w w.wid, stepW_isSome (getWorker_of_mem hL.nodup hw) hpc h⟩

theorem consumer_can {c : CPc} (hpc : s.cpc = c) (h : cCan s c) : ∃ t, (step s t).isSome = true :=
  ⟨.c, stepC_isSome hpc h⟩

theorem workerExited_of_mem (hL : LInv s) {w : Worker} (hw : w ∈ s.workers) (hpc : w.pc = .exited) :
    workerExited s w.wid = true := by
  unfold workerExited
  rw [getWorker_of_mem hL.nodup hw]
  simp [hpc]

theorem lock_progress (hL : LInv s) (hV : LiveInv s) {t : Tid} (hl : s.lock = some t) : ∃ t', (step s t').isSome = true := by
  rcases hV.lk.lockH t hl with ⟨_, hc⟩ | ⟨w, hw, _, hin⟩
  · cases hpc : s.cpc <;> rw [hpc] at hc <;> cases hc <;> exact consumer_can hpc trivial
  · cases hpc : w.pc <;> rw [hpc] at hin <;> cases hin
    · exact worker_can hL hw hpc (hV.lk.heldOf w hw (Or.inr (Or.inl hpc)))
    · exact worker_can hL hw hpc trivial

/-- a started, not exited worker can move, or (waiting for the lock) the lock holder can -/
theorem worker_progress (hL : LInv s) (hV : LiveInv s) {w : Worker} (hw : w ∈ s.workers) (h1 : w.pc ≠ .notStarted)
    (h2 : w.pc ≠ .exited) (h3 : w.pc = .get → s.workQ ≠ [])
    (h4 : w.pc = .putBlock → capFull s.cfg.resCap s.resQ = false) : ∃ t, (step s t).isSome = true := by
  by_cases hlk : w.pc = .lockAcq ∧ s.lock ≠ none
  · obtain ⟨t, ht⟩ := Option.ne_none_iff_exists'.1 hlk.2
    exact lock_progress hL hV ht
  · cases hpc : w.pc
    case notStarted => exact absurd hpc h1
    case exited => exact absurd hpc h2
    case get => exact worker_can hL hw hpc (h3 hpc)
    case lockAcq => exact worker_can hL hw hpc (Classical.not_not.1 fun h => hlk ⟨hpc, h⟩)
    case putNowait => exact worker_can hL hw hpc (hV.lk.heldOf w hw (Or.inr (Or.inl hpc)))
    case putBlock => exact worker_can hL hw hpc ⟨hV.lk.heldOf w hw (Or.inr (Or.inr (Or.inl hpc))), h4 hpc⟩
    all_goals exact worker_can hL hw hpc trivial

/-- a worker that has only `end()` left, or is on its way through `begin()`, can always move -/
theorem free_progress (hL : LInv s) {w : Worker} (hw : w ∈ s.workers)
    (hpc : w.pc = .ending ∨ w.pc = .bfClear ∨ w.pc = .bfSet) : ∃ t, (step s t).isSome = true := by
  rcases hpc with h | h | h <;> exact worker_can hL hw h trivial

/-- a live replace thread can move unless it waits on an empty queue — or (`join_timeout=None`) it waits in its join for a
retired worker that is still inside `end()`: then that worker can move -/
theorem repl_progress (hL : LInv s) (hV : LiveInv s) (hal : s.rAlive = true) (hq : s.rpc = .get → s.replQ ≠ []) :
    ∃ t, (step s t).isSome = true := by
  by_cases hend : ∃ wid, s.rpc = .join wid ∧ ∃ w ∈ s.workers, w.wid = wid ∧ w.pc = .ending
  · obtain ⟨wid, _, w, hw, _, hpe⟩ := hend
    exact free_progress hL hw (.inl hpe)
  refine ⟨.r, stepR_isSome hal ?_⟩
  cases hr : s.rpc <;> dsimp only
  · exact hV.rp.rNotIdle hal hr
  · exact hq hr
  · rename_i wid
    have hp : wid ∈ pending s := by unfold pending; simp [hr]
    obtain ⟨hin, hex⟩ := hL.pend wid hp
    obtain ⟨w, hw, hwid⟩ := hV.pr.procsEx wid hin
    subst hwid
    have hg := hex w hw rfl
    by_cases hpc : w.pc = .exited
    · rw [workerExited_of_mem hL hw hpc]; rfl
    · have hpe : w.pc = .ending := by
        cases hp : w.pc <;> rw [hp] at hg <;> first | rfl | exact absurd hp hpc | cases hg
      exact absurd ⟨w.wid, hr, w, hw, rfl, hpe⟩ hend
  · rename_i nw
    obtain ⟨w, hw, hwid⟩ := hV.pr.procsEx nw (hV.pr.rStartIn nw hr)
    rw [getWorker_of_mem' hL.nodup hw hwid]; rfl

theorem rAlive_of_rpc (hL : LInv s) (h : s.rpc ≠ .idle) : s.rAlive = true := by
  cases hr : s.rAlive
  · exact absurd (hL.rIdle hr) h
  · rfl

theorem start_progress (hL : LInv s) (hV : LiveInv s) {wid : Nat} (hr : s.rpc = .start wid) :
    ∃ t, (step s t).isSome = true :=
  repl_progress hL hV (rAlive_of_rpc hL (by rw [hr]; exact nofun)) (by rw [hr]; exact nofun)

/-- a listed worker outside `__enter__` and `__exit__`: it can move, or the lock holder, or the replace thread -/
theorem listed_progress (hL : LInv s) (hV : LiveInv s) (hc : rCall s.cpc = true) {w : Worker} (hw : w ∈ s.workers)
    (hin : w.wid ∈ s.procs) (h3 : w.pc = .get → s.workQ ≠ [])
    (h4 : w.pc = .putBlock → capFull s.cfg.resCap s.resQ = false) : ∃ t, (step s t).isSome = true := by
  by_cases h1 : w.pc = .notStarted
  · rcases hL.notStarted w hw h1 with ⟨i, hi, _⟩ | hr
    · rw [hi] at hc; cases hc
    · exact start_progress hL hV hr
  · by_cases h2 : w.pc = .exited
    · rcases hV.rp.exitedL w hw (gone_of_exited h2) hin with he | ⟨hf, hp⟩
      · rw [(rCall_cls hc 0).2.1] at he; cases he
      · refine repl_progress hL hV (hV.rp.rLive hf hc) ?_
        intro hg hq
        unfold pending at hp
        simp [hg, hq] at hp
    · exact worker_progress hL hV hw h1 h2 h3 h4

theorem procs_ne_nil (hV : LiveInv s) (hw : WellCfg s.cfg) : ∃ wid, wid ∈ s.procs := by
  have h1 := hV.pr.procsLen
  have h2 := hw.1
  cases hp : s.procs with
  | nil => rw [hp] at h1; simp at h1; omega
  | cons a r => exact ⟨a, by simp⟩

/-- something is in the work queue while a call runs: a worker takes it, or somebody else moves first -/
theorem avail_queue (hL : LInv s) (hV : LiveInv s) (hw : WellCfg s.cfg) (hc : rCall s.cpc = true) (hq : s.workQ ≠ [])
    (hr : capFull s.cfg.resCap s.resQ = false) : ∃ t, (step s t).isSome = true := by
  obtain ⟨wid, hin⟩ := procs_ne_nil hV hw
  obtain ⟨w, hwm, hwid⟩ := hV.pr.procsEx wid hin
  subst hwid
  exact listed_progress hL hV hc hwm hin (fun _ => hq) (fun _ => hr)

/-- a chunk is in a worker's hands: the worker delivers it, or the lock holder moves first -/
theorem avail_held (hS : SafeInv s) (hL : LInv s) (hV : LiveInv s) {w : Worker} (hw : w ∈ s.workers) (hh : w.held.isSome)
    (hr : capFull s.cfg.resCap s.resQ = false) : ∃ t, (step s t).isSome = true := by
  have hpc := hS.heldPc w hw hh
  refine worker_progress hL hV hw ?_ ?_ ?_ (fun _ => hr) <;> intro h <;> rw [h] at hpc <;> exact absurd hpc nofun

theorem exists_held_of_ne_nil (h : heldChunks s ≠ []) : ∃ w ∈ s.workers, w.held.isSome := by
  unfold heldChunks at h
  obtain ⟨i, hi⟩ := List.exists_mem_of_ne_nil _ h
  obtain ⟨w, hw, hwi⟩ := List.mem_filterMap.1 hi
  exact ⟨w, hw, by rw [hwi]; rfl⟩

theorem cur_of_loop (hS : SafeInv s) (hpc : s.cpc = .getBlock ∨ s.cpc = .fJoin) : s.cur.isSome := by
  cases hc : s.cur with
  | none => have := hS.noCall hc; rcases hpc with h | h <;> simp [preStart, h] at this
  | some c => rfl

/-- the heart of the matter: the consumer waits for a result, no result is queued, and not everything sent has been
emitted — then a chunk is on the work queue or in a worker's hands (ordered: the very chunk the buffer waits for) -/
theorem chunk_in_flight (hS : SafeInv s) (hV : LiveInv s) (hpc : s.cpc = .getBlock) (hq : s.resQ = [])
    (hlt : s.finished < sent s) : chunksOf s.workQ ≠ [] ∨ heldChunks s ≠ [] := by
  have hcur := cur_of_loop hS (.inl hpc)
  have hb : s.batch = [] := hS.batchEmpty (by rw [hpc]; trivial)
  have hp := hS.conserve hcur
  have hfin := hS.fin hcur
  by_cases h1 : chunksOf s.workQ = []
  · by_cases h2 : heldChunks s = []
    · exfalso
      have hpl : places s = s.buffer ++ curOut s := by
        unfold places; rw [h1, h2, hq, hb]; simp [chunksOf]
      rw [hpl] at hp
      have hlen := hp.length_eq
      simp only [List.length_append, List.length_range] at hlen
      obtain ⟨c, hc⟩ := Option.isSome_iff_exists.1 hcur
      cases ho : c.ordered
      · have := hS.unordered c hc ho
        rw [this] at hlen; simp at hlen; omega
      · have hco := hS.ordered c hc ho
        have hwf : s.wf < sent s := by rw [hco] at hfin; simp at hfin; omega
        have hm : s.wf ∈ s.buffer ++ curOut s := hp.mem_iff.2 (List.mem_range.2 hwf)
        rcases List.mem_append.1 hm with hm | hm
        · exact hV.cs.wfBuf hm
        · rw [hco] at hm; simp at hm
    · exact Or.inr h2
  · exact Or.inl h1

theorem finished_le_sent (hS : SafeInv s) (hcur : s.cur.isSome) : s.finished + s.buffer.length ≤ sent s := by
  have hp := (hS.conserve hcur).length_eq
  have hfin := hS.fin hcur
  unfold places at hp
  simp only [List.length_append, List.length_range] at hp
  omega

theorem flight_progress (hS : SafeInv s) (hL : LInv s) (hV : LiveInv s) (hw : WellCfg s.cfg) (hpc : s.cpc = .getBlock)
    (hq : s.resQ = []) (hlt : s.finished < sent s) : ∃ t, (step s t).isSome = true := by
  have hr : capFull s.cfg.resCap s.resQ = false := by rw [hq]; exact capFull_nil _
  rcases chunk_in_flight hS hV hpc hq hlt with h | h
  · apply avail_queue hL hV hw (by rw [hpc]; rfl) ?_ hr
    intro h0; rw [h0] at h; exact h rfl
  · obtain ⟨w, hwm, hh⟩ := exists_held_of_ne_nil h
    exact avail_held hS hL hV hwm hh hr

theorem getBlock_progress (hS : SafeInv s) (hL : LInv s) (hV : LiveInv s) (hw : WellCfg s.cfg) (hpc : s.cpc = .getBlock) :
    ∃ t, (step s t).isSome = true := by
  by_cases hq : s.resQ = []
  case neg => exact consumer_can hpc (hq)
  have hcur := cur_of_loop hS (.inl hpc)
  have hpre : preStart s = false := by unfold preStart; rw [hpc]
  have hal : s.fpc ≠ .idle → s.fAlive = true := by
    intro h; rw [hS.alive]; simpa using h
  have hfl := finished_le_sent hS hcur
  cases hf : s.fpc
  case idle =>
    have hsent : sent s = s.fTotal := by unfold sent; rw [hpre, hf, Option.isNone_eq_false_iff.2 hcur]; rfl
    by_cases hfin : s.finished = s.fTotal
    · have := hV.cs.token (by rw [hpc]; rfl) (hS.batchEmpty (by rw [hpc]; trivial))
        (woken_false_of hV (by rw [hpc]; rfl)) hf hfin
      rw [hq] at this; cases this
    · exact flight_progress hS hL hV hw hpc hq (by omega)
  case put =>
    cases hcf : capFull s.cfg.workCap s.workQ
    · exact ⟨.f, stepF_isSome (hal (by rw [hf]; exact nofun)) (by rw [hf]; exact hcf)⟩
    · exact avail_queue hL hV hw (by rw [hpc]; rfl) (ne_nil_of_capFull hcf) (by rw [hq]; exact capFull_nil _)
  case runWait =>
    cases hrun : s.fRun
    · have hbf := hV.cs.flow (by rw [hpc]; rfl) (by rw [hpc]; rfl) (Or.inl hrun)
      have hbl : 0 < s.buffer.length := by
        unfold bufferFull at hbf
        cases hrc : s.cfg.resCap with
        | none => rw [hrc] at hbf; cases hbf
        | some c =>
          rw [hrc] at hbf
          have := hw.2.1 c hrc
          simp at hbf; omega
      exact flight_progress hS hL hV hw hpc hq (by omega)
    · exact ⟨.f, stepF_isSome (hal (by rw [hf]; exact nofun)) (by rw [hf]; exact hrun)⟩
  all_goals exact ⟨.f, stepF_isSome (hal (by rw [hf]; exact nofun)) (by rw [hf]; trivial)⟩

theorem rAlive_false' (hL : LInv s) (h : inCall s.cpc = false) : s.rpc = .idle := hL.rIdle (rAlive_false hL h)

/-- a worker that is neither exited nor in the middle of a chunk, while no replace thread exists -/
theorem idle_worker_progress (hS : SafeInv s) (hL : LInv s) (hV : LiveInv s) (hcur : s.cur = none)
    (hic : inCall s.cpc = false) (hne : ∀ i, s.cpc ≠ .enterStart i) {w : Worker} (hw : w ∈ s.workers)
    (h2 : w.pc ≠ .exited) (h3 : w.pc = .get → s.workQ ≠ []) : ∃ t, (step s t).isSome = true := by
  have hheld : w.held = none := by
    have := (hS.idle hcur).2.1
    unfold heldChunks at this
    cases hh : w.held with
    | none => rfl
    | some i =>
      have hm : i ∈ s.workers.filterMap (·.held) := List.mem_filterMap.2 ⟨w, hw, hh⟩
      rw [this] at hm; cases hm
  apply worker_progress hL hV hw ?_ h2 h3
  · intro h
    have := hV.lk.heldOf w hw (Or.inr (Or.inr (Or.inl h)))
    rw [hheld] at this; cases this
  · intro h
    rcases hL.notStarted w hw h with ⟨i, hi, _⟩ | hr
    · exact hne i hi
    · rw [rAlive_false' hL hic] at hr; cases hr

/-- the consumer waits for `begin()` of worker `w` to complete (`until_all_ready()`, after `__enter__` or in the middle of
a call): `begin()` has completed and the consumer moves (`hc`), or the worker is on its way through `begin()` and moves,
or it has not been started yet — then the replace thread is about to start it -/
theorem ready_progress (hL : LInv s) (hV : LiveInv s) {w : Worker} (hwm : w ∈ s.workers)
    (hne : ∀ i, s.cpc ≠ .enterStart i) (hc : w.bf = true → ∃ t, (step s t).isSome = true) : ∃ t, (step s t).isSome = true := by
  cases hbf : w.bf
  · rcases hV.pr.bfPc w hwm hbf with h | h | h
    · rcases hL.notStarted w hwm h with ⟨j, hj, _⟩ | hr
      · exact absurd hj (hne j)
      · exact start_progress hL hV hr
    · exact free_progress hL hwm (.inr (.inl h))
    · exact free_progress hL hwm (.inr (.inr h))
  · exact hc hbf

theorem listed_at (hL : LInv s) (hV : LiveInv s) {i : Nat} (hidx : idxV s.cpc s.procs.length → i < s.procs.length) :
    ∃ wid w, s.procs[i]? = some wid ∧ getWorker s wid = some w ∧ w ∈ s.workers ∧ w.wid = wid := by
  have hi := hidx hV.pr.idx
  obtain ⟨w, hwm, hwid⟩ := hV.pr.procsEx s.procs[i] (List.getElem_mem hi)
  exact ⟨_, w, List.getElem?_eq_getElem hi, getWorker_of_mem' hL.nodup hwm hwid, hwm, hwid⟩

theorem readyWait_progress (hL : LInv s) (hV : LiveInv s) {i : Nat} (hpc : s.cpc = .readyWait i) :
    ∃ t, (step s t).isSome = true := by
  obtain ⟨wid, w, hp, hg, hwm, _⟩ := listed_at hL hV (i := i) (by rw [hpc]; exact id)
  exact ready_progress hL hV hwm (by rw [hpc]; exact fun _ => nofun)
    (fun hbf => consumer_can hpc ⟨wid, w, hp, hg, hbf⟩)

theorem midReady_progress (hL : LInv s) (hV : LiveInv s) (hM : MidI s) {i wid : Nat} (hpc : s.cpc = .midReady i wid) :
    ∃ t, (step s t).isSome = true := by
  obtain ⟨w, hwm, hwid⟩ := hM.ex i wid hpc
  exact ready_progress hL hV hwm (by rw [hpc]; exact fun _ => nofun)
    (fun hbf => consumer_can hpc ⟨w, getWorker_of_mem' hL.nodup hwm hwid, hbf⟩)

theorem enterStart_progress (hL : LInv s) (hV : LiveInv s) {i : Nat} (hpc : s.cpc = .enterStart i) :
    (step s .c).isSome = true := by
  obtain ⟨wid, w, hp, hg, _⟩ := listed_at hL hV (i := i) (by rw [hpc]; exact id)
  exact stepC_isSome hpc ⟨wid, w, hp, hg⟩

theorem fJoin_progress (hS : SafeInv s) (hpc : s.cpc = .fJoin) : ∃ t, (step s t).isSome = true := by
  cases hal : s.fAlive
  · exact consumer_can hpc (hal)
  · refine ⟨.f, stepF_isSome hal ?_⟩
    have hsend := (hS.post (by simp [postLoop, hpc])).1
    have hst := hS.sendingTrue (by simp [preStart, hpc]) (cur_of_loop hS (.inr hpc))
    have hne : s.fpc ≠ .idle := by have := hS.alive; rw [hal] at this; simpa using this.symm
    cases hf : s.fpc <;> simp only [hf] at hne hst ⊢ <;> first | trivial | (exfalso; simp [hsend] at hst) | exact absurd rfl hne

theorem rJoin_progress (hL : LInv s) (hV : LiveInv s) (hpc : s.cpc = .rJoin) : ∃ t, (step s t).isSome = true := by
  cases hal : s.rAlive
  · exact consumer_can hpc (hal)
  · refine repl_progress hL hV hal ?_
    intro _
    have := hV.rp.tokR
    rw [hpc, hal] at this
    exact ne_nil_of_noneCount_pos (by rw [this]; exact Nat.one_pos)

theorem exists_live_of_liveCnt (h : 0 < liveCnt s) : ∃ w ∈ s.workers, w.pc ≠ .exited := by
  unfold liveCnt at h
  obtain ⟨w, hw, hp⟩ := List.countP_pos_iff.1 h
  exact ⟨w, hw, not_exited_of_not_gone (by simpa using hp)⟩

theorem liveCnt_pos_of_mem {w : Worker} (hw : w ∈ s.workers) (h : gone w.pc = false) : 0 < liveCnt s := by
  unfold liveCnt
  exact List.countP_pos_iff.2 ⟨w, hw, by simpa using h⟩

theorem noEnding_or_progress (hL : LInv s) : NoEnding s ∨ ∃ t, (step s t).isSome = true := by
  by_cases hE : ∃ w ∈ s.workers, w.pc = .ending
  · obtain ⟨w, hw, hpc⟩ := hE
    exact .inr (free_progress hL hw (.inl hpc))
  · exact .inl fun w hw hpc => hE ⟨w, hw, hpc⟩

/-- the stop orders of `__exit__` (D19 repaired: no bound on the work queue is needed): on a full queue either somebody
is alive — then a worker (or the holder of the lock it waits for) can move, the queue being non-empty — or every listed
worker has an exit code and the consumer leaves the loop -/
theorem exitPut_progress (hS : SafeInv s) (hL : LInv s) (hV : LiveInv s) {i : Nat}
    (hpc : s.cpc = .exitPut i) : ∃ t, (step s t).isSome = true := by
  cases hcf : capFull s.cfg.workCap s.workQ
  · exact consumer_can hpc (.inl hcf)
  · rcases Nat.eq_zero_or_pos (liveCnt s) with h0 | hpos
    · rcases noEnding_or_progress hL with hE | hp
      · exact consumer_can hpc (.inr (all_exited_of_liveCnt_zero hL hE hV.pr.procsEx h0))
      · exact hp
    · obtain ⟨w, hwm, hne⟩ := exists_live_of_liveCnt (s := s) hpos
      exact idle_worker_progress hS hL hV (hV.cs.curNone (by rw [hpc]; rfl)) (by rw [hpc]; rfl)
        (by rw [hpc]; exact fun _ => nofun) hwm hne (fun _ => ne_nil_of_capFull hcf)

theorem exitJoin_progress (hS : SafeInv s) (hL : LInv s) (hV : LiveInv s) {i : Nat} (hpc : s.cpc = .exitJoin i) :
    ∃ t, (step s t).isSome = true := by
  obtain ⟨wid, w, hp, _, hwm, hwid⟩ := listed_at hL hV (i := i) (by rw [hpc]; exact id)
  by_cases hex : w.pc = .exited
  · exact consumer_can hpc (⟨wid, hp, hwid ▸ workerExited_of_mem hL hwm hex⟩)
  · by_cases hend : w.pc = .ending
    case pos => exact free_progress hL hwm (.inl hend)
    have h2 := hV.ct.cnt2 (by rw [hpc]; rfl)
    unfold stopsSent at h2; rw [hpc] at h2; simp only [stopsV] at h2
    have hpos := liveCnt_pos_of_mem hwm (not_gone_of_ne hex hend)
    exact idle_worker_progress hS hL hV (hV.cs.curNone (by rw [hpc]; rfl)) (by rw [hpc]; rfl)
      (by rw [hpc]; exact fun _ => nofun) hwm hex (fun _ => ne_nil_of_noneCount_pos (by omega))

theorem progress (hS : SafeInv s) (hL : LInv s) (hV : LiveInv s) (hM : MidI s) (hw : WellCfg s.cfg)
    (hnd : s.cpc ≠ .done) : ∃ t, (step s t).isSome = true := by
  cases hpc : s.cpc
  case enterStart i => exact ⟨.c, enterStart_progress hL hV hpc⟩
  case midReady i wid => exact midReady_progress hL hV hM hpc
  case readyWait i => exact readyWait_progress hL hV hpc
  case lockAcq =>
    cases hl : s.lock with
    | none => exact consumer_can hpc (hl)
    | some t => exact lock_progress hL hV hl
  case getBlock => exact getBlock_progress hS hL hV hw hpc
  case fJoin => exact fJoin_progress hS hpc
  case rJoin => exact rJoin_progress hL hV hpc
  case exitPut i => exact exitPut_progress hS hL hV hpc
  case exitJoin i => exact exitJoin_progress hS hL hV hpc
  case done => exact absurd hpc hnd
  case fStart => exact consumer_can hpc (hV.cs.curSome (by rw [hpc]; rfl))
  all_goals exact consumer_can hpc trivial

end WindVerif.Pool
