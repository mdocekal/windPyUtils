import WindVerif.Model.StorageSeq
/-! The sequential model of `TextFileStorage` (C14): the counters agree with the index after every script (`Inv`), and a store
whose write raises leaves the identifier free. -/
namespace WindVerif.StorageSeq

def cnt (l : List (Option Nat)) : Nat := l.countP Option.isSome

/-- length of the leading block of stored entries = the smallest id that is not stored -/
def pl (l : List (Option Nat)) : Nat := (l.takeWhile Option.isSome).length

theorem getD_nil (i : Nat) : ([] : List (Option Nat)).getD i none = none := by simp

@[simp] theorem pl_none (r : List (Option Nat)) : pl (none :: r) = 0 := rfl
@[simp] theorem pl_some (t : Nat) (r : List (Option Nat)) : pl (some t :: r) = pl r + 1 := rfl
@[simp] theorem cnt_none (r : List (Option Nat)) : cnt (none :: r) = cnt r := by simp [cnt]
@[simp] theorem cnt_some (t : Nat) (r : List (Option Nat)) : cnt (some t :: r) = cnt r + 1 := by simp [cnt]

theorem getD_of_le (l : List (Option Nat)) (i : Nat) (h : l.length ≤ i) : l.getD i none = none := by
  simp [List.getD_eq_getElem?_getD, List.getElem?_eq_none h]

theorem lt_of_getD_isSome (l : List (Option Nat)) (i : Nat) (h : (l.getD i none).isSome = true) : i < l.length := by
  apply Classical.byContradiction
  intro hn
  rw [getD_of_le l i (by omega)] at h
  simp at h

theorem pl_le_cnt (l : List (Option Nat)) : pl l ≤ cnt l := by
  induction l with
  | nil => exact Nat.le_refl _
  | cons a r ih => cases a <;> simp [ih]

theorem cnt_le_length (l : List (Option Nat)) : cnt l ≤ l.length := List.countP_le_length

theorem pl_prefix (l : List (Option Nat)) : ∀ i, i < pl l → (l.getD i none).isSome = true := by
  induction l with
  | nil => intro i hi; cases hi
  | cons a r ih =>
    intro i hi
    cases a with
    | none => cases hi
    | some t => cases i with
      | zero => rfl
      | succ j => exact ih j (by simpa using hi)

theorem pl_stop (l : List (Option Nat)) : (l.getD (pl l) none).isSome = false := by
  induction l with
  | nil => rfl
  | cons a r ih => cases a with
    | none => rfl
    | some t => simpa using ih

theorem le_pl (l : List (Option Nat)) (w : Nat) (h1 : ∀ i, i < w → (l.getD i none).isSome = true) : w ≤ pl l := by
  apply Classical.byContradiction
  intro hn
  have := h1 (pl l) (by omega)
  rw [pl_stop] at this
  cases this

theorem pl_unique (l : List (Option Nat)) (w : Nat) (h1 : ∀ i, i < w → (l.getD i none).isSome = true)
    (h2 : (l.getD w none).isSome = false) : pl l = w := by
  refine Nat.le_antisymm (Nat.le_of_not_lt fun h => ?_) (le_pl l w h1)
  have := pl_prefix l w h
  rw [h2] at this
  cases this

theorem getD_none_of_cnt_zero (l : List (Option Nat)) (h : cnt l = 0) (i : Nat) : l.getD i none = none := by
  induction l generalizing i with
  | nil => simp
  | cons a r ih =>
    cases a with
    | some t => simp at h
    | none => cases i with
      | zero => rfl
      | succ j => simpa using ih (by simpa using h) j

theorem pl_eq_cnt_iff (l : List (Option Nat)) :
    pl l = cnt l ↔ ∀ i, (l.getD i none).isSome = true ↔ i < cnt l := by
  induction l with
  | nil => simp [pl, cnt]
  | cons a r ih =>
    cases a with
    | some t =>
      rw [pl_some, cnt_some]
      constructor
      · intro h i
        have h' := ih.1 (by omega)
        cases i with
        | zero => simp
        | succ j => rw [List.getD_cons_succ, h' j]; omega
      · intro h
        have : pl r = cnt r := by
          apply ih.2
          intro j
          have := h (j + 1)
          rw [List.getD_cons_succ] at this
          rw [this]; omega
        omega
    | none =>
      rw [pl_none, cnt_none]
      constructor
      · intro h i
        cases i with
        | zero => simp; omega
        | succ j =>
          rw [List.getD_cons_succ, getD_none_of_cnt_zero r h.symm j]
          simp; omega
      · intro h
        have := h 0
        simp at this
        omega

theorem getD_extend (idx : List (Option Nat)) (g i : Nat) : (extend idx g).getD i none = idx.getD i none := by
  unfold extend
  split
  · by_cases hi : i < idx.length
    · simp [List.getD_eq_getElem?_getD, List.getElem?_append_left hi]
    · rw [getD_of_le idx i (by omega)]
      simp only [List.getD_eq_getElem?_getD]
      rw [List.getElem?_append_right (by omega)]
      simp only [List.getElem?_replicate]
      split <;> rfl
  · rfl

theorem lt_length_extend (idx : List (Option Nat)) (g : Nat) : g < (extend idx g).length := by
  unfold extend
  split
  · simp; omega
  · omega

theorem length_extend_ge (idx : List (Option Nat)) (g : Nat) : idx.length ≤ (extend idx g).length := by
  unfold extend
  split
  · simp
  · omega

theorem extend_of_lt (idx : List (Option Nat)) (g : Nat) (h : g < idx.length) : extend idx g = idx := by
  unfold extend
  rw [if_neg (by omega)]

theorem extend_eq_append (idx : List (Option Nat)) (g : Nat) : ∃ k, extend idx g = idx ++ List.replicate k none := by
  unfold extend
  split
  · exact ⟨_, rfl⟩
  · exact ⟨0, by simp⟩

theorem cnt_extend (idx : List (Option Nat)) (g : Nat) : cnt (extend idx g) = cnt idx := by
  obtain ⟨k, hk⟩ := extend_eq_append idx g
  rw [hk]
  simp [cnt, List.countP_append, List.countP_replicate]

theorem pl_extend (idx : List (Option Nat)) (g : Nat) : pl (extend idx g) = pl idx := by
  apply pl_unique
  · intro i hi
    rw [getD_extend]
    exact pl_prefix idx i hi
  · rw [getD_extend]
    exact pl_stop idx

theorem getD_set (l : List (Option Nat)) (g i : Nat) (v : Option Nat) (hg : g < l.length) :
    (l.set g v).getD i none = if i = g then v else l.getD i none := by
  simp only [List.getD_eq_getElem?_getD, List.getElem?_set]
  by_cases h : g = i
  · subst h; simp [hg]
  · have h' : ¬ i = g := fun e => h e.symm
    simp [h, h']

theorem cnt_set (l : List (Option Nat)) (g t : Nat) (hg : g < l.length) (hfree : (l.getD g none).isSome = false) :
    cnt (l.set g (some t)) = cnt l + 1 := by
  induction l generalizing g with
  | nil => simp at hg
  | cons a r ih =>
    cases g with
    | zero =>
      rw [List.getD_cons_zero] at hfree
      cases a with
      | some x => simp at hfree
      | none => simp [cnt]
    | succ j =>
      rw [List.getD_cons_succ] at hfree
      have := ih j (by simpa using hg) hfree
      simp only [cnt, List.set_cons_succ, List.countP_cons] at this ⊢
      omega

theorem advance_spec (idx : List (Option Nat)) (stored : Nat) :
    ∀ (fuel w : Nat), stored - w ≤ fuel → (∀ i, i < w → (idx.getD i none).isSome = true) →
      (∀ i, i < advance idx stored fuel w → (idx.getD i none).isSome = true) ∧
        (stored ≤ advance idx stored fuel w ∨ (idx.getD (advance idx stored fuel w) none).isSome = false) := by
  intro fuel
  induction fuel with
  | zero =>
    intro w hf hw
    simp only [advance]
    exact ⟨hw, Or.inl (by omega)⟩
  | succ f ih =>
    intro w hf hw
    simp only [advance]
    split
    · rename_i hc
      apply ih (w + 1) (by omega)
      intro i hi
      by_cases h : i < w
      · exact hw i h
      · have : i = w := by omega
        subst this; exact hc.2
    · rename_i hc
      refine ⟨hw, ?_⟩
      by_cases h : w < stored
      · right
        cases hx : (idx.getD w none).isSome with
        | false => rfl
        | true => exact absurd ⟨h, hx⟩ hc
      · left; omega

/-- the fuel `stored - w` suffices: when the loop of the model stops, the condition of the `while` is false -/
theorem advance_fuel (idx : List (Option Nat)) (stored w : Nat) :
    ¬ (advance idx stored (stored - w) w < stored ∧ (idx.getD (advance idx stored (stored - w) w) none).isSome = true) := by
  induction hf : stored - w generalizing w with
  | zero => simp only [advance]; omega
  | succ f ih =>
    simp only [advance]
    split
    · exact ih (w + 1) (by omega)
    · rename_i hc; exact hc

/-- `_stored_cnt` is the number of stored ids, `_waiting_for` the smallest id that is not stored -/
def Inv (s : St) : Prop := s.stored = cnt s.index ∧ s.waiting = pl s.index

theorem inv_empty : Inv St.empty := by simp [Inv, St.empty, cnt, pl]

theorem inv_init (n : Nat) : Inv (St.init n) := by
  refine ⟨?_, ?_⟩
  · simp [St.init, cnt, List.countP_replicate]
  · simp only [St.init]
    symm
    apply pl_unique
    · intro i hi; omega
    · cases n <;> simp [List.getD_eq_getElem?_getD]

theorem store_taken (s : St) (g t : Nat) (ok : Bool) (h : (s.get g).isSome = true) :
    store s g t ok = (s, .valueError) := by
  have hg : g < s.index.length := lt_of_getD_isSome _ _ h
  have he : extend s.index g = s.index := extend_of_lt _ _ hg
  have h' : (s.index.getD g none).isSome = true := h
  simp only [store, he]
  rw [if_pos h']

theorem store_raised (s : St) (g t : Nat) (h : (s.get g).isSome = false) :
    store s g t false = ({ s with index := extend s.index g }, .raised) := by
  have h' : ((extend s.index g).getD g none).isSome = false := by rw [getD_extend]; exact h
  have hc : ¬ (((extend s.index g).getD g none).isSome = true) := by rw [h']; exact Bool.false_ne_true
  simp only [store]
  rw [if_neg hc]
  simp

theorem store_ok (s : St) (g t : Nat) (h : (s.get g).isSome = false) :
    store s g t true =
      (⟨(extend s.index g).set g (some t), s.stored + 1,
        if g = s.waiting then
          advance ((extend s.index g).set g (some t)) (s.stored + 1) (s.stored + 1 - (s.waiting + 1)) (s.waiting + 1)
        else s.waiting⟩, .ok) := by
  have h' : ((extend s.index g).getD g none).isSome = false := by rw [getD_extend]; exact h
  have hc : ¬ (((extend s.index g).getD g none).isSome = true) := by rw [h']; exact Bool.false_ne_true
  simp only [store]
  rw [if_neg hc]
  simp

theorem inv_store (s : St) (g t : Nat) (ok : Bool) (hinv : Inv s) : Inv (store s g t ok).1 := by
  cases hfree : (s.get g).isSome with
  | true => rw [store_taken s g t ok hfree]; exact hinv
  | false =>
    cases ok with
    | false =>
      rw [store_raised s g t hfree]
      exact ⟨by simp only [cnt_extend]; exact hinv.1, by simp only [pl_extend]; exact hinv.2⟩
    | true =>
      rw [store_ok s g t hfree]
      obtain ⟨h1, h2⟩ := hinv
      have hlen := lt_length_extend s.index g
      have hfree' : ((extend s.index g).getD g none).isSome = false := by rw [getD_extend]; exact hfree
      have hcnt : cnt ((extend s.index g).set g (some t)) = s.stored + 1 := by
        rw [cnt_set _ g t hlen hfree', cnt_extend, h1]
      refine ⟨hcnt.symm, ?_⟩
      simp only
      have hbelow : ∀ i, i < s.waiting → (((extend s.index g).set g (some t)).getD i none).isSome = true := by
        intro i hi
        rw [getD_set _ _ _ _ hlen]
        split
        · rfl
        · rw [getD_extend]; exact pl_prefix _ _ (by omega)
      by_cases hg : g = s.waiting
      · rw [if_pos hg]
        have hstart : ∀ i, i < s.waiting + 1 → (((extend s.index g).set g (some t)).getD i none).isSome = true := by
          intro i hi
          by_cases h : i < s.waiting
          · exact hbelow i h
          · have : i = g := by omega
            rw [getD_set _ _ _ _ hlen, if_pos this]; rfl
        obtain ⟨ha, hb⟩ := advance_spec ((extend s.index g).set g (some t)) (s.stored + 1)
          (s.stored + 1 - (s.waiting + 1)) (s.waiting + 1) (Nat.le_refl _) hstart
        rcases hb with hb | hb
        · have hle := le_pl _ _ ha
          have := pl_le_cnt ((extend s.index g).set g (some t))
          omega
        · exact (pl_unique _ _ ha hb).symm
      · rw [if_neg hg]
        symm
        apply pl_unique _ _ hbelow
        rw [getD_set _ _ _ _ hlen, if_neg (fun e => hg e.symm), getD_extend, h2]
        exact pl_stop _

theorem inv_step (s : St) (op : Op) (hinv : Inv s) : Inv (step s op).1 := by
  cases op with
  | store g t ok => exact inv_store s g t ok hinv
  | flush => exact inv_empty
  | _ => exact hinv

theorem inv_run (ops : List Op) : ∀ (s : St), Inv s → Inv (run s ops) := by
  induction ops with
  | nil => intro s h; exact h
  | cons op ops ih => intro s h; exact ih _ (inv_step s op h)

/-- the loop reads `self._index[w]` only inside the index -/
theorem loop_reads_in_range (idx : List (Option Nat)) (w : Nat) (h : w < cnt idx) : w < idx.length := by
  have := cnt_le_length idx
  omega

theorem read_eq (s : St) (g : Nat) :
    read s g = match s.get g with | none => .indexError | some t => .text t := by
  unfold read St.get
  split
  · rename_i h
    rw [getD_of_le _ _ h]
  · rfl

theorem iter_eq (s : St) : iter s = s.index.filterMap id := by
  unfold iter
  have h1 : (fun i => (read s i).text?) = (fun i => s.index.getD i none) := by
    funext i
    rw [read_eq]
    unfold St.get
    cases s.index.getD i none <;> rfl
  rw [h1]
  have h2 : (List.range s.index.length).map (fun i => s.index.getD i none) = s.index := by
    apply List.ext_getElem
    · simp
    · intro i hi1 hi2
      simp [List.getD_eq_getElem?_getD, List.getElem?_eq_getElem hi2]
  conv => rhs; rw [← h2]
  rw [List.filterMap_map]
  rfl

def storedIds (s : St) : List Nat := (List.range s.index.length).filter (fun i => (s.get i).isSome)

theorem mem_storedIds (s : St) (i : Nat) : i ∈ storedIds s ↔ (s.get i).isSome = true := by
  simp only [storedIds, List.mem_filter, List.mem_range]
  constructor
  · exact fun h => h.2
  · exact fun h => ⟨lt_of_getD_isSome _ _ h, h⟩

theorem storedIds_sorted (s : St) : (storedIds s).Pairwise (· < ·) :=
  List.Pairwise.sublist List.filter_sublist List.pairwise_lt_range

theorem iter_storedIds (s : St) : (iter s).map some = (storedIds s).map s.get := by
  unfold iter storedIds
  have h1 : (fun i => (read s i).text?) = s.get := by
    funext i
    rw [read_eq]
    cases s.get i <;> rfl
  rw [h1]
  generalize List.range s.index.length = ids
  induction ids with
  | nil => rfl
  | cons a r ih =>
    cases h : s.get a with
    | none => simp [h, ih]
    | some t => simp [h, ih]

/-- a store of a free id whose write raises: result `raised`; the map id → text, `len`, `_waiting_for`, `is_contiguous`, every
read and the iteration are as before — in particular reading `g` raises `IndexError` — and a following store of `g`
succeeds and is read back -/
theorem failed_store_frees_id (s : St) (g t t' : Nat) (hfree : s.get g = none) :
    (store s g t false).2 = .raised ∧
    (∀ i, (store s g t false).1.get i = s.get i) ∧
    read (store s g t false).1 g = .indexError ∧
    (∀ i, read (store s g t false).1 i = read s i) ∧
    len (store s g t false).1 = len s ∧
    (store s g t false).1.waiting = s.waiting ∧
    contiguous (store s g t false).1 = contiguous s ∧
    iter (store s g t false).1 = iter s ∧
    (store (store s g t false).1 g t' true).2 = .ok ∧
    read (store (store s g t false).1 g t' true).1 g = .text t' := by
  have hf : (s.get g).isSome = false := by rw [hfree]; rfl
  rw [store_raised s g t hf]
  have hget : ∀ i, St.get { s with index := extend s.index g } i = s.get i := by
    intro i; simp only [St.get, getD_extend]
  have hread : ∀ i, read { s with index := extend s.index g } i = read s i := by
    intro i; rw [read_eq, read_eq, hget]
  have hf' : (St.get { s with index := extend s.index g } g).isSome = false := by rw [hget]; exact hf
  refine ⟨rfl, hget, ?_, hread, rfl, rfl, rfl, ?_, ?_, ?_⟩
  · rw [hread, read_eq, hfree]
  · rw [iter_eq, iter_eq]
    obtain ⟨k, hk⟩ := extend_eq_append s.index g
    rw [hk, List.filterMap_append, List.filterMap_replicate_of_none rfl, List.append_nil]
  · rw [store_ok _ g t' hf']
  · rw [store_ok _ g t' hf', read_eq]
    simp only [St.get]
    rw [getD_set _ _ _ _ (lt_length_extend _ _), if_pos rfl]

/-- a successful store of `g`; then every further store of `g` (whatever the text, whether or not its write would raise)
raises `ValueError` and changes nothing -/
theorem store_once (s : St) (g t t' : Nat) (ok' : Bool) (hfree : s.get g = none) :
    (store s g t true).2 = .ok ∧ read (store s g t true).1 g = .text t ∧
    store (store s g t true).1 g t' ok' = ((store s g t true).1, .valueError) := by
  have hf : (s.get g).isSome = false := by rw [hfree]; rfl
  have hget : (store s g t true).1.get g = some t := by
    rw [store_ok s g t hf]
    simp only [St.get]
    rw [getD_set _ _ _ _ (lt_length_extend _ _), if_pos rfl]
  refine ⟨by rw [store_ok s g t hf], by rw [read_eq, hget], ?_⟩
  exact store_taken _ g t' ok' (by rw [hget]; rfl)

/-- the other ids are not touched by a store (successful or not) -/
theorem store_other (s : St) (g t i : Nat) (ok : Bool) (hne : i ≠ g) : (store s g t ok).1.get i = s.get i := by
  cases hfree : (s.get g).isSome with
  | true => rw [store_taken s g t ok hfree]
  | false =>
    cases ok with
    | false => rw [store_raised s g t hfree]; simp only [St.get, getD_extend]
    | true =>
      rw [store_ok s g t hfree]
      simp only [St.get]
      rw [getD_set _ _ _ _ (lt_length_extend _ _), if_neg hne, getD_extend]

/-- after any script from the initial state: `len` is the number of ids holding a text = the number of texts iterated -/
theorem len_is_count (n : Nat) (ops : List Op) :
    len (run (St.init n) ops) = (storedIds (run (St.init n) ops)).length ∧
    len (run (St.init n) ops) = (iter (run (St.init n) ops)).length := by
  have hinv := inv_run ops _ (inv_init n)
  generalize run (St.init n) ops = s at hinv
  have h2 : (iter s).length = (storedIds s).length := by
    have := congrArg List.length (iter_storedIds s)
    simpa using this
  have h1 : len s = (iter s).length := by
    unfold len
    rw [hinv.1, iter_eq]
    unfold cnt
    generalize s.index = l
    induction l with
    | nil => rfl
    | cons a r ih => cases a <;> simp [ih]
  exact ⟨h1.trans h2, h1⟩

/-- after any script from the initial state: `is_contiguous()` is true exactly when the ids holding a text are
`0 … len-1` -/
theorem contiguous_iff (n : Nat) (ops : List Op) :
    contiguous (run (St.init n) ops) = true ↔
      ∀ i, ((run (St.init n) ops).get i).isSome = true ↔ i < len (run (St.init n) ops) := by
  have hinv := inv_run ops _ (inv_init n)
  generalize run (St.init n) ops = s at hinv
  unfold contiguous len St.get
  rw [hinv.1, hinv.2]
  simp only [beq_iff_eq]
  exact pl_eq_cnt_iff s.index

end WindVerif.StorageSeq
