import WindVerif.Proofs.FMapCall
/-! The invariant `Inv` is inductive: it holds initially and every step of a worker or of the caller preserves it. -/
namespace WindVerif.FMap

theorem phaseOK_workers {cfg : Cfg} {s : St} {q : List (Option Nat)} {r : List Nat} {ws : List Worker}
    (h : PhaseOK cfg s) (e : ∀ i, s.ppc = .start i → (∀ w ∈ s.workers, s.base + i ≤ w.wid → w.pc = .notStarted) →
      ∀ w ∈ ws, s.base + i ≤ w.wid → w.pc = .notStarted) :
    PhaseOK cfg { s with workQ := q, resQ := r, workers := ws } := by
  unfold PhaseOK at *
  cases hp : s.ppc <;> simp only [hp] at h ⊢ <;> try exact h
  exact ⟨h.1, h.2.1, h.2.2.1, h.2.2.2.1, h.2.2.2.2.1, h.2.2.2.2.2.1, e _ hp h.2.2.2.2.2.2⟩

/-- A worker `w` that has not exited turns into `w'`, the queues become `q` and `r` and the caller's program counter `X`:
what such a move has to satisfy. -/
theorem main_setWorker {cfg : Cfg} {s : St} {l1 l2 : List Worker} {w w' : Worker} {q : List (Option Nat)} {r : List Nat}
    {p : PPc} (h : Main cfg s) (hws : s.workers = l1 ++ w :: l2) (hid : w'.wid = w.wid) (hne : w.pc ≠ .exited)
    (hhp : w'.pc = .put ↔ w'.held ≠ none)
    (hcons : (chunksQ q ++ heldL [w'] ++ r).Perm (chunksQ s.workQ ++ heldL [w] ++ s.resQ))
    (hsub : q.Sublist s.workQ) (hcount : live [w'] + nonesQ s.workQ = 1 + nonesQ q)
    (hex : live [w'] = 0 → ∀ x ∈ q, x = none)
    (hp : s.ppc = p) (X : PPc) (hposted : posted cfg X = posted cfg p) (hjoined : joined cfg X = joined cfg p)
    (hcur : cur cfg X s.total s.wf = cur cfg p s.total s.wf)
    (hns : ∀ x ∈ l1 ++ w' :: l2, x.pc = .notStarted → ∃ j, X = .start j ∧ s.base + j ≤ x.wid)
    (hph : PhaseOK cfg { s with workQ := q, resQ := r, workers := l1 ++ w' :: l2, ppc := X }) :
    Main cfg { s with workQ := q, resQ := r, workers := l1 ++ w' :: l2, ppc := X } := by
  subst hp
  have hlw : live [w] = 1 := by rw [live_cons, if_neg hne]; rfl
  have hlive : live (l1 ++ w' :: l2) + 1 = live s.workers + live [w'] := by
    rw [hws, live_mid, live_mid, hlw]
    omega
  exact { h with
    wids := by
      have := h.wids
      rw [hws] at this
      simpa only [List.map_append, List.map_cons, List.length_append, List.length_cons, hid] using this
    held_put := repl_forall (hws ▸ h.held_put) hhp
    cons := by
      have := h.cons
      rw [hws, heldL_mid] at this
      show (chunksQ q ++ heldL (l1 ++ w' :: l2) ++ r ++ _ ++ _ ++ _).Perm _
      rw [heldL_mid]
      refine List.Perm.trans ?_ this
      simp only [List.perm_iff_count, List.count_append] at hcons ⊢
      intro a; have := hcons a; omega
    count := by
      have := h.count
      show live (l1 ++ w' :: l2) + posted cfg X = cfg.nWorkers + nonesQ q
      omega
    nonone := fun h0 hm => h.nonone (hposted ▸ h0) (hsub.subset hm)
    sortedQ := h.sortedQ.sublist hsub
    exitedQ := fun hl x hx => by
      change live (l1 ++ w' :: l2) < _ at hl
      by_cases h0 : live [w'] = 0
      · exact hex h0 x hx
      · have : live s.workers + 1 ≤ live (l1 ++ w' :: l2) + 1 := by
          rw [hlive]; exact Nat.add_le_add_left (Nat.pos_of_ne_zero h0) _
        exact h.exitedQ (Nat.lt_of_le_of_lt (Nat.le_of_succ_le_succ this) hl) x (hsub.subset hx)
    joinedEx := by
      show ∀ x ∈ l1 ++ w' :: l2, x.wid < s.base + joined cfg X → _
      rw [hjoined]
      exact repl_forall (hws ▸ h.joinedEx) fun hlt => absurd (h.joinedEx w (by simp [hws]) (hid ▸ hlt)) hne
    notStarted := hns
    len := by
      have := h.len
      rw [hws] at this
      exact .inl (by simpa only [List.length_append, List.length_cons, List.append_eq_nil_iff, reduceCtorEq, and_false,
        false_and, or_false] using this)
    outs := fun k => by
      show outK s.out k = expOut cfg s.callNo (cur cfg X s.total s.wf) k
      rw [hcur]; exact h.outs k
    phase := hph }

theorem main_stepWorker {cfg : Cfg} {s : St} {l1 l2 : List Worker} {w w' : Worker} {q : List (Option Nat)} {r : List Nat}
    (h : Main cfg s) (hws : s.workers = l1 ++ w :: l2) (hid : w'.wid = w.wid) (hrun : w.pc = .get ∨ w.pc = .put)
    (hns : w'.pc ≠ .notStarted) (hhp : w'.pc = .put ↔ w'.held ≠ none)
    (hcons : (chunksQ q ++ heldL [w'] ++ r).Perm (chunksQ s.workQ ++ heldL [w] ++ s.resQ))
    (hsub : q.Sublist s.workQ) (hcount : live [w'] + nonesQ s.workQ = 1 + nonesQ q)
    (hex : live [w'] = 0 → ∀ x ∈ q, x = none) :
    Main cfg { s with workQ := q, resQ := r, workers := l1 ++ w' :: l2 } := by
  have hne : w.pc ≠ .exited ∧ w.pc ≠ .notStarted := by rcases hrun with e | e <;> rw [e] <;> exact ⟨nofun, nofun⟩
  exact main_setWorker h hws hid hne.1 hhp hcons hsub hcount hex rfl s.ppc rfl rfl rfl
    (repl_forall (hws ▸ h.notStarted) fun e => absurd e hns)
    (phaseOK_workers h.phase fun i _ hh =>
      repl_forall (hws ▸ hh) fun hle => absurd (hh w (by simp [hws]) (hid ▸ hle)) hne.2)

theorem held_of_get {cfg : Cfg} {s : St} (h : Main cfg s) {w : Worker} (hw : w ∈ s.workers) (hpc : w.pc = .get) :
    w.held = none :=
  Decidable.not_not.1 (mt (h.held_put w hw).2 (by rw [hpc]; nofun))

theorem inv_stepW {cfg : Cfg} {s s' : St} {wid : Nat} (h : Inv cfg s) (hs : stepW s wid = some s') : Inv cfg s' := by
  have hm := h.toMain
  refine stepW_elim hm.wids hs ?_ ?_ ?_
  · intro l1 l2 w q hws hpc hq
    have hwh := held_of_get hm (hws ▸ List.mem_append_right l1 List.mem_cons_self) hpc
    have hsq := hm.sortedQ
    rw [hq] at hsq
    exact ⟨main_stepWorker (w' := { w with pc := .exited }) hm hws rfl (.inl hpc) nofun (by simp [hwh])
      (by rw [hq]; exact .refl _) (by rw [hq]; exact List.sublist_cons_self _ _) (by rw [hq]; simp [live_cons, Nat.add_comm])
      (fun _ x hx => (List.pairwise_cons.1 hsq).1 x hx rfl), h.strict⟩
  · intro l1 l2 w c q hws hpc hq
    have hwh := held_of_get hm (hws ▸ List.mem_append_right l1 List.mem_cons_self) hpc
    exact ⟨main_stepWorker (w' := { w with pc := .put, held := some c }) hm hws rfl (.inl hpc) nofun (by simp)
      (by rw [hq]; simp only [heldL, List.filterMap_cons, hwh, chunksQ_some_cons]; exact List.perm_middle.append_right _)
      (by rw [hq]; exact List.sublist_cons_self _ _) (by rw [hq]; rfl) (fun h0 => by simp [live_cons] at h0), h.strict⟩
  · intro l1 l2 w c hws hpc hwh
    exact ⟨main_stepWorker (w' := { w with pc := .get, held := none }) hm hws rfl (.inr hpc) nofun (by simp)
      (by simp only [heldL, List.filterMap_cons, hwh, List.filterMap_nil, List.append_nil, List.append_assoc]; exact (List.perm_append_singleton c _).append_left _)
      (List.Sublist.refl _) rfl (fun h0 => by simp [live_cons] at h0), h.strict⟩


theorem no_notStarted {cfg : Cfg} {s : St} (h : Main cfg s) (hns : ∀ i, s.ppc ≠ .start i) :
    ∀ w ∈ s.workers, w.pc ≠ .notStarted := fun w hw hp =>
  have ⟨i, hi, _⟩ := h.notStarted w hw hp
  hns i hi

theorem joinedEx_at {cfg : Cfg} {s : St} {p : PPc} (h : Main cfg s) (hp : s.ppc = p) :
    ∀ w ∈ s.workers, w.wid < s.base + joined cfg p → w.pc = .exited :=
  hp ▸ h.joinedEx

theorem len_of_ne_done {cfg : Cfg} {s : St} (h : Main cfg s) (hnd : s.ppc ≠ .done) :
    s.workers.length = s.base + cfg.nWorkers :=
  h.len.elim id fun h' => absurd h'.2 hnd

/-- The caller appends `e` (nothing, a chunk or a stop order) to the work queue, has then sent `d` chunks and goes on to
`X` with `nx` as its next chunk: what such an action has to satisfy.  A chunk is only ever appended while no stop order
has been posted. -/
theorem main_caller {cfg : Cfg} {s : St} {p : PPc} {q : List (Option Nat)} (h : Main cfg s) (hp : s.ppc = p)
    (hns : ∀ i, p ≠ .start i) (e : List (Option Nat)) (d : Nat) (hq : q = s.workQ ++ e)
    (hcons : (chunksQ e ++ List.range s.dataCnt).Perm (List.range d))
    (he : e.Pairwise fun a b => a = none → b = none) (hsome : ∀ c, some c ∈ e → posted cfg p = 0) (X : PPc) (nx : Nat)
    (hposted : posted cfg X = posted cfg p + nonesQ e)
    (hjoined : ∀ w ∈ s.workers, w.wid < s.base + joined cfg X → w.pc = .exited)
    (hcur : cur cfg X s.total s.wf = cur cfg p s.total s.wf)
    (hlen : s.workers.length = s.base + cfg.nWorkers ∨ s.workers = [] ∧ X = .done)
    (hph : PhaseOK cfg { s with workQ := q, dataCnt := d, next := nx, ppc := X }) :
    Main cfg { s with workQ := q, dataCnt := d, next := nx, ppc := X } := by
  subst hp hq
  have hnone : ∀ c, some c ∈ e → none ∉ s.workQ ∧ ¬ live s.workers < cfg.nWorkers := fun c hc => by
    have h0 := hsome c hc
    have := h.count
    rw [h0] at this
    exact ⟨h.nonone h0, by rw [show live s.workers = _ from this]; exact Nat.not_lt.2 (Nat.le_add_right _ _)⟩
  exact { h with
    cons := by
      show (chunksQ (s.workQ ++ e) ++ _ ++ _ ++ _ ++ _ ++ _).Perm _
      rw [chunksQ_append]
      refine List.Perm.trans ?_ ((h.cons.append_left (chunksQ e)).trans hcons)
      simp only [List.perm_iff_count, List.count_append]
      intro a; omega
    count := by
      show _ + posted cfg X = _ + nonesQ (s.workQ ++ e)
      rw [hposted, nonesQ_append, ← Nat.add_assoc, ← Nat.add_assoc, h.count]
    nonone := fun h0 hm => by
      rw [hposted] at h0
      refine (List.mem_append.1 hm).elim (h.nonone (Nat.eq_zero_of_add_eq_zero_right h0)) fun hm' => ?_
      exact absurd (nonesQ_pos_of_mem hm') (by rw [Nat.eq_zero_of_add_eq_zero_left h0]; exact Nat.lt_irrefl 0)
    sortedQ := List.pairwise_append.2 ⟨h.sortedQ, he, fun a ha b hb hna => by
      cases b with
      | none => rfl
      | some c => exact absurd (hna ▸ ha) (hnone c hb).1⟩
    exitedQ := fun hl x hx => (List.mem_append.1 hx).elim (h.exitedQ hl x) fun hx' => by
      cases x with
      | none => rfl
      | some c => exact absurd hl (hnone c hx').2
    joinedEx := hjoined
    notStarted := fun w hw hp => absurd hp (no_notStarted h hns w hw)
    len := hlen
    outs := fun k => by show outK s.out k = expOut cfg s.callNo (cur cfg X s.total s.wf) k; rw [hcur]; exact h.outs k
    phase := hph }

theorem joined_succ {cfg : Cfg} {s : St} {i : Nat} (h : Main cfg s) (hp : s.ppc = .join i)
    (hex : exitedW s (s.base + i) = true) : ∀ w ∈ s.workers, w.wid < s.base + (i + 1) → w.pc = .exited := by
  intro w hw hlt
  rcases Nat.lt_or_eq_of_le (Nat.le_of_lt_succ hlt) with hlt' | hwid
  · have := h.joinedEx w hw; rw [hp] at this; exact this hlt'
  · have hwid : w.wid = s.base + i := hwid
    have hf := find_wid_of_mem (wids_nodup h.wids) hw
    unfold exitedW getWorker at hex
    rw [← hwid, hf] at hex
    simpa using hex

theorem start_facts {cfg : Cfg} {s : St} {i : Nat} {w : Worker} (h : Main cfg s) (hp : s.ppc = .start i)
    (hg : getWorker s (s.base + i) = some w) :
    ∃ l1 l2, s.workers = l1 ++ w :: l2 ∧
      setWorker s { w with pc := .get } = { s with workers := l1 ++ { w with pc := .get } :: l2 } ∧
      w.pc = .notStarted ∧ w.held = none ∧ w.wid = s.base + i ∧
      (∀ x ∈ l1 ++ { w with pc := .get } :: l2, x.pc = .notStarted ↔ s.base + (i + 1) ≤ x.wid) := by
  have hph := h.phase
  simp only [PhaseOK, hp] at hph
  have hns := hph.2.2.2.2.2.2
  obtain ⟨l1, l2, hws, hwid, hset⟩ := workers_decomp h.wids hg
  have hwm : w ∈ s.workers := hws ▸ List.mem_append_right l1 List.mem_cons_self
  have hwpc : w.pc = .notStarted := hns w hwm (Nat.le_of_eq hwid.symm)
  have hwh : w.held = none := Decidable.not_not.1 (mt (h.held_put w hwm).2 (by rw [hwpc]; nofun))
  have hnd := wids_nodup h.wids
  simp only [hws, List.map_append, List.map_cons, List.nodup_append, List.nodup_cons, List.mem_map, List.mem_cons] at hnd
  have hne : ∀ x, x ∈ l1 ∨ x ∈ l2 → x.wid ≠ w.wid := fun x hx heq =>
    hx.elim (fun hx => hnd.2.2 x.wid ⟨x, hx, rfl⟩ w.wid (.inl rfl) heq) fun hx => hnd.2.1.1 ⟨x, hx, heq⟩
  have hrest : ∀ x, x ∈ l1 ∨ x ∈ l2 → (x.pc = .notStarted ↔ s.base + (i + 1) ≤ x.wid) := fun x hx => by
    have hxm : x ∈ s.workers := by rw [hws]; simpa using hx.imp_right .inr
    refine ⟨fun e => ?_, fun hle => hns x hxm (Nat.le_of_succ_le hle)⟩
    obtain ⟨j, hj, hle⟩ := h.notStarted x hxm e
    cases hp.symm.trans hj
    exact Nat.lt_of_le_of_ne hle fun e => hne x hx (e.symm.trans hwid.symm)
  refine ⟨l1, l2, hws, hset s _ rfl hwid, hwpc, hwh, hwid, fun x hx => ?_⟩
  simp only [List.mem_append, List.mem_cons] at hx
  rcases hx with hx | rfl | hx
  · exact hrest x (.inl hx)
  · exact ⟨nofun, fun hle => absurd (hwid ▸ hle) (Nat.not_succ_le_self _)⟩
  · exact hrest x (.inr hx)

theorem inv_p_start {cfg : Cfg} (hw : 1 ≤ cfg.nWorkers) {s s' : St} {i : Nat} (h : Inv cfg s) (hp : s.ppc = .start i)
    (hs : stepP s = some s') : Inv cfg s' := by
  have hm := h.toMain
  obtain rfl := hm.cfg_eq
  have hph := hm.phase
  simp only [PhaseOK, hp] at hph
  obtain ⟨hi, hdc, hfi, hnx, hcn, htot, _⟩ := hph
  rw [stepP_start hp] at hs
  split at hs
  · cases hs
  · rename_i w hg
    obtain ⟨l1, l2, hws, hst, hwpc, hwh, hwid, F⟩ := start_facts hm hp hg
    have hpost : posted s.cfg s.ppc = 0 := by rw [hp]; rfl
    have hnone : ¬ i + 1 < s.cfg.nWorkers → ∀ x ∈ l1 ++ { w with pc := .get } :: l2, x.pc ≠ .notStarted := by
      intro h1 x hx e
      have hlt : x.wid < (l1 ++ w :: l2).length := by
        refine wid_lt_of_mem (hws ▸ hm.wids) ?_
        simp only [List.mem_append, List.mem_cons] at hx ⊢
        exact hx.imp_right (Or.imp_left fun e' => absurd (e' ▸ e) nofun)
      rw [← hws, len_of_ne_done hm (by rw [hp]; nofun)] at hlt
      exact absurd (Nat.lt_of_le_of_lt ((F x hx).1 e) hlt) (Nat.not_lt.2 (Nat.add_le_add_left (Nat.not_lt.1 h1) _))
    have key := main_setWorker (w' := { w with pc := .get }) hm hws rfl (by rw [hwpc]; nofun) (by simp [hwh]) (.refl _)
      (.refl _) rfl (fun h0 => by simp [live_cons] at h0) hp
    simp only [hst] at hs
    refine of_ite_eq hs (fun h1 hs => ?_) fun h1 hs => ?_
    · cases hs
      exact ⟨key (.start (i + 1)) rfl rfl rfl (fun x hx e => ⟨i + 1, rfl, (F x hx).1 e⟩)
        ⟨h1, hdc, hfi, hnx, hcn, htot, fun x hx => (F x hx).2⟩, nofun⟩
    · cases hmm : s.cfg.mulP
      · -- FunctorMap: all workers started, the first call begins
        simp only [hmm, Bool.false_eq_true, if_false, Option.some.injEq] at hs
        subst hs
        have hf : s.finished = s.dataCnt := hfi.trans hdc.symm
        obtain ⟨q1, q2, q3, q4, q5⟩ := main_quiet hm hf
        have hwq : s.workQ = [] := queue_nil_of _ q1 (nonesQ_eq_zero (hm.nonone hpost))
        have hheld' : ∀ x ∈ l1 ++ { w with pc := .get } :: l2, x.held = none :=
          repl_forall (hws ▸ heldL_nil_iff.1 q2) hwh
        have hcount : live s.workers = s.cfg.nWorkers := by
          have := hm.count
          rw [hpost, hwq] at this
          exact this
        have hwf : s.wf = 0 := Nat.eq_zero_of_add_eq_zero_left (hm.fin.symm.trans hfi)
        refine inv_startCallGo hw _ _ {
          cfg_eq := rfl
          wids := by
            have := hm.wids; rw [hws] at this
            simpa only [List.map_append, List.map_cons, List.length_append, List.length_cons] using this
          held := fun x hx => ⟨hheld' x hx, fun hpp =>
            (repl_forall (hws ▸ hm.held_put) (by simp [hwh]) x hx).1 hpp (hheld' x hx), hnone h1 x hx⟩
          workQ := hwq
          resQ := q3
          buffer := q4
          cc := ⟨hf, hdc.trans (htot hmm).symm⟩
          fin := hm.fin
          gotp := q5
          modeP := fun e => by rw [hmm] at e; cases e
          modeF := fun _ => by
            refine ⟨hm.modeF hmm, ?_, by simp⟩
            show live (l1 ++ _ :: l2) = _
            rw [← hcount, hws, live_mid, live_mid, live_cons, live_cons, hwpc]; rfl
          len := .inl (by
            have := len_of_ne_done hm (by rw [hp]; nofun)
            rw [hws] at this
            simpa only [List.length_append, List.length_cons] using this)
          old := by
            have := hm.joinedEx; rw [hp, hws] at this
            exact repl_forall this fun hlt => absurd hlt (by rw [hwid]; exact Nat.not_lt.2 (Nat.le_add_right _ _))
          histDrop := hm.histDrop
          histLe := hm.histLe
          histTot := hm.histTot
          outs := fun k => by
            show outK s.out k = _
            rw [hm.outs k, expOut_complete _ _ _ hm.histTot]
            simp only [cur, hmm, Bool.false_eq_true, if_false, hwf, htot hmm] }
      · simp only [hmm, if_true] at hs
        refine of_ite_eq hs (fun ht hs => ?_) fun ht hs => ?_
        · -- mul_p_map with no item: straight to the stop orders
          simp only [afterFeeding, hmm, Nat.ne_of_gt hw, if_true, if_false, Option.some.injEq] at hs
          subst hs
          exact ⟨key (.stopPut 0) rfl rfl rfl (fun x hx e => absurd e (hnone h1 x hx))
            ⟨hw, hdc.trans ht.symm, hcn, fun e => by rw [hmm] at e; cases e⟩, nofun⟩
        · cases hs
          exact ⟨key .put rfl rfl rfl (fun x hx e => absurd e (hnone h1 x hx))
            ⟨hdc.trans hnx.symm, hnx ▸ Nat.pos_of_ne_zero ht, hcn hmm⟩, nofun⟩

theorem inv_p_nowait {cfg : Cfg} (hw : 1 ≤ cfg.nWorkers) {s s' : St} (h : Inv cfg s) (hp : s.ppc = .nowait)
    (hs : stepP s = some s') : Inv cfg s' := by
  have hm := h.toMain
  obtain rfl := hm.cfg_eq
  have hph := hm.phase
  simp only [PhaseOK, hp] at hph
  obtain ⟨hdc, hnt, hcn⟩ := hph
  have hnst : ∀ i, s.ppc ≠ .start i := by rw [hp]; nofun
  have hlen := len_of_ne_done hm (by rw [hp]; nofun)
  have ctrl := fun X nx => main_caller hm hp nofun [] s.dataCnt (List.append_nil _).symm (.refl _) .nil nofun X nx
  have hj0 := joinedEx_at hm hp
  have hdt : ¬ s.next + 1 < s.total → s.dataCnt = s.total := fun h1 =>
    hdc.trans (Nat.le_antisymm hnt (Nat.not_lt.1 h1))
  cases hq : s.resQ with
  | cons i r =>
    rw [stepP_nowait_cons hp hq] at hs
    have hrm := main_receive hm hq (.inl hp)
    refine of_ite_eq hs (fun hex hs => ?_) fun _ hs => ?_
    · -- `exact`: the caller closes the generator at the last item; the next call starts right away
      obtain ⟨_, hnm, hft⟩ := hex
      cases hs
      have hmm : s.cfg.mulP = false := Bool.eq_false_iff.2 hnm
      obtain ⟨b, wf, f, g, o, e⟩ := receive_frame { s with resQ := r } i
      rw [e] at hrm hft ⊢
      have hft : f = s.total := hft
      have hle : f ≤ s.dataCnt := finished_le hrm
      have hdt : s.dataCnt = s.total := Nat.le_antisymm (by rw [hdc]; exact hnt) (hft ▸ hle)
      exact inv_startCallGo hw _ _ (bnd_of_quiet hw hrm (hft.trans hdt.symm) hdt (no_notStarted hm hnst :)
        (fun _ => by show posted s.cfg s.ppc = 0; rw [hp]; rfl) (fun e => by rw [hmm] at e; cases e)
        (.inl (by show joined s.cfg s.ppc = 0; rw [hp]; rfl)))
    · cases hs
      exact ⟨hrm, fun e => by
        obtain ⟨_, _, _, _, _, e'⟩ := receive_frame { s with resQ := r } i
        rw [e', hp] at e; cases e⟩
  | nil =>
    rw [stepP_nowait_nil hp hq] at hs
    refine of_ite_eq hs (fun h1 hs => ?_) fun h1 hs => ?_
    · cases hs
      exact ⟨ctrl .put (s.next + 1) rfl hj0 rfl (.inl hlen) ⟨hdc, h1, hcn⟩, nofun⟩
    · cases hs
      unfold afterFeeding
      cases hmm : s.cfg.mulP
      · rw [if_neg nofun]
        exact inv_finalOrNext hw (ctrl .finalGet (s.next + 1) (by simp only [posted, hmm]; rfl) hj0
          (by simp only [cur, hmm]) (.inl hlen) ⟨hdt h1, hcn⟩)
      · rw [if_pos rfl, if_neg (Nat.ne_of_gt hw)]
        exact ⟨ctrl (.stopPut 0) (s.next + 1) rfl hj0 rfl (.inl hlen)
          ⟨hw, hdt h1, fun _ => hcn,
            fun e => by rw [hmm] at e; cases e⟩, nofun⟩

theorem inv_p_stopPut {cfg : Cfg} (hw : 1 ≤ cfg.nWorkers) {s s' : St} {i : Nat} (h : Inv cfg s) (hp : s.ppc = .stopPut i)
    (hs : stepP s = some s') : Inv cfg s' := by
  have hm := h.toMain
  obtain rfl := hm.cfg_eq
  have hph := hm.phase
  simp only [PhaseOK, hp] at hph
  obtain ⟨hi, hdt, hcn, hF⟩ := hph
  have stop := fun X => main_caller hm hp nofun [none] s.dataCnt rfl (.refl _) (List.pairwise_singleton _ _)
    (fun _ hc => nomatch List.mem_singleton.1 hc) X s.next
  have hj0 := joinedEx_at hm hp
  have hlen := len_of_ne_done hm (by rw [hp]; nofun)
  rw [stepP_stopPut hp] at hs
  refine of_ite_eq hs nofun fun _ hs => of_ite_eq hs (fun h1 hs => ?_) fun h1 hs => ?_
  · cases hs
    exact ⟨stop (.stopPut (i + 1)) rfl hj0 rfl (.inl hlen) ⟨h1, hdt, hcn, hF⟩, nofun⟩
  · have hN : i + 1 = s.cfg.nWorkers := Nat.le_antisymm hi (Nat.not_lt.1 h1)
    refine of_ite_eq hs (fun hmm hs => ?_) fun hmm hs => ?_
    · cases hs
      exact inv_finalOrNext hw (stop .finalGet (by simp only [posted, hmm, if_true, ← hN]; rfl) hj0
        (by simp only [cur, hmm]) (.inl hlen) ⟨hdt, hcn hmm⟩)
    · have hmm := Bool.eq_false_iff.2 hmm
      cases hs
      exact ⟨stop (.join 0) hN.symm hj0 (by simp only [cur, hmm, Bool.false_eq_true, if_false]) (.inl hlen)
        ⟨hw, (hF hmm).1, hdt, fun _ => (hF hmm).2⟩, nofun⟩

theorem inv_p_join {cfg : Cfg} (hw : 1 ≤ cfg.nWorkers) {s s' : St} {i : Nat} (h : Inv cfg s) (hp : s.ppc = .join i)
    (hs : stepP s = some s') : Inv cfg s' := by
  have hm := h.toMain
  obtain rfl := hm.cfg_eq
  have hph := hm.phase
  simp only [PhaseOK, hp] at hph
  obtain ⟨hi, hfd, hdt, hF⟩ := hph
  have hnst : ∀ i, s.ppc ≠ .start i := by rw [hp]; nofun
  have hlen := len_of_ne_done hm (by rw [hp]; nofun)
  have ctrl := fun X => main_caller hm hp nofun [] s.dataCnt (List.append_nil _).symm (.refl _) .nil nofun X s.next
  rw [stepP_join hp] at hs
  refine of_ite_eq hs (fun hex hs => ?_) nofun
  have hj := joined_succ hm hp hex
  refine of_ite_eq hs (fun h1 hs => ?_) fun h1 hs => ?_
  · cases hs
    exact ⟨ctrl (.join (i + 1)) rfl hj rfl (.inl hlen) ⟨h1, hfd, hdt, hF⟩, nofun⟩
  · have hN : i + 1 = s.cfg.nWorkers := Nat.le_antisymm hi (Nat.not_lt.1 h1)
    refine of_ite_eq hs (fun hmm hs => ?_) fun hmm hs => ?_
    · cases hs
      refine inv_startCallGo hw _ _ (bnd_of_quiet hw hm hfd hdt (no_notStarted hm hnst)
        (fun e => by rw [hmm] at e; cases e) (fun _ => ⟨by rw [hp]; rfl, fun x hx => hj x hx ?_,
          by rw [hp]; simp only [cur, hmm, if_true]⟩) (.inr hmm))
      rw [hN, ← hlen]
      exact wid_lt_of_mem hm.wids hx
    · cases hs
      exact ⟨ctrl .done rfl (by show ∀ w ∈ s.workers, w.wid < s.base + s.cfg.nWorkers → _; rw [← hN]; exact hj) rfl
        (.inl hlen) ⟨hfd, hdt, hF (Bool.eq_false_iff.2 hmm)⟩, nofun⟩

theorem inv_stepP {cfg : Cfg} (hw : 1 ≤ cfg.nWorkers) {s s' : St} (h : Inv cfg s) (hs : stepP s = some s') :
    Inv cfg s' := by
  cases hp : s.ppc with
  | start i => exact inv_p_start hw h hp hs
  | put =>
    rw [stepP_put hp] at hs
    refine of_ite_eq hs nofun fun _ hs => ?_
    · cases hs
      have hm := h.toMain
      have hph := hm.phase
      simp only [PhaseOK, hp] at hph
      exact ⟨main_caller hm hp nofun [some s.next] (s.dataCnt + 1) rfl
        (by rw [← hph.1, List.range_succ]; exact List.perm_append_comm) (List.pairwise_singleton _ _) (fun _ _ => rfl)
        .nowait s.next rfl (joinedEx_at hm hp :) rfl (.inl (len_of_ne_done hm (by rw [hp]; nofun)))
        ⟨congrArg (· + 1) hph.1, hph.2.1, hph.2.2⟩, nofun⟩
  | nowait => exact inv_p_nowait hw h hp hs
  | stopPut i => exact inv_p_stopPut hw h hp hs
  | finalGet =>
    rw [stepP_finalGet hp] at hs
    split at hs
    · cases hs
    · rename_i i r hq
      cases hs
      obtain ⟨_, _, _, _, _, e⟩ := receive_frame { s with resQ := r } i
      exact inv_finalOrNext hw ((main_receive h.toMain hq (.inr hp)).set_ppc (by rw [e]; exact hp))
  | join i => exact inv_p_join hw h hp hs
  | done => rw [stepP_done hp] at hs; cases hs

theorem inv_step {cfg : Cfg} (hw : 1 ≤ cfg.nWorkers) {s s' : St} {t : Tid} (h : Inv cfg s) (hs : step s t = some s') :
    Inv cfg s' := by
  cases t with
  | p => exact inv_stepP hw h hs
  | w wid => exact inv_stepW h hs

theorem inv_run {cfg : Cfg} (hw : 1 ≤ cfg.nWorkers) (sched : List Tid) :
    ∀ {s s' : St}, Inv cfg s → run s sched = some s' → Inv cfg s' := by
  induction sched with
  | nil => intro s s' h hr; cases hr; exact h
  | cons t ts ih =>
    intro s s' h hr
    unfold run at hr
    split at hr
    · cases hr
    · exact ih (inv_step hw h ‹_›) hr

theorem inv_init {cfg : Cfg} (hw : 1 ≤ cfg.nWorkers) : Inv cfg (init cfg) := by
  unfold init
  cases hm : cfg.mulP
  · simp only [Bool.false_eq_true, if_false, Nat.ne_of_gt hw]
    exact ⟨{
      cfg_eq := rfl
      wids := by simp [mkWorkers_wids]
      held_put := fun w hw' => by have := mem_mkWorkers hw'; simp [this]
      cons := by rw [heldL_mkWorkers]; exact .refl _
      fin := rfl
      modeP := fun e => by rw [hm] at e; cases e
      modeF := fun _ => rfl
      wfbuf := List.not_mem_nil
      count := live_mkWorkers _ _
      nonone := fun _ => List.not_mem_nil
      sortedQ := .nil
      exitedQ := fun _ _ hx => nomatch hx
      joinedEx := fun w _ hlt => absurd hlt (Nat.not_lt_zero _)
      notStarted := fun w hw' _ => ⟨0, rfl, (mem_mkWorkers hw').2.2.1⟩
      len := .inl (by simp)
      histDrop := rfl
      histLe := Nat.zero_le _
      histTot := fun h => nomatch h
      outs := fun k => (expOut_zero _ _ _).symm
      phase := ⟨hw, rfl, rfl, rfl, fun e => (by rw [hm] at e; cases e), fun _ => rfl, fun w hw' _ => (mem_mkWorkers hw').1⟩ },
      nofun⟩
  · simp only [if_true, startCall]
    exact inv_startCallGo hw _ _ {
      cfg_eq := rfl
      wids := rfl
      held := nofun
      workQ := rfl
      resQ := rfl
      buffer := rfl
      cc := ⟨rfl, rfl⟩
      fin := rfl
      gotp := .refl _
      modeP := fun _ => ⟨rfl, nofun⟩
      modeF := fun e => by rw [hm] at e; cases e
      len := .inr rfl
      old := nofun
      histDrop := rfl
      histLe := Nat.zero_le _
      histTot := fun h => nomatch h
      outs := fun k => by
        rw [expOut_complete cfg 0 0 (fun h => nomatch h), expOut_zero]; rfl }

theorem inv_of_reachable {cfg : Cfg} (hw : 1 ≤ cfg.nWorkers) {s : St} (h : Reachable cfg s) : Inv cfg s :=
  have ⟨sched, hr⟩ := h
  inv_run hw sched (inv_init hw) hr

end WindVerif.FMap
