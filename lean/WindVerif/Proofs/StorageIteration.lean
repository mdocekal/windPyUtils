import WindVerif.Proofs.StorageCounters
/-! The iteration layer `InvE` of the invariant of the storage model (an iteration collects the lines of the entries in
identifier order), and the invariant as a whole in every reachable state. -/
namespace WindVerif.Storage

@[simp] theorem entryLine'_setProc (s : St) (i : Nat) (p : Proc) (g : Nat) :
    entryLine' (setProc s i p) g = entryLine' s g := rfl
@[simp] theorem entryLine'_release (s : St) (i : Nat) (p : Proc) (g : Nat) :
    entryLine' (release s i p).1 g = entryLine' s g := by
  unfold entryLine'; simp
@[simp] theorem entryLine'_mk_lock (s : St) (f : Option Nat) (g : Nat) :
    entryLine' { s with lock := f } g = entryLine' s g := rfl

@[simp] theorem entryLine'_setProc_fn (s : St) (i : Nat) (p : Proc) :
    entryLine' (setProc s i p) = entryLine' s := rfl
@[simp] theorem entryLine'_release_fn (s : St) (i : Nat) (p : Proc) :
    entryLine' (release s i p).1 = entryLine' s := funext (entryLine'_release s i p)
@[simp] theorem entryLine'_mk_lock_fn (s : St) (f : Option Nat) :
    entryLine' { s with lock := f } = entryLine' s := rfl

theorem entryLine'_eq_of {s s' : St} (hB : InvB s) (hB' : InvB s') (hS : StepB s s') (hidx : s'.index = s.index)
    (g : Nat) : entryLine' s' g = entryLine' s g := by
  cases h : entryLine' s g with
  | some l => exact (hB.stable hB' hS h).1
  | none =>
    apply entryLine'_none
    intro w off hi
    rw [hidx] at hi
    rw [entryLine'_of_entry hi] at h; cases h

def isG : Pc → Bool
  | .gAcq | .gIdxLen | .gIdxGet | .gRelErr | .gRel | .gPathsGet | .gOpenR | .gSeek | .gReadline => true
  | _ => false

structure LocE (s : St) (p : Proc) : Prop where
  itInit : p.pc = .iAcq ∨ p.pc = .iIdxLen → p.iterAcc = []
  itRead : isG p.pc = true → p.inIter = true → p.iterLen = s.index.length ∧ p.iterPos < p.iterLen ∧ p.gid = p.iterPos ∧
    p.iterAcc = (List.range p.iterPos).filterMap (entryLine' s)
  itErr : p.pc = .gRelErr → p.inIter = true → entryLine' s p.gid = none
  itDone : p.pc = .iRel → p.iterAcc = (List.range s.index.length).filterMap (entryLine' s)

structure InvE (s : St) : Prop where
  loc : ∀ (i : Nat) (p : Proc), s.procs[i]? = some p → LocE s p

theorem LocE.of_notE {s : St} {p : Proc} (h1 : isG p.pc = false) (h2 : p.pc ≠ .iAcq) (h3 : p.pc ≠ .iIdxLen)
    (h4 : p.pc ≠ .iRel) : LocE s p :=
  ⟨fun h => (h.elim h2 h3).elim, fun h => absurd h (by simp [h1]), fun h => (by rw [h] at h1; cases h1),
    fun h => absurd h h4⟩

theorem LocE.fetch {s : St} {p : Proc} (h : p.pc = .idle) : LocE s (fetch p) := by
  cases hsc : p.script with
  | nil =>
    simp only [Storage.fetch, hsc]
    exact LocE.of_notE (by simp [h, isG]) (by simp [h]) (by simp [h]) (by simp [h])
  | cons op rest =>
    cases op <;> simp only [Storage.fetch, hsc] <;> (try split) <;> (try split) <;> constructor <;> (intros; simp_all [isG])

theorem LocE.finish {s : St} {p : Proc} {r : Res} : LocE s (finish p r) := LocE.fetch rfl

theorem LocE.mono {s s' : St} {q : Proc} (hidx : s'.index = s.index) (he : entryLine' s' = entryLine' s)
    (h : LocE s q) : LocE s' q := by
  obtain ⟨e1, e2, e3, e4⟩ := h
  exact ⟨e1, by rw [hidx, he]; exact e2, by rw [he]; exact e3, by rw [hidx, he]; exact e4⟩

/-- an iteration holds the lock from `iIdxLen` to `iRel` -/
theorem dep_pos_of_iter {q : Proc} (h : (isG q.pc = true ∧ q.inIter = true) ∨ q.pc = .iRel) : 0 < dep q := by
  unfold dep
  rcases h with ⟨hG, hin⟩ | h
  · rw [hin]; revert hG; generalize q.pc = a; cases a <;> decide
  · rw [h]; exact Nat.one_pos

/-- another process keeps what it knows: if it says something about the index, the process holds the lock -/
theorem LocE.frame {scripts : List (List Op)} {s s' : St} {j : Nat} {q : Proc} (hE : LocE s q)
    (hAq : LocA scripts s j q) (hB : InvB s) (hB' : InvB s') (hS : StepB s s')
    (hidx : s.lock = some j → s'.index = s.index) : LocE s' q := by
  by_cases hlk : s.lock = some j
  · exact hE.mono (hidx hlk) (funext (entryLine'_eq_of hB hB' hS (hidx hlk)))
  · have hd : ¬ 0 < dep q := fun h => hlk (hAq.lock.1 h)
    exact ⟨hE.itInit, fun h1 h2 => absurd (dep_pos_of_iter (.inl ⟨h1, h2⟩)) hd,
      fun h1 h2 => absurd (dep_pos_of_iter (.inl ⟨by rw [h1]; rfl, h2⟩)) hd,
      fun h1 => absurd (dep_pos_of_iter (.inr h1)) hd⟩

theorem InvE.step_gen {scripts : List (List Op)} {s s' : St} {i : Nat} {p p' : Proc} (hA : InvA scripts s)
    (hB : InvB s) (hB' : InvB s') (hE : InvE s) (hp : s.procs[i]? = some p) (hF : StepA s s' i p p') (hS : StepB s s')
    (hloc : LocE s' p') : InvE s' := by
  constructor
  intro j q hq
  rw [hF.procs, getElem?_set_iff hp] at hq
  rcases hq with ⟨rfl, rfl⟩ | ⟨hji, hq⟩
  · exact hloc
  · refine (hE.loc j q hq).frame (hA.loc j q hq) hB hB' hS (fun h => ?_)
    exact (hF.shared (by rw [h]; simpa using hji)).1

/-- along the edges of the control-flow graph, the start of an iteration apart: the pcs of a read are entered from pcs
of a read only, an iteration starts at `iAcq`, a read fails at the two tests of the index,
and no iteration ends -/
theorem succs_iter : ∀ a, ∀ b ∈ succs a, ends a = false → a ≠ .iIdxLen →
    (b = .iAcq ∨ b = .iIdxLen → a = .iAcq) ∧ (isG b = true → isG a = true) ∧
    (b = .gRelErr → a = .gIdxLen ∨ a = .gIdxGet) ∧ b ≠ .iRel := forall_pc (by decide)

/-- `herr`: where a read fails, there is no entry -/
theorem InvE.step_quietL {scripts : List (List Op)} {s s' : St} {i : Nat} {p p' : Proc} (hA : InvA scripts s)
    (hB : InvB s) (hB' : InvB s') (hE : InvE s) (hp : s.procs[i]? = some p) (hF : StepA s s' i p p') (hS : StepB s s')
    (hL : StepL p.pc s s' p p') (he : ends p.pc = false) (hi : p.pc ≠ .iIdxLen)
    (herr : p.pc = .gIdxLen ∨ p.pc = .gIdxGet → p'.pc = .gRelErr → entryLine' s p.gid = none) : InvE s' := by
  obtain ⟨c1, c2, c3, c4⟩ := succs_iter _ _ (hL.next_mem he) he hi
  obtain ⟨i1, i2, i3, i4⟩ := hL.iter he hi
  have h0 := hE.loc i p hp
  have hsame : isG p.pc = true → s'.index = s.index ∧ entryLine' s' = entryLine' s := fun hG =>
    have hidx := hL.index (fun h => by rw [h] at hG; cases hG) (fun h => by rw [h] at hG; cases hG)
    ⟨hidx, funext (entryLine'_eq_of hB hB' hS hidx)⟩
  refine hE.step_gen hA hB hB' hp hF hS ⟨?_, ?_, ?_, fun h => absurd h c4⟩
  · intro h; rw [i4]; exact h0.itInit (Or.inl (c1 h))
  · intro h hin
    have hG := c2 h
    rw [i1] at hin
    rw [i2, i3, i4, (hL.gid he hi).1, (hsame hG).1, (hsame hG).2]; exact h0.itRead hG hin
  · intro h _
    have hG : isG p.pc = true := by rcases c3 h with h | h <;> rw [h] <;> rfl
    rw [(hL.gid he hi).1, (hsame hG).2]; exact herr (c3 h) h

theorem LocE.iterAdvance {s : St} {p : Proc} (hlen : p.iterLen = s.index.length)
    (hpos : p.iterPos < p.iterLen) (hacc : p.iterAcc = (List.range (p.iterPos + 1)).filterMap (entryLine' s)) :
    LocE s (iterAdvance p) := by
  unfold Storage.iterAdvance
  dsimp only
  split
  · constructor <;> simp_all [isG]
  · have : p.iterPos + 1 = s.index.length := by omega
    constructor <;> simp_all [isG]

theorem filterMap_range_succ_none {f : Nat → Option (List (Option Nat))} {n : Nat} (h : f n = none) :
    (List.range (n + 1)).filterMap f = (List.range n).filterMap f := by
  rw [List.range_succ, List.filterMap_append]; simp [h]

theorem filterMap_range_succ_some {f : Nat → Option (List (Option Nat))} {n : Nat} {l : List (Option Nat)}
    (h : f n = some l) : (List.range (n + 1)).filterMap f = (List.range n).filterMap f ++ [l] := by
  rw [List.range_succ, List.filterMap_append]; simp [h]

theorem InvE.step {scripts : List (List Op)} {s s' : St} {i : Nat} (hA : InvA scripts s) (hB : InvB s)
    (hE : InvE s) (hs : step s i = some s') : InvE s' := by
  obtain ⟨p, hp⟩ := step_proc hs
  obtain ⟨p', hF⟩ := StepA.of_step hA hp hs
  have hLB := hB.loc i p hp
  have hLE := hE.loc i p hp
  have hL := StepL.of_step hp (hA.loc i p hp).noF hs hF.procs
  have hB' := hB.step hA hs
  have hS := StepB.of_step hA hB hs
  have hi := (List.getElem?_eq_some_iff.1 hp).1
  by_cases hpc : p.pc = .iIdxLen
  · -- an iteration starts with nothing read, or ends at once over an empty index
    have hacc := hLE.itInit (Or.inr hpc)
    simp only [Storage.step, getProc_eq, hp, hpc] at hs
    split at hs
    · rename_i h0
      step_at
      exact hE.step_gen hA hB hB' hp hF hS ⟨fun h => (by rcases h with h | h <;> cases h), nofun, nofun,
        fun _ => by show p.iterAcc = (List.range s.index.length).filterMap _; rw [h0]; exact hacc⟩
    · rename_i h0
      step_at
      exact hE.step_gen hA hB hB' hp hF hS ⟨fun h => (by rcases h with h | h <;> cases h),
        fun _ _ => ⟨rfl, Nat.pos_of_ne_zero h0, rfl, hacc⟩, nofun, nofun⟩
  by_cases he : ends p.pc = true
  · rcases hL.ended he with ⟨q, r, rfl⟩ | ⟨hpc, hin, -⟩
    · exact hE.step_gen hA hB hB' hp hF hS LocE.finish
    -- a read inside an iteration has ended: the iteration goes on
    obtain ⟨a1, a2, a3, a4⟩ := hLE.itRead (by rcases hpc with hpc | hpc <;> rw [hpc] <;> rfl) hin
    rcases hpc with hpc | hpc
    · simp only [Storage.step, getProc_eq, hp, hpc, release_snd_inIter, hin, if_true] at hs
      step_at
      refine hE.step_gen hA hB hB' hp hF hS ?_
      have hnone := hLE.itErr hpc hin
      rw [a3] at hnone
      refine LocE.iterAdvance (by simpa using a1) (by simpa using a2) ?_
      simp only [release_snd_iterAcc, release_snd_iterPos, entryLine'_setProc_fn, entryLine'_release_fn]
      rw [filterMap_range_succ_none hnone]; exact a4
    · simp only [Storage.step, getProc_eq, hp, hpc, hin, if_true] at hs
      step_at
      refine hE.step_gen hA hB hB' hp hF hS ?_
      have hsome := entryLine'_of_entry (hLB.rdIdx (Or.inr (Or.inr (Or.inr (Or.inr hpc)))))
      rw [a3] at hsome
      refine LocE.iterAdvance (by simpa using a1) (by simpa using a2) ?_
      simp only [entryLine'_setProc_fn]
      rw [filterMap_range_succ_some hsome, a4]
  refine hE.step_quietL hA hB hB' hp hF hS hL (by simpa using he) hpc fun hpc hb => ?_
  -- a failed read: the two tests of the index written out
  rcases hpc with hpc | hpc <;> simp only [Storage.step, getProc_eq, hp, hpc] at hs <;> split at hs <;> step_at
  · rename_i hle
    exact entryLine'_none fun w off h => by rw [List.getElem?_eq_none hle] at h; cases h
  · cases hb
  · cases hb
  · rename_i hne
    exact entryLine'_none hne

theorem InvE.init (presize : Nat) (scripts : List (List Op)) : InvE (start (init presize scripts)) := by
  constructor
  intro i p hp
  simp only [start, Storage.init, List.map_map, List.getElem?_map, Option.map_eq_some_iff] at hp
  obtain ⟨sc, _, rfl⟩ := hp
  exact LocE.fetch rfl

theorem reach_inv {scripts : List (List Op)} (hnf : ∀ sc ∈ scripts, Op.flush ∉ sc) {presize : Nat} {s : St}
    {sched : List Nat} (hr : run (start (init presize scripts)) sched = some s) :
    InvA scripts s ∧ InvB s ∧ InvC scripts s ∧ InvD s ∧ InvE s :=
  run_preserves (fun s => InvA scripts s ∧ InvB s ∧ InvC scripts s ∧ InvD s ∧ InvE s)
    (fun _ _ _ ⟨hA, hB, hC, hD, hE⟩ hs =>
      ⟨hA.step hs, hB.step hA hs, hC.step hA hB hs, hD.step hA hB hC hs, hE.step hA hB hs⟩)
    ⟨.init hnf presize, .init presize scripts, .init presize scripts, .init presize scripts, .init presize scripts⟩ hr

theorem iter_result {s s' : St} {i : Nat} {p : Proc} (hE : InvE s)
    (hp : s.procs[i]? = some p) (hpc : p.pc = .iRel) (hs : step s i = some s') :
    ∃ p', s'.procs[i]? = some p' ∧
      p'.results = p.results ++ [.texts ((List.range s.index.length).filterMap (entryLine' s))] := by
  have hi := lt_of_getElem? hp
  simp only [Storage.step, getProc_eq, hp, hpc, Option.some.injEq] at hs
  subst hs
  refine ⟨?w, ?h1, ?h2⟩
  case h1 => simp only [setProc_procs, release_fst_procs]; exact List.getElem?_set_self hi
  simp only [finish_results, release_snd_results, release_snd_iterAcc]
  rw [(hE.loc i p hp).itDone hpc]

end WindVerif.Storage
