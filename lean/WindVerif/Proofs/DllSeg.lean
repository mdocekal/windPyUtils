import WindVerif.Spec.Dll
/-!
Segment lemmas for the doubly linked list model (append, retargeting the ends), list lemmas for the reference
operations, and the traversal lemmas.
-/
namespace WindVerif.Dll

@[simp] theorem seg_nil (d : Dll) (p q : Option Node) : Seg d p [] q ↔ True := by simp [Seg]

theorem seg_cons {d : Dll} {p q : Option Node} {x : Node} {xs : List Node} :
    Seg d p (x :: xs) q ↔ d.prev x = p ∧ d.next x = xs.head?.or q ∧ Seg d (some x) xs q := by
  cases xs <;> simp [Seg]

theorem seg_append {d : Dll} {l1 l2 : List Node} : ∀ {p q : Option Node},
    Seg d p (l1 ++ l2) q ↔ Seg d p l1 (l2.head?.or q) ∧ Seg d (l1.getLast?.or p) l2 q := by
  induction l1 with
  | nil => intro p q; simp
  | cons x xs ih =>
    intro p q
    rw [List.cons_append, seg_cons, seg_cons, ih, List.head?_append, Option.or_assoc, List.getLast?_cons]
    have : (xs.getLast?.or (some x)) = (some (xs.getLast?.getD x)).or p := by
      cases xs.getLast? <;> simp
    rw [this]
    simp [and_assoc]

theorem seg_head_prev {d : Dll} {p q : Option Node} {l : List Node} {x : Node}
    (h : Seg d p l q) (hx : l.head? = some x) : d.prev x = p := by
  cases l with
  | nil => simp at hx
  | cons y ys => simp at hx; subst hx; exact (seg_cons.1 h).1

theorem seg_last_next {d : Dll} {l : List Node} : ∀ {p q : Option Node} {x : Node},
    Seg d p l q → l.getLast? = some x → d.next x = q := by
  induction l with
  | nil => intro p q x _ hx; simp at hx
  | cons y ys ih =>
    intro p q x h hx
    rw [seg_cons] at h
    cases ys with
    | nil => simp at hx; subst hx; simpa using h.2.1
    | cons z zs =>
      rw [List.getLast?_cons_cons] at hx
      exact ih h.2.2 hx

theorem seg_ends {d d' : Dll} {l : List Node} : ∀ {p0 q0 p q : Option Node}, l.Nodup → Seg d p0 l q0 →
    (∀ x ∈ l, some x ≠ l.head? → d'.prev x = d.prev x) →
    (∀ x ∈ l, some x ≠ l.getLast? → d'.next x = d.next x) →
    (∀ x, l.head? = some x → d'.prev x = p) →
    (∀ x, l.getLast? = some x → d'.next x = q) → Seg d' p l q := by
  induction l with
  | nil => intros; simp
  | cons x xs ih =>
    intro p0 q0 p q hn h hprev hnext hp hq
    rw [seg_cons] at h ⊢
    rw [List.nodup_cons] at hn
    refine ⟨hp x (by simp), ?_, ?_⟩
    · cases xs with
      | nil => simpa using hq x (by simp)
      | cons y ys =>
        have : some x ≠ (x :: y :: ys).getLast? := by
          intro he
          have := List.mem_of_getLast? he.symm
          rw [List.getLast?_cons_cons] at he
          exact hn.1 (List.mem_of_getLast? he.symm)
        rw [hnext x (by simp) this, h.2.1]; simp
    · refine ih hn.2 h.2.2 ?_ ?_ ?_ ?_
      · intro y hy _
        exact hprev y (List.mem_cons_of_mem _ hy) (by simp; rintro rfl; exact hn.1 hy)
      · intro y hy hne
        refine hnext y (List.mem_cons_of_mem _ hy) ?_
        cases xs with
        | nil => simp at hy
        | cons z zs => rwa [List.getLast?_cons_cons]
      · intro y hy
        have hyx : y ∈ xs := List.mem_of_head? hy
        rw [hprev y (List.mem_cons_of_mem _ hyx) (by simp; rintro rfl; exact hn.1 hyx)]
        exact seg_head_prev h.2.2 hy
      · intro y hy
        refine hq y ?_
        cases xs with
        | nil => simp at hy
        | cons z zs => rwa [List.getLast?_cons_cons]

theorem walkF_none (d : Dll) (k : Nat) : walkF d k none = [] := by cases k <;> rfl
theorem walkB_none (d : Dll) (k : Nat) : walkB d k none = [] := by cases k <;> rfl

theorem walkF_seg {d : Dll} {l : List Node} (k : Nat) : ∀ {p : Option Node}, Seg d p l none →
    walkF d (l.length + k) l.head? = l := by
  induction l with
  | nil => intro p _; simp [walkF_none]
  | cons x xs ih =>
    intro p h
    rw [seg_cons] at h
    have : (x :: xs).length + k = (xs.length + k) + 1 := by simp; omega
    rw [this]
    simp only [List.head?_cons, walkF]
    rw [h.2.1, Option.or_none, ih h.2.2]

theorem walkB_seg_rev {d : Dll} (k : Nat) (r : List Node) : ∀ {q : Option Node}, Seg d none r.reverse q →
    walkB d (r.length + k) r.head? = r := by
  induction r with
  | nil => intro q _; simp [walkB_none]
  | cons x xs ih =>
    intro q h
    rw [List.reverse_cons, seg_append, seg_cons] at h
    have : (x :: xs).length + k = (xs.length + k) + 1 := by simp; omega
    rw [this]
    simp only [List.head?_cons, walkB]
    rw [h.2.1, Option.or_none, List.getLast?_reverse, ih h.1]

theorem walkB_seg {d : Dll} {l : List Node} (k : Nat) {q : Option Node} (h : Seg d none l q) :
    walkB d (l.length + k) l.getLast? = l.reverse := by
  have := walkB_seg_rev (d := d) k l.reverse (q := q) (by simpa using h)
  simpa using this

theorem erase_split {l1 l2 : List Node} {n : Node} (h : n ∉ l1) : (l1 ++ n :: l2).erase n = l1 ++ l2 := by
  rw [List.erase_append_right _ h, List.erase_cons_head]

theorem insertAfter_split {l1 l2 : List Node} {n a : Node} (h : a ∉ l1) :
    insertAfter n a (l1 ++ a :: l2) = l1 ++ a :: n :: l2 := by
  induction l1 with
  | nil => simp [insertAfter]
  | cons x xs ih =>
    have hx : x ≠ a := by intro he; exact h (by simp [he])
    have hxs : a ∉ xs := by intro he; exact h (by simp [he])
    simp [insertAfter, hx, ih hxs]

structure Split (d : Dll) (l1 : List Node) (n : Node) (l2 : List Node) : Prop where
  nd1 : l1.Nodup
  nd2 : l2.Nodup
  n1 : n ∉ l1
  n2 : n ∉ l2
  disj : ∀ x ∈ l1, x ∉ l2
  seg1 : Seg d none l1 (some n)
  seg2 : Seg d (some n) l2 none
  prev : d.prev n = l1.getLast?
  next : d.next n = l2.head?
  head : d.head = l1.head?.or (some n)
  tail : d.tail = l2.getLast?.or (some n)
  size : d.size = (l1.length : Int) + 1 + l2.length
  fresh1 : ∀ x ∈ l1, x < d.fresh
  freshn : n < d.fresh
  fresh2 : ∀ x ∈ l2, x < d.fresh

theorem Rep.split {d : Dll} {l1 l2 : List Node} {n : Node} (h : Rep d (l1 ++ n :: l2)) : Split d l1 n l2 := by
  have hn := h.nodup
  have hs := h.seg
  rw [seg_append, seg_cons] at hs
  simp only [List.nodup_append, List.nodup_cons, List.mem_cons] at hn
  refine ⟨hn.1, hn.2.1.2, ?_, hn.2.1.1, ?_, by simpa using hs.1, hs.2.2.2, by simpa using hs.2.1,
    by simpa using hs.2.2.1, ?_, ?_, ?_, ?_, ?_, ?_⟩
  · intro hx; exact hn.2.2 n hx n (Or.inl rfl) rfl
  · intro x hx hx2; exact hn.2.2 x hx x (Or.inr hx2) rfl
  · rw [h.head, List.head?_append]; simp
  · rw [h.tail, List.getLast?_append, List.getLast?_cons]; cases l2.getLast? <;> simp
  · rw [h.size]; simp; omega
  · intro x hx; exact h.fresh x (by simp [hx])
  · exact h.fresh n (by simp)
  · intro x hx; exact h.fresh x (by simp [hx])

end WindVerif.Dll
