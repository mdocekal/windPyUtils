import WindVerif.Spec.Storage
import WindVerif.Proofs.AList
import WindVerif.Proofs.ListFacts
/-! What the state accessors, `readlineAt`, `fetch`, `finish` and `release` of the storage model compute, the classification of
the program counters (`curOp`, `dep`, `isS`, `fits`, …), and the control layer of the invariant stated over it (`LocA`, `InvA`:
history of the script, lock discipline, writer identifiers). -/
namespace WindVerif.Storage

@[simp] theorem getProc_eq (s : St) (i : Nat) : getProc s i = s.procs[i]? := rfl

theorem step_proc {s s' : St} {i : Nat} (hs : step s i = some s') : ∃ p, s.procs[i]? = some p := by
  cases hp : s.procs[i]? with
  | none => simp [step, hp] at hs
  | some p => exact ⟨p, rfl⟩

@[simp] theorem setProc_procs (s : St) (i : Nat) (p : Proc) : (setProc s i p).procs = s.procs.set i p := rfl
@[simp] theorem setProc_paths (s : St) (i : Nat) (p : Proc) : (setProc s i p).paths = s.paths := rfl
@[simp] theorem setProc_index (s : St) (i : Nat) (p : Proc) : (setProc s i p).index = s.index := rfl
@[simp] theorem setProc_cnt (s : St) (i : Nat) (p : Proc) : (setProc s i p).cnt = s.cnt := rfl
@[simp] theorem setProc_wf (s : St) (i : Nat) (p : Proc) : (setProc s i p).wf = s.wf := rfl
@[simp] theorem setProc_lock (s : St) (i : Nat) (p : Proc) : (setProc s i p).lock = s.lock := rfl
@[simp] theorem setProc_files (s : St) (i : Nat) (p : Proc) : (setProc s i p).files = s.files := rfl

@[simp] theorem setFile_procs (s : St) (w : Nat) (c : List (Option Nat)) : (setFile s w c).procs = s.procs := rfl
@[simp] theorem setFile_paths (s : St) (w : Nat) (c : List (Option Nat)) : (setFile s w c).paths = s.paths := rfl
@[simp] theorem setFile_index (s : St) (w : Nat) (c : List (Option Nat)) : (setFile s w c).index = s.index := rfl
@[simp] theorem setFile_cnt (s : St) (w : Nat) (c : List (Option Nat)) : (setFile s w c).cnt = s.cnt := rfl
@[simp] theorem setFile_wf (s : St) (w : Nat) (c : List (Option Nat)) : (setFile s w c).wf = s.wf := rfl
@[simp] theorem setFile_lock (s : St) (w : Nat) (c : List (Option Nat)) : (setFile s w c).lock = s.lock := rfl

theorem fileOf_setFile (s : St) (w w' : Nat) (c : List (Option Nat)) :
    fileOf (setFile s w c) w' = if w' = w then some c else fileOf s w' := by
  unfold fileOf setFile
  by_cases h : w' = w
  · subst h; simp
  · have : (w' == w) = false := by simpa using h
    rw [if_neg h]
    show List.lookup w' ((w, c) :: _) = _
    rw [List.lookup_cons, this, Cache.al_lookup_filter, if_neg h]

@[simp] theorem fileOf_setProc (s : St) (i : Nat) (p : Proc) (w : Nat) : fileOf (setProc s i p) w = fileOf s w := rfl

theorem readlineAt_go_append (a b : List (Option Nat)) (h : none ∈ a) :
    readlineAt.go (a ++ b) = readlineAt.go a := by
  induction a with
  | nil => simp at h
  | cons x a ih =>
    cases x with
    | none => simp [readlineAt.go]
    | some t =>
      have : none ∈ a := by simpa using h
      simp [readlineAt.go, ih this]

theorem readlineAt_complete (c : List (Option Nat)) (off t : Nat) (h1 : c[off]? = some (some t))
    (h2 : c[off + 1]? = some none) : readlineAt c off = [some t, none] := by
  unfold readlineAt
  have hlt := lt_of_getElem? h2
  have hd : c.drop off = some t :: none :: c.drop (off + 2) := by
    rw [List.drop_eq_getElem_cons (by omega), List.drop_eq_getElem_cons (by omega)]
    have e1 : c[off] = some t := by
      have := List.getElem?_eq_getElem (l := c) (i := off) (by omega); rw [this] at h1; simpa using h1
    have e2 : c[off + 1] = none := by
      have := List.getElem?_eq_getElem (l := c) (i := off + 1) hlt; rw [this] at h2; simpa using h2
    rw [e1, e2]
  simp [hd, readlineAt.go]

theorem fetch_eq (p : Proc) :
    fetch p =
      { p with
        script := (fetch p).script, pc := (fetch p).pc, gid := (fetch p).gid, text := (fetch p).text,
        inIter := (fetch p).inIter, iterAcc := (fetch p).iterAcc, wOpen := (fetch p).wOpen, rOpen := (fetch p).rOpen } := by
  unfold fetch
  split
  · rfl
  · rename_i op _ _
    cases op
    case store =>
      dsimp only
      split
      · rfl
      · split <;> rfl
    all_goals rfl

@[simp] theorem fetch_ident (p0 : Proc) : (fetch p0).ident = p0.ident := by rw [fetch_eq]
@[simp] theorem fetch_results (p0 : Proc) : (fetch p0).results = p0.results := by rw [fetch_eq]
@[simp] theorem fetch_depth (p0 : Proc) : (fetch p0).depth = p0.depth := by rw [fetch_eq]
@[simp] theorem fetch_tmp (p0 : Proc) : (fetch p0).tmp = p0.tmp := by rw [fetch_eq]
@[simp] theorem fetch_off (p0 : Proc) : (fetch p0).off = p0.off := by rw [fetch_eq]
@[simp] theorem fetch_target (p0 : Proc) : (fetch p0).target = p0.target := by rw [fetch_eq]
@[simp] theorem fetch_iterPos (p0 : Proc) : (fetch p0).iterPos = p0.iterPos := by rw [fetch_eq]
@[simp] theorem fetch_iterLen (p0 : Proc) : (fetch p0).iterLen = p0.iterLen := by rw [fetch_eq]
@[simp] theorem finish_ident (p : Proc) (r : Res) : (finish p r).ident = p.ident := by simp [finish]
@[simp] theorem finish_results (p : Proc) (r : Res) : (finish p r).results = p.results ++ [r] := by simp [finish]
@[simp] theorem finish_depth (p : Proc) (r : Res) : (finish p r).depth = p.depth := by simp [finish]

@[simp] theorem iterAdvance_results (p : Proc) : (iterAdvance p).results = p.results := by
  unfold iterAdvance; dsimp only; split <;> rfl
@[simp] theorem iterAdvance_ident (p : Proc) : (iterAdvance p).ident = p.ident := by
  unfold iterAdvance; dsimp only; split <;> rfl

theorem release_fst (s : St) (i : Nat) (p : Proc) :
    (release s i p).1 = { s with lock := if p.depth ≤ 1 then none else s.lock } := by
  unfold release; split <;> rfl

theorem release_snd (s : St) (i : Nat) (p : Proc) : (release s i p).2 = { p with depth := p.depth - 1 } := by
  unfold release; split
  · rename_i h
    show { p with depth := 0 } = _
    rw [Nat.sub_eq_zero_of_le h]
  · rfl

@[simp] theorem release_fst_procs (s : St) (i : Nat) (p : Proc) : (release s i p).1.procs = s.procs := by rw [release_fst]
@[simp] theorem release_fst_paths (s : St) (i : Nat) (p : Proc) : (release s i p).1.paths = s.paths := by rw [release_fst]
@[simp] theorem release_fst_index (s : St) (i : Nat) (p : Proc) : (release s i p).1.index = s.index := by rw [release_fst]
@[simp] theorem release_fst_cnt (s : St) (i : Nat) (p : Proc) : (release s i p).1.cnt = s.cnt := by rw [release_fst]
@[simp] theorem release_fst_wf (s : St) (i : Nat) (p : Proc) : (release s i p).1.wf = s.wf := by rw [release_fst]
@[simp] theorem release_fst_files (s : St) (i : Nat) (p : Proc) : (release s i p).1.files = s.files := by rw [release_fst]
@[simp] theorem release_fst_fileOf (s : St) (i : Nat) (p : Proc) (w : Nat) : fileOf (release s i p).1 w = fileOf s w := by
  rw [release_fst]; rfl
theorem release_fst_lock (s : St) (i : Nat) (p : Proc) :
    (release s i p).1.lock = if p.depth ≤ 1 then none else s.lock := by rw [release_fst]
@[simp] theorem release_snd_script (s : St) (i : Nat) (p : Proc) : (release s i p).2.script = p.script := by rw [release_snd]
@[simp] theorem release_snd_pc (s : St) (i : Nat) (p : Proc) : (release s i p).2.pc = p.pc := by rw [release_snd]
@[simp] theorem release_snd_ident (s : St) (i : Nat) (p : Proc) : (release s i p).2.ident = p.ident := by rw [release_snd]
@[simp] theorem release_snd_wOpen (s : St) (i : Nat) (p : Proc) : (release s i p).2.wOpen = p.wOpen := by rw [release_snd]
@[simp] theorem release_snd_rOpen (s : St) (i : Nat) (p : Proc) : (release s i p).2.rOpen = p.rOpen := by rw [release_snd]
@[simp] theorem release_snd_results (s : St) (i : Nat) (p : Proc) : (release s i p).2.results = p.results := by rw [release_snd]
@[simp] theorem release_snd_gid (s : St) (i : Nat) (p : Proc) : (release s i p).2.gid = p.gid := by rw [release_snd]
@[simp] theorem release_snd_text (s : St) (i : Nat) (p : Proc) : (release s i p).2.text = p.text := by rw [release_snd]
@[simp] theorem release_snd_tmp (s : St) (i : Nat) (p : Proc) : (release s i p).2.tmp = p.tmp := by rw [release_snd]
@[simp] theorem release_snd_off (s : St) (i : Nat) (p : Proc) : (release s i p).2.off = p.off := by rw [release_snd]
@[simp] theorem release_snd_target (s : St) (i : Nat) (p : Proc) : (release s i p).2.target = p.target := by rw [release_snd]
@[simp] theorem release_snd_inIter (s : St) (i : Nat) (p : Proc) : (release s i p).2.inIter = p.inIter := by rw [release_snd]
@[simp] theorem release_snd_iterPos (s : St) (i : Nat) (p : Proc) : (release s i p).2.iterPos = p.iterPos := by rw [release_snd]
@[simp] theorem release_snd_iterLen (s : St) (i : Nat) (p : Proc) : (release s i p).2.iterLen = p.iterLen := by rw [release_snd]
@[simp] theorem release_snd_iterAcc (s : St) (i : Nat) (p : Proc) : (release s i p).2.iterAcc = p.iterAcc := by rw [release_snd]

def isF : Pc → Bool
  | .fAcq | .fPathsGet | .fRemove | .fPathsClear | .fIdxClear | .fCntZero | .fWfZero | .fRel => true
  | _ => false

def curOp (p : Proc) : Option Op :=
  match p.pc with
  | .idle => none
  | .oAcq | .oPathsLen | .oPathsAppend | .oRel | .oOpenW | .oPathsGet | .oOpenA
  | .sAcq | .sIdxLen1 | .sIdxLen2 | .sIdxExtend | .sIdxGet | .sTell | .sWriteText | .sWriteNl | .sFlush | .sIdxSet
  | .sCntRead | .sCntWrite | .sWfRead1 | .sWfRead2 | .sWfWrite1 | .sLoopWf | .sLoopCnt | .sLoopWf2 | .sLoopIdx
  | .sLoopWfR | .sLoopWfW | .sRelErr | .sRel => some (.store p.gid p.text)
  | .gAcq | .gIdxLen | .gIdxGet | .gRelErr | .gRel | .gPathsGet | .gOpenR | .gSeek | .gReadline =>
    if p.inIter then some .iter else some (.read p.gid)
  | .lCnt => some .len
  | .cWf | .cCnt => some .contig
  | .iAcq | .iIdxLen | .iRel => some .iter
  | .fAcq | .fPathsGet | .fRemove | .fPathsClear | .fIdxClear | .fCntZero | .fWfZero | .fRel => some .flush
  | .xClose => some .close

/-- how many times the process holds the lock, as a function of its control state -/
def dep (p : Proc) : Nat :=
  match p.pc with
  | .oPathsLen | .oPathsAppend | .oRel => 1
  | .sIdxLen1 | .sIdxLen2 | .sIdxExtend | .sIdxGet | .sTell | .sWriteText | .sWriteNl | .sFlush | .sIdxSet
  | .sCntRead | .sCntWrite | .sWfRead1 | .sWfRead2 | .sWfWrite1 | .sLoopWf | .sLoopCnt | .sLoopWf2 | .sLoopIdx
  | .sLoopWfR | .sLoopWfW | .sRelErr | .sRel => 1
  | .gAcq | .gPathsGet | .gOpenR | .gSeek | .gReadline => if p.inIter then 1 else 0
  | .gIdxLen | .gIdxGet | .gRelErr | .gRel => if p.inIter then 2 else 1
  | .iIdxLen | .iRel => 1
  | .fPathsGet | .fRemove | .fPathsClear | .fIdxClear | .fCntZero | .fWfZero | .fRel => 1
  | _ => 0

/-- pcs of `open()` -/
def isO : Pc → Bool
  | .oAcq | .oPathsLen | .oPathsAppend | .oRel | .oOpenW | .oPathsGet | .oOpenA => true
  | _ => false

/-- pcs of `__setitem__` -/
def isS : Pc → Bool
  | .sAcq | .sIdxLen1 | .sIdxLen2 | .sIdxExtend | .sIdxGet | .sTell | .sWriteText | .sWriteNl | .sFlush | .sIdxSet
  | .sCntRead | .sCntWrite | .sWfRead1 | .sWfRead2 | .sWfWrite1 | .sLoopWf | .sLoopCnt | .sLoopWf2 | .sLoopIdx
  | .sLoopWfR | .sLoopWfW | .sRelErr | .sRel => true
  | _ => false

/-- pcs of `open()` at which the identifier has been registered -/
def hasId : Pc → Bool
  | .oRel | .oOpenW | .oPathsGet | .oOpenA => true
  | _ => false

/-- What the control state `c` admits for the write handle (`w`: open) and the identifier (`d`: registered).  Inside
`__setitem__` the handle is open; inside `open()` it is closed and the identifier is there from `oRel` on; an open handle
always has an identifier (a closed handle keeps it: `close()`). -/
def fits (c : Pc) (w d : Bool) : Bool :=
  if isS c then w && d else if isO c then !w && (d == hasId c) else !w || d

structure LocA (scripts : List (List Op)) (s : St) (i : Nat) (p : Proc) : Prop where
  hist : ∃ sc, scripts[i]? = some sc ∧ sc.drop p.results.length = (curOp p).toList ++ p.script
  noFs : Op.flush ∉ p.script
  noF : isF p.pc = false
  depth : p.depth = dep p
  lock : 0 < dep p ↔ s.lock = some i
  identLt : ∀ w, p.ident = some w → w < s.paths.length
  handle : fits p.pc p.wOpen p.ident.isSome = true
  tmpPaths : p.pc = .oPathsAppend → p.tmp = s.paths.length

structure InvA (scripts : List (List Op)) (s : St) : Prop where
  loc : ∀ i p, s.procs[i]? = some p → LocA scripts s i p
  uniq : ∀ (i j : Nat) (p q : Proc) (w : Nat), s.procs[i]? = some p → s.procs[j]? = some q → p.ident = some w → q.ident = some w → i = j

end WindVerif.Storage
