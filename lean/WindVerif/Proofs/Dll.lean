import WindVerif.Spec.Dll
import WindVerif.Proofs.DllSeg
/-!
Representation lemmas for every operation of the doubly linked list model.
-/
namespace WindVerif.Dll

theorem repr_empty : Rep Dll.empty [] := by
  refine ⟨by simp, by simp, rfl, rfl, rfl, by simp⟩

theorem upd_same (f : Node → Option Node) (k : Node) (v : Option Node) : upd f k v k = v := if_pos rfl

theorem upd_ne {f : Node → Option Node} {k x : Node} (v : Option Node) (h : x ≠ k) : upd f k v x = f x :=
  if_neg h

theorem remove_prev (d : Dll) (n x : Node) :
    (remove d n).prev x = if d.next n = some x then d.prev n else d.prev x := by
  unfold remove
  cases hp : d.prev n <;> cases hq : d.next n <;> simp [setNext, setPrev, upd, eq_comm, hp, hq]

theorem remove_next (d : Dll) (n x : Node) :
    (remove d n).next x = if d.prev n = some x then d.next n else d.next x := by
  unfold remove
  cases hp : d.prev n <;> cases hq : d.next n <;> simp [setNext, setPrev, upd, eq_comm, hp, hq]

theorem remove_head (d : Dll) (n : Node) :
    (remove d n).head = if d.prev n = none then d.next n else d.head := by
  unfold remove
  cases hp : d.prev n <;> cases hq : d.next n <;> simp [setNext, setPrev, upd, hp, hq]

theorem remove_tail (d : Dll) (n : Node) :
    (remove d n).tail = if d.next n = none then d.prev n else d.tail := by
  unfold remove
  cases hp : d.prev n <;> cases hq : d.next n <;> simp [setNext, setPrev, upd, hp, hq]

@[simp] theorem remove_size (d : Dll) (n : Node) : (remove d n).size = d.size - 1 := by
  unfold remove
  cases hp : d.prev n <;> cases hq : d.next n <;> simp [setNext, setPrev, upd, hp, hq]

@[simp] theorem remove_fresh (d : Dll) (n : Node) : (remove d n).fresh = d.fresh := by
  unfold remove
  cases hp : d.prev n <;> cases hq : d.next n <;> simp [setNext, setPrev, upd, hp, hq]

theorem split_remove {d : Dll} {l1 l2 : List Node} {n : Node} (s : Split d l1 n l2) :
    Rep (remove d n) (l1 ++ l2) := by
  refine ⟨?nodup, ?seg, ?head, ?tail, ?size, ?fresh⟩
  case nodup =>
    exact List.nodup_append.2 ⟨s.nd1, s.nd2, fun a ha b hb hab => s.disj a ha (hab ▸ hb)⟩
  case seg =>
    rw [seg_append]
    constructor
    · refine seg_ends s.nd1 s.seg1 ?_ ?_ ?_ ?_
      · intro x hx _
        rw [remove_prev, s.next, if_neg]
        intro he; exact s.disj x hx (List.mem_of_head? he)
      · intro x hx hne
        rw [remove_next, s.prev, if_neg (Ne.symm hne)]
      · intro x hx
        have hx1 := List.mem_of_head? hx
        rw [remove_prev, s.next, if_neg]
        · exact seg_head_prev s.seg1 hx
        · intro he; exact s.disj x hx1 (List.mem_of_head? he)
      · intro x hx
        rw [remove_next, s.prev, if_pos hx, s.next]; simp
    · refine seg_ends s.nd2 s.seg2 ?_ ?_ ?_ ?_
      · intro x hx hne
        rw [remove_prev, s.next, if_neg (Ne.symm hne)]
      · intro x hx _
        rw [remove_next, s.prev, if_neg]
        intro he; exact s.disj x (List.mem_of_getLast? he) hx
      · intro x hx
        rw [remove_prev, s.next, if_pos hx, s.prev]; simp
      · intro x hx
        have hx2 := List.mem_of_getLast? hx
        rw [remove_next, s.prev, if_neg]
        · exact seg_last_next s.seg2 hx
        · intro he; exact s.disj x (List.mem_of_getLast? he) hx2
  case head =>
    rw [remove_head, s.prev, s.next, s.head, List.head?_append]
    cases l1 with
    | nil => simp
    | cons a as => simp [List.getLast?_cons]
  case tail =>
    rw [remove_tail, s.prev, s.next, s.tail, List.getLast?_append]
    cases l2 with
    | nil => simp
    | cons a as => simp [List.getLast?_cons]
  case size => rw [remove_size, s.size]; simp; omega
  case fresh =>
    intro x hx
    rw [remove_fresh]
    rcases List.mem_append.1 hx with hx | hx
    · exact s.fresh1 x hx
    · exact s.fresh2 x hx

theorem rep_remove {d : Dll} {l : List Node} {n : Node} (h : Rep d l) (hn : n ∈ l) :
    Rep (remove d n) (l.erase n) := by
  obtain ⟨l1, l2, rfl⟩ := List.append_of_mem hn
  have s := h.split
  rw [erase_split s.n1]
  exact split_remove s

theorem Rep.not_mem {d : Dll} {l1 l2 : List Node} {n : Node} (h : Rep d (l1 ++ n :: l2)) : n ∉ l1 ++ l2 :=
  (List.nodup_cons.1 ((List.perm_middle.nodup_iff).1 h.nodup)).1

/-- Link the non-member `n` in between `l1` and `l2`.  The new structure is given by its six fields, so that for an
operation unfolded to its field writes every hypothesis is an equation between `upd` terms.  It differs from `d` in the
links of `n`, the `next` of the node `p` before it and the `prev` of the node `q` behind it (the head and the tail
where there is no such node); the frame conditions name nodes, not list membership. -/
theorem rep_link {d : Dll} {l1 l2 : List Node} {n : Node} {p q : Option Node} {prev next : Node → Option Node}
    {head tail : Option Node} {size : Int} {fresh : Node} (h : Rep d (l1 ++ l2))
    (hn : n ∉ l1 ++ l2) (hp : l1.getLast? = p) (hq : l2.head? = q)
    (hprevn : prev n = p) (hnextn : next n = q)
    (hnextp : ∀ a, p = some a → next a = some n) (hprevq : ∀ b, q = some b → prev b = some n)
    (hprev : ∀ x, x ≠ n → some x ≠ q → prev x = d.prev x)
    (hnext : ∀ x, x ≠ n → some x ≠ p → next x = d.next x)
    (hhead : head = p.elim (some n) fun _ => d.head)
    (htail : tail = q.elim (some n) fun _ => d.tail)
    (hsize : size = d.size + 1) (hf : n < fresh) (hfresh : d.fresh ≤ fresh) :
    Rep ⟨prev, next, head, tail, size, fresh⟩ (l1 ++ n :: l2) := by
  subst hp hq
  have hnd := List.nodup_append.1 h.nodup
  have hs := seg_append.1 h.seg
  have hne : ∀ {x}, x ∈ l1 ++ l2 → x ≠ n := fun hx e => hn (e ▸ hx)
  refine ⟨(List.perm_middle.nodup_iff).2 (List.nodup_cons.2 ⟨hn, h.nodup⟩), ?seg, ?head, ?tail, ?size, ?fresh⟩
  case seg =>
    rw [seg_append, seg_cons]
    refine ⟨seg_ends hnd.1 hs.1 ?_ ?_ ?_ ?_, by simpa using hprevn, by simpa using hnextn,
      seg_ends hnd.2.1 hs.2 ?_ ?_ ?_ ?_⟩
    · intro x hx _
      exact hprev x (hne (List.mem_append_left _ hx)) fun e => hnd.2.2 x hx x (List.mem_of_head? e.symm) rfl
    · intro x hx hxp
      exact hnext x (hne (List.mem_append_left _ hx)) hxp
    · intro x hx
      have hx1 := List.mem_of_head? hx
      exact (hprev x (hne (List.mem_append_left _ hx1)) fun e => hnd.2.2 x hx1 x (List.mem_of_head? e.symm) rfl).trans
        (seg_head_prev hs.1 hx)
    · intro x hx
      simpa using hnextp x hx
    · intro x hx hxq
      exact hprev x (hne (List.mem_append_right _ hx)) hxq
    · intro x hx _
      exact hnext x (hne (List.mem_append_right _ hx)) fun e => hnd.2.2 x (List.mem_of_getLast? e.symm) x hx rfl
    · intro x hx
      simpa using hprevq x hx
    · intro x hx
      have hx2 := List.mem_of_getLast? hx
      exact (hnext x (hne (List.mem_append_right _ hx2)) fun e =>
        hnd.2.2 x (List.mem_of_getLast? e.symm) x hx2 rfl).trans (seg_last_next hs.2 hx)
  case head =>
    show head = _
    rw [hhead, h.head, List.head?_append, List.head?_append]
    cases l1 <;> simp [List.getLast?_cons]
  case tail =>
    show tail = _
    rw [htail, h.tail, List.getLast?_append, List.getLast?_append, List.getLast?_cons]
    cases l2 <;> simp [List.getLast?_cons]
  case size =>
    show size = _
    rw [hsize, h.size]
    simp
    omega
  case fresh =>
    intro x hx
    rcases List.mem_append.1 hx with hx | hx
    · exact Nat.lt_of_lt_of_le (h.fresh x (List.mem_append_left _ hx)) hfresh
    · rcases List.mem_cons.1 hx with rfl | hx
      · exact hf
      · exact Nat.lt_of_lt_of_le (h.fresh x (List.mem_append_right _ hx)) hfresh

/-! Each operation is unfolded to its field writes (`simp only` with the links it reads) and is then an unlinking
(`split_remove`), a linking (`rep_link`) or one after the other. -/

theorem exists_snoc {l : List Node} (hne : l ≠ []) : ∃ m a, l = m ++ [a] :=
  ⟨l.dropLast, l.getLast hne, (List.dropLast_concat_getLast hne).symm⟩

theorem repr_append {d : Dll} {l : List Node} (h : Rep d l) : Rep (append d).1 (l ++ [d.fresh]) := by
  have hn : d.fresh ∉ l ++ [] := fun hx => Nat.lt_irrefl _ (h.fresh _ (List.append_nil l ▸ hx))
  have h' : Rep d (l ++ []) := (List.append_nil l).symm ▸ h
  cases hp : d.tail with
  | none =>
    simp only [append, setNext, setPrev, hp]
    exact rep_link h' hn (h.tail ▸ hp) rfl (upd_same ..) (upd_same ..) nofun nofun
      (fun x hx _ => upd_ne _ hx) (fun x hx _ => upd_ne _ hx) rfl rfl rfl (Nat.lt_succ_self _) (Nat.le_succ _)
  | some t =>
    have hft : d.fresh ≠ t := Nat.ne_of_gt (h.fresh t (List.mem_of_getLast? (h.tail ▸ hp)))
    simp only [append, setNext, setPrev, hp]
    exact rep_link h' hn (h.tail ▸ hp) rfl (upd_same ..) ((upd_ne _ hft).trans (upd_same ..))
      (fun a e => Option.some.inj e ▸ upd_same ..) nofun
      (fun x hx _ => upd_ne _ hx) (fun x hx hxt => (upd_ne _ fun e => hxt (congrArg some e)).trans (upd_ne _ hx))
      rfl rfl rfl (Nat.lt_succ_self _) (Nat.le_succ _)

theorem repr_prepend {d : Dll} {l : List Node} (h : Rep d l) : Rep (prepend d).1 (d.fresh :: l) := by
  have hn : d.fresh ∉ [] ++ l := fun hx => Nat.lt_irrefl _ (h.fresh _ hx)
  cases hq : d.head with
  | none =>
    simp only [prepend, setNext, setPrev, hq]
    exact rep_link (l1 := []) h hn rfl (h.head ▸ hq) (upd_same ..) (upd_same ..) nofun nofun
      (fun x hx _ => upd_ne _ hx) (fun x hx _ => upd_ne _ hx) rfl rfl rfl (Nat.lt_succ_self _) (Nat.le_succ _)
  | some b =>
    have hfb : d.fresh ≠ b := Nat.ne_of_gt (h.fresh b (List.mem_of_head? (h.head ▸ hq)))
    simp only [prepend, setNext, setPrev, hq]
    exact rep_link (l1 := []) h hn rfl (h.head ▸ hq) ((upd_ne _ hfb).trans (upd_same ..)) (upd_same ..) nofun
      (fun a e => Option.some.inj e ▸ upd_same ..)
      (fun x hx hxb => (upd_ne _ fun e => hxb (congrArg some e)).trans (upd_ne _ hx)) (fun x hx _ => upd_ne _ hx)
      rfl rfl rfl (Nat.lt_succ_self _) (Nat.le_succ _)

theorem repr_popBack {d : Dll} {l : List Node} (h : Rep d l) :
    Rep (applyOp d .popBack) l.dropLast := by
  by_cases hl : l = []
  · subst hl
    have ht : d.tail = none := by simpa using h.tail
    simpa [applyOp, popBack, ht] using h
  · obtain ⟨m, a, rfl⟩ := exists_snoc hl
    have s := h.split
    have ht : d.tail = some a := by simpa using s.tail
    have := split_remove s
    simpa [applyOp, popBack, ht] using this

theorem repr_popFront {d : Dll} {l : List Node} (h : Rep d l) :
    Rep (applyOp d .popFront) l.tail := by
  cases l with
  | nil =>
    have hh : d.head = none := by simpa using h.head
    simpa [applyOp, popFront, hh] using h
  | cons a t =>
    have s := h.split (l1 := [])
    have hh : d.head = some a := by simpa using s.head
    have := split_remove s
    simpa [applyOp, popFront, hh] using this

theorem repr_moveAfter {d : Dll} {l : List Node} {n a : Node} (h : Rep d l) (hn : n ∈ l) (ha : a ∈ l) :
    Rep (moveAfter d n a) (if n = a then l else insertAfter n a (l.erase n)) := by
  by_cases hna : n = a
  · simpa [moveAfter, hna] using h
  · have r := rep_remove h hn
    have hf : n < (remove d n).fresh := remove_fresh d n ▸ h.fresh n hn
    have hn' : n ∉ l.erase n := fun hx => ((List.Nodup.mem_erase_iff h.nodup).1 hx).1 rfl
    obtain ⟨m1, m2, he⟩ := List.append_of_mem ((List.mem_erase_of_ne (Ne.symm hna)).2 ha)
    rw [he] at r hn'
    have s := r.split
    rw [if_neg hna, he, insertAfter_split s.n1, List.append_cons m1 a (n :: m2)]
    rw [List.append_cons m1 a m2] at r hn'
    have hq := s.next
    cases hm : m2.head? with
    | none =>
      rw [hm] at hq
      simp only [moveAfter, if_neg hna, setNext, setPrev, hq]
      exact rep_link r hn' List.getLast?_concat hm (upd_same ..) ((upd_ne _ hna).trans (upd_same ..))
        (fun x e => Option.some.inj e ▸ upd_same ..) nofun
        (fun x hx _ => upd_ne _ hx) (fun x hx hxa => (upd_ne _ fun e => hxa (congrArg some e)).trans (upd_ne _ hx))
        rfl rfl rfl hf (Nat.le_refl _)
    | some b =>
      rw [hm] at hq
      have hbn : b ≠ n := fun e => hn' (List.mem_append_right _ (e ▸ List.mem_of_head? hm))
      simp only [moveAfter, if_neg hna, setNext, setPrev, hq]
      exact rep_link r hn' List.getLast?_concat hm (upd_same ..) ((upd_ne _ hna).trans (upd_same ..))
        (fun x e => Option.some.inj e ▸ upd_same ..)
        (fun x e => Option.some.inj e ▸ (upd_ne _ hbn).trans (upd_same ..))
        (fun x hx hxb => (upd_ne _ hx).trans (upd_ne _ fun e => hxb (congrArg some e)))
        (fun x hx hxa => (upd_ne _ fun e => hxa (congrArg some e)).trans (upd_ne _ hx))
        rfl rfl rfl hf (Nat.le_refl _)

theorem repr_moveToFront {d : Dll} {l : List Node} {n : Node} (h : Rep d l) (hn : n ∈ l) :
    Rep (applyOp d (.moveToFront n)) (n :: l.erase n) := by
  obtain ⟨l1, l2, rfl⟩ := List.append_of_mem hn
  have s := h.split
  rw [erase_split s.n1]
  cases l1 with
  | nil =>
    have hh : d.head = some n := s.head
    have hp : d.prev n = none := s.prev
    simp only [applyOp, moveToFront, hh, hp]
    exact h
  | cons a t =>
    have hh : d.head = some a := s.head
    have hp : d.prev n = some (t.getLast?.getD a) := s.prev.trans List.getLast?_cons
    have r := split_remove s
    have hh1 : (remove d n).head = some a := r.head
    have hna : n ≠ a := fun e => s.n1 (e ▸ List.mem_cons_self)
    simp only [applyOp, moveToFront, hh, hp, hh1, setNext, setPrev]
    exact rep_link (l1 := []) r h.not_mem rfl rfl (upd_same ..) (upd_same ..) nofun
      (fun x e => Option.some.inj e ▸ (upd_ne _ (Ne.symm hna)).trans (upd_same ..))
      (fun x hx hxa => (upd_ne _ hx).trans (upd_ne _ fun e => hxa (congrArg some e))) (fun x hx _ => upd_ne _ hx)
      rfl rfl rfl (remove_fresh d n ▸ s.freshn) (Nat.le_refl _)

theorem repr_moveToBack {d : Dll} {l : List Node} {n : Node} (h : Rep d l) (hn : n ∈ l) :
    Rep (applyOp d (.moveToBack n)) (l.erase n ++ [n]) := by
  obtain ⟨l1, l2, rfl⟩ := List.append_of_mem hn
  have s := h.split
  rw [erase_split s.n1]
  obtain ⟨h0, hh⟩ : ∃ h0, d.head = some h0 := by
    rw [s.head]; cases l1.head? <;> simp
  by_cases hl2 : l2 = []
  · subst hl2
    have hq : d.next n = none := s.next
    simp only [applyOp, moveToBack, hh, hq]
    exact (List.append_nil l1).symm ▸ h
  · obtain ⟨m2, a, rfl⟩ := exists_snoc hl2
    obtain ⟨q, hq⟩ : ∃ q, d.next n = some q := by
      rw [s.next]; cases m2 <;> simp
    have r := split_remove s
    have hlast : (l1 ++ (m2 ++ [a])).getLast? = some a := by rw [← List.append_assoc, List.getLast?_concat]
    have ht1 : (remove d n).tail = some a := r.tail.trans hlast
    have hna : n ≠ a := fun e => s.n2 (e ▸ List.mem_concat_self)
    simp only [applyOp, moveToBack, hh, hq, ht1, setNext, setPrev]
    exact rep_link (l2 := []) ((List.append_nil _).symm ▸ r) ((List.append_nil _).symm ▸ h.not_mem) hlast rfl (upd_same ..) (upd_same ..)
      (fun x e => Option.some.inj e ▸ (upd_ne _ (Ne.symm hna)).trans (upd_same ..)) nofun
      (fun x hx _ => upd_ne _ hx) (fun x hx hxa => (upd_ne _ hx).trans (upd_ne _ fun e => hxa (congrArg some e)))
      rfl rfl rfl (remove_fresh d n ▸ s.freshn) (Nat.le_refl _)

theorem upd_comm {f : Node → Option Node} {k k' : Node} (v v' : Option Node) (h : k ≠ k') :
    upd (upd f k v) k' v' = upd (upd f k' v') k v := by
  funext x
  unfold upd
  by_cases hx : x = k
  · rw [if_pos hx, if_neg fun e => h (hx.symm.trans e), if_pos hx]
  · rw [if_neg hx, if_neg hx]

theorem rotate_true {d : Dll} {x : Node} {xs : List Node} (h : Rep d (x :: xs)) :
    rotate d true = applyOp d (.moveToBack x) := by
  have s := h.split (l1 := [])
  have hh : d.head = some x := s.head
  have hp : d.prev x = none := s.prev
  by_cases hxs : xs = []
  · subst hxs
    have ht : d.tail = some x := s.tail
    have hq : d.next x = none := s.next
    simp only [rotate, hh, ht, applyOp, moveToBack, hq, ↓reduceIte]
  · obtain ⟨m, t, rfl⟩ := exists_snoc hxs
    have ht : d.tail = some t := by simpa using s.tail
    have hxt : x ≠ t := fun e => s.n2 (e ▸ List.mem_concat_self)
    obtain ⟨h', hq⟩ : ∃ h', d.next x = some h' := by
      rw [s.next]; cases m <;> simp
    have hxh : x ≠ h' := fun e => s.n2 (e ▸ List.mem_of_head? (s.next ▸ hq))
    simp only [rotate, hh, ht, if_neg hxt, applyOp, moveToBack, remove, hq, hp, setNext, setPrev, upd_ne _ hxt, upd_same,
      ↓reduceIte]
    rw [upd_comm _ _ hxh, Int.sub_add_cancel]

theorem repr_rotateF {d : Dll} {l : List Node} (h : Rep d l) :
    Rep (rotate d true) (specOp l d.fresh (.rotate true)) := by
  cases l with
  | nil =>
    have hh : d.head = none := h.head
    simpa only [rotate, hh, specOp] using h
  | cons x xs =>
    have := repr_moveToBack h List.mem_cons_self
    rwa [List.erase_cons_head, ← rotate_true h] at this

theorem rotate_false {d : Dll} {m : List Node} {t : Node} (h : Rep d (m ++ [t])) :
    rotate d false = applyOp d (.moveToFront t) := by
  have s := h.split
  have ht : d.tail = some t := s.tail
  have hq : d.next t = none := s.next
  cases m with
  | nil =>
    have hh : d.head = some t := s.head
    have hp : d.prev t = none := s.prev
    simp only [rotate, hh, ht, applyOp, moveToFront, hp, ↓reduceIte]
  | cons x m =>
    have hh : d.head = some x := s.head
    have hxt : x ≠ t := fun e => s.n1 (e ▸ List.mem_cons_self)
    obtain ⟨t', hp⟩ : ∃ t', d.prev t = some t' := ⟨_, s.prev.trans List.getLast?_cons⟩
    have htt : t ≠ t' := fun e => s.n1 (e ▸ List.mem_of_getLast? (s.prev ▸ hp))
    simp only [rotate, hh, ht, if_neg hxt, applyOp, moveToFront, remove, hq, hp, setNext, setPrev, upd_ne _ (Ne.symm hxt),
      upd_ne _ htt, upd_same, Bool.false_eq_true, ↓reduceIte]
    rw [upd_comm _ _ htt, Int.sub_add_cancel]

theorem repr_rotateB {d : Dll} {l : List Node} (h : Rep d l) :
    Rep (rotate d false) (specOp l d.fresh (.rotate false)) := by
  by_cases hl : l = []
  · subst hl
    have hh : d.head = none := h.head
    simpa only [rotate, hh, specOp, List.getLast?_nil] using h
  · obtain ⟨m, t, rfl⟩ := exists_snoc hl
    have := repr_moveToFront h List.mem_concat_self
    rw [erase_split h.split.n1, List.append_nil, ← rotate_false h] at this
    simpa only [specOp, List.getLast?_concat, List.dropLast_concat] using this

theorem repr_step (d : Dll) (l : List Node) (op : Op) (h : Rep d l) (hv : op.Valid l) :
    Rep (applyOp d op) (specOp l d.fresh op) := by
  cases op with
  | append => exact repr_append h
  | prepend => exact repr_prepend h
  | remove n => exact rep_remove h hv
  | popBack => exact repr_popBack h
  | popFront => exact repr_popFront h
  | moveToFront n => exact repr_moveToFront h hv
  | moveToBack n => exact repr_moveToBack h hv
  | moveAfter n a => exact repr_moveAfter h hv.1 hv.2
  | rotate b =>
    cases b with
    | true => exact repr_rotateF h
    | false => exact repr_rotateB h

theorem repr_run (d : Dll) (l : List Node) (ops : List Op) (h : Rep d l) (hv : ValidSeq d l ops) :
    Rep (runOps d l ops).1 (runOps d l ops).2 := by
  induction ops generalizing d l with
  | nil => exact h
  | cons op ops ih => exact ih _ _ (repr_step d l op h hv.1) hv.2

theorem walkF_eq (d : Dll) (l : List Node) (h : Rep d l) (k : Nat) : walkF d (l.length + k) d.head = l := by
  rw [h.head]; exact walkF_seg k h.seg

/-- `iter_nodes` with the fuel the caches give it, `len(self)`, lists exactly the nodes -/
theorem Rep.walk {d : Dll} {l : List Node} (h : Rep d l) : walkF d d.size.toNat d.head = l := by
  have := walkF_eq d l h 0
  rwa [Nat.add_zero, ← Int.toNat_natCast l.length, ← h.size] at this

theorem walkB_eq (d : Dll) (l : List Node) (h : Rep d l) (k : Nat) :
    walkB d (l.length + k) d.tail = l.reverse := by
  rw [h.tail]; exact walkB_seg k h.seg

theorem total (d : Dll) (l : List Node) (h : Rep d l) (hne : l ≠ []) (n : Node) :
    (∃ r, popBack d = .ok r) ∧ (∃ r, popFront d = .ok r) ∧
    (∃ r, moveToFront d n = .ok r) ∧ (∃ r, moveToBack d n = .ok r) := by
  obtain ⟨h0, hh⟩ : ∃ h0, d.head = some h0 :=
    Option.ne_none_iff_exists'.1 fun e => hne (List.head?_eq_none_iff.1 (h.head ▸ e))
  obtain ⟨t0, ht⟩ : ∃ t0, d.tail = some t0 :=
    Option.ne_none_iff_exists'.1 fun e => hne (List.getLast?_eq_none_iff.1 (h.tail ▸ e))
  unfold popBack popFront moveToFront moveToBack
  rw [hh, ht]
  refine ⟨⟨_, rfl⟩, ⟨_, rfl⟩, ?_, ?_⟩
  · cases d.prev n with
    | none => exact ⟨_, rfl⟩
    | some _ =>
      dsimp only
      cases (remove d n).head with
      | none => exact ⟨_, rfl⟩
      | some _ => exact ⟨_, rfl⟩
  · cases d.next n with
    | none => exact ⟨_, rfl⟩
    | some _ =>
      dsimp only
      cases (remove d n).tail with
      | none => exact ⟨_, rfl⟩
      | some _ => exact ⟨_, rfl⟩

end WindVerif.Dll
