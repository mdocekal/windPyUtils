import WindVerif.Spec.FMap
/-! Definitions for the proofs about the `FunctorMap` / `mul_p_map` interleaving model: the inductive invariant `Inv`,
the call-boundary condition `Bnd`, the termination measure `mu`. -/
namespace WindVerif.FMap

/-- `Reach` (`Spec/FMap.lean`) under the name the proofs use -/
def Reachable (cfg : Cfg) (s : St) : Prop := ∃ sched, run (init cfg) sched = some s

/-- `outOf` (`Spec/FMap.lean`) on the output list alone -/
def outK (out : List (Nat × Nat)) (k : Nat) : List Nat := (out.filter (fun p => p.1 == k)).map (·.2)

def chunksQ (q : List (Option Nat)) : List Nat := q.filterMap id
def nonesQ (q : List (Option Nat)) : Nat := q.countP (fun x => x.isNone)
def heldL (ws : List Worker) : List Nat := ws.filterMap (·.held)
def live (ws : List Worker) : Nat := ws.countP (fun w => decide (w.pc ≠ .exited))

/-- number of stop orders posted so far for the current generation of workers -/
def posted (cfg : Cfg) : PPc → Nat
  | .start _ | .put | .nowait => 0
  | .stopPut i => i
  | .finalGet => if cfg.mulP then cfg.nWorkers else 0
  | .join _ | .done => cfg.nWorkers

/-- number of workers of the current generation known to have been joined -/
def joined (cfg : Cfg) : PPc → Nat
  | .join i => i
  | .done => cfg.nWorkers
  | _ => 0

/-- number of chunks of the current call handed to the caller -/
def cur (cfg : Cfg) (ppc : PPc) (total wf : Nat) : Nat :=
  if cfg.mulP then (match ppc with | .join _ | .done => total | _ => 0) else wf

def PhaseOK (cfg : Cfg) (s : St) : Prop :=
  match s.ppc with
  | .start i => i < cfg.nWorkers ∧ s.dataCnt = 0 ∧ s.finished = 0 ∧ s.next = 0 ∧
      (cfg.mulP = true → 1 ≤ s.callNo) ∧ (cfg.mulP = false → s.total = 0) ∧
      (∀ w ∈ s.workers, s.base + i ≤ w.wid → w.pc = .notStarted)
  | .put => s.dataCnt = s.next ∧ s.next < s.total ∧ 1 ≤ s.callNo
  | .nowait => s.dataCnt = s.next + 1 ∧ s.next < s.total ∧ 1 ≤ s.callNo
  | .stopPut i => i < cfg.nWorkers ∧ s.dataCnt = s.total ∧
      (cfg.mulP = true → 1 ≤ s.callNo) ∧ (cfg.mulP = false → s.finished = s.dataCnt ∧ s.callsLeft = [])
  | .finalGet => s.dataCnt = s.total ∧ 1 ≤ s.callNo
  | .join i => i < cfg.nWorkers ∧ s.finished = s.dataCnt ∧ s.dataCnt = s.total ∧ (cfg.mulP = false → s.callsLeft = [])
  | .done => s.finished = s.dataCnt ∧ s.dataCnt = s.total ∧ s.callsLeft = []

/-- the expected value of `outK s.out k` -/
def expOut (cfg : Cfg) (callNo c : Nat) (k : Nat) : List Nat :=
  if k = 0 then [] else if k < callNo then List.range (cfg.calls[k - 1]?.getD 0)
  else if k = callNo then List.range c else []

/-- the invariant without the strictness of the final drain -/
structure Main (cfg : Cfg) (s : St) : Prop where
  cfg_eq : s.cfg = cfg
  wids : s.workers.map (·.wid) = List.range s.workers.length
  held_put : ∀ w ∈ s.workers, (w.pc = .put ↔ w.held ≠ none)
  cons : (chunksQ s.workQ ++ heldL s.workers ++ s.resQ ++ s.buffer ++ s.got ++ List.range s.wf).Perm (List.range s.dataCnt)
  fin : s.finished = s.got.length + s.wf
  modeP : cfg.mulP = true → s.buffer = [] ∧ s.wf = 0
  modeF : cfg.mulP = false → s.got = []
  wfbuf : s.wf ∉ s.buffer
  count : live s.workers + posted cfg s.ppc = cfg.nWorkers + nonesQ s.workQ
  nonone : posted cfg s.ppc = 0 → none ∉ s.workQ
  sortedQ : s.workQ.Pairwise (fun a b => a = none → b = none)
  exitedQ : live s.workers < cfg.nWorkers → ∀ x ∈ s.workQ, x = none
  joinedEx : ∀ w ∈ s.workers, w.wid < s.base + joined cfg s.ppc → w.pc = .exited
  notStarted : ∀ w ∈ s.workers, w.pc = .notStarted → ∃ i, s.ppc = .start i ∧ s.base + i ≤ w.wid
  len : s.workers.length = s.base + cfg.nWorkers ∨ (s.workers = [] ∧ s.ppc = .done)
  histDrop : cfg.calls.drop s.callNo = s.callsLeft
  histLe : s.callNo ≤ cfg.calls.length
  histTot : 1 ≤ s.callNo → cfg.calls[s.callNo - 1]? = some s.total
  outs : ∀ k, outK s.out k = expOut cfg s.callNo (cur cfg s.ppc s.total s.wf) k
  phase : PhaseOK cfg s

structure Inv (cfg : Cfg) (s : St) : Prop extends Main cfg s where
  strict : s.ppc = .finalGet → s.finished < s.dataCnt

/-- the condition under which `startCallGo s l` is called: everything is quiet, the calls up to `callNo` are complete -/
structure Bnd (cfg : Cfg) (s : St) (l : List Nat) : Prop where
  cfg_eq : s.cfg = cfg
  wids : s.workers.map (·.wid) = List.range s.workers.length
  held : ∀ w ∈ s.workers, w.held = none ∧ w.pc ≠ .put ∧ w.pc ≠ .notStarted
  workQ : s.workQ = []
  resQ : s.resQ = []
  buffer : s.buffer = []
  cc : s.finished = s.dataCnt ∧ s.dataCnt = s.total
  fin : s.finished = s.got.length + s.wf
  gotp : (s.got ++ List.range s.wf).Perm (List.range s.dataCnt)
  modeP : cfg.mulP = true → s.wf = 0 ∧ ∀ w ∈ s.workers, w.pc = .exited
  modeF : cfg.mulP = false → s.got = [] ∧ live s.workers = cfg.nWorkers ∧ s.workers ≠ []
  len : s.workers.length = s.base + cfg.nWorkers ∨ s.workers = []
  old : ∀ w ∈ s.workers, w.wid < s.base → w.pc = .exited
  histDrop : cfg.calls.drop s.callNo = l
  histLe : s.callNo ≤ cfg.calls.length
  histTot : 1 ≤ s.callNo → cfg.calls[s.callNo - 1]? = some s.total
  outs : ∀ k, outK s.out k = expOut cfg (s.callNo + 1) 0 k

/-! the termination measure -/
def wOmega (w : Worker) : Nat := match w.pc with | .notStarted => 1 | .get => 1 | .put => 3 | .exited => 0

def phi (mulP : Bool) (N : Nat) : PPc → Nat
  | .done => 0
  | .join i => N - i + 1
  | .stopPut i => if mulP then (N - i) + N + 3 else (N - i) + N + 2
  | .finalGet => if mulP then N + 2 else 2 * N + 2
  | .nowait => if mulP then 2 * N + 4 else 2 * N + 3
  | .put => if mulP then 2 * N + 8 else 2 * N + 7
  | .start i => 2 * (N - i) + (if mulP then 2 * N + 10 else 2 * N + 4)

def callW (N n : Nat) : Nat := 5 * n + 5 * N + 10

/-- the part of the measure owned by the queues and the workers -/
def muA (s : St) : Nat := 3 * (chunksQ s.workQ).length + s.resQ.length + (s.workers.map wOmega).sum

def mu (s : St) : Nat :=
  muA s + (s.callsLeft.map (callW s.cfg.nWorkers)).sum + 5 * (s.total - (s.next + 1)) + phi s.cfg.mulP s.cfg.nWorkers s.ppc

end WindVerif.FMap
