import WindVerif.Model.LineFile
/-! Lemmas on the pure functions of the line-file model: the line structure of a text (`takeLine`, `rstripNL`), byte
offsets (`byteLen`, `dropBytes`, `indexGo`), Python's index conventions (`Py.index`, `Py.sliceIndices`), and the exchange
of two list positions that `reverse` performs. -/
namespace WindVerif.LineFile
open WindVerif

theorem decomp (s : Str) : (∃ body rest, s = body ++ '\n' :: rest ∧ '\n' ∉ body) ∨ '\n' ∉ s := by
  induction s with
  | nil => exact .inr List.not_mem_nil
  | cons c r ih =>
    by_cases hc : c = '\n'
    · exact .inl ⟨[], r, by rw [hc]; rfl, List.not_mem_nil⟩
    · have hcons {b : Str} (h : '\n' ∉ b) : '\n' ∉ c :: b := fun hm => (List.mem_cons.mp hm).elim (fun e => hc e.symm) h
      rcases ih with ⟨body, rest, h1, h2⟩ | h
      · exact .inl ⟨c :: body, rest, by rw [h1]; rfl, hcons h2⟩
      · exact .inr (hcons h)

theorem takeLine_append_nonl {body : Str} (hb : '\n' ∉ body) (rest : Str) :
    takeLine (body ++ rest) = body ++ takeLine rest := by
  induction body with
  | nil => rfl
  | cons c b ih =>
    rw [List.cons_append, takeLine, if_neg (List.ne_of_not_mem_cons hb).symm, ih (List.not_mem_of_not_mem_cons hb)]; rfl

theorem takeLine_append {body : Str} (hb : '\n' ∉ body) (rest : Str) :
    takeLine (body ++ '\n' :: rest) = body ++ ['\n'] := by
  rw [takeLine_append_nonl hb, takeLine, if_pos rfl]

theorem takeLine_nonl {s : Str} (hs : '\n' ∉ s) : takeLine s = s := by
  have := takeLine_append_nonl hs []
  rwa [List.append_nil, takeLine, List.append_nil] at this

theorem rstripNL_nonl {s : Str} (hs : '\n' ∉ s) : rstripNL s = s := by
  unfold rstripNL
  cases hr : s.reverse with
  | nil => rw [← List.reverse_reverse s, hr]; rfl
  | cons x t =>
    have hne : x ≠ '\n' := fun h => hs (List.mem_reverse.mp (hr ▸ h ▸ List.mem_cons_self))
    rw [List.dropWhile_cons_of_neg (by simpa using hne), ← hr, List.reverse_reverse]

theorem rstripNL_append {body : Str} (hb : '\n' ∉ body) : rstripNL (body ++ ['\n']) = body := by
  have := rstripNL_nonl hb
  unfold rstripNL at *
  simpa [List.dropWhile_cons] using this

theorem takeLine_append_drop (s : Str) : takeLine s ++ s.drop (takeLine s).length = s := by
  induction s with
  | nil => rfl
  | cons c r ih =>
    unfold takeLine
    split
    · simp
    · simpa using ih

theorem byteLen_append (a b : Str) : byteLen (a ++ b) = byteLen a + byteLen b := by
  simp [byteLen]

theorem dropBytes_zero (s : Str) : dropBytes s 0 = some s := by
  cases s <;> rfl

theorem dropBytes_cons_add (c : Char) (r : Str) (n : Nat) : dropBytes (c :: r) (c.utf8Size + n) = dropBytes r n := by
  obtain ⟨k, hk⟩ := Nat.exists_eq_add_one_of_ne_zero (Nat.ne_of_gt (Nat.add_pos_left c.utf8Size_pos n))
  rw [hk, dropBytes, ← hk, if_pos (Nat.le_add_right _ _), Nat.add_sub_cancel_left]

theorem dropBytes_append (pre s : Str) : dropBytes (pre ++ s) (byteLen pre) = some s := by
  induction pre with
  | nil => exact dropBytes_zero s
  | cons c p ih => exact (dropBytes_cons_add c (p ++ s) (byteLen p)).trans ih

theorem indexGo_nil (off : Nat) : indexGo off [] = [] := by
  rw [indexGo]

theorem indexGo_cons (off : Nat) (c : Char) (r : Str) :
    indexGo off (c :: r) = off :: indexGo (off + byteLen (takeLine (c :: r))) ((c :: r).drop (takeLine (c :: r)).length) := by
  rw [indexGo]

theorem enumFrom_mem {a step : Int} {k : Nat} {x : Int} (h : x ∈ Py.enumFrom a step k) :
    ∃ m : Nat, m < k ∧ x = a + step * m := by
  induction k generalizing a with
  | zero => cases h
  | succ n ih =>
    rcases List.mem_cons.mp h with h | h
    · exact ⟨0, Nat.zero_lt_succ n, by simp [h]⟩
    · obtain ⟨m, hm, hx⟩ := ih h
      exact ⟨m + 1, Nat.succ_lt_succ hm,
        by rw [hx, Int.natCast_succ, Int.mul_add, Int.mul_one, Int.add_assoc, Int.add_comm step]⟩

theorem clampBound_bounds (len : Nat) (lower upper v : Int) (h : lower ≤ upper) :
    lower ≤ Py.clampBound len lower upper v ∧ Py.clampBound len lower upper v ≤ upper := by
  unfold Py.clampBound
  generalize (if v < 0 then v + (len : Int) else v) = w
  simp only
  split
  · exact ⟨Int.le_refl _, h⟩
  · split <;> omega

/-- of `count = ⌈d / s⌉` steps of width `s > 0` the `m`-th one (`m < count`) stays short of `d` -/
theorem steps_lt {s d : Int} (hs : 0 < s) {c : Prop} [Decidable c] {m : Nat}
    (hm : m < (if c then ((d + s - 1) / s).toNat else 0)) : s * m < d := by
  split at hm
  · have h2 : (m : Int) + 1 ≤ (d + s - 1) / s := Int.lt_toNat.mp hm
    rw [Int.le_ediv_iff_mul_le hs, Int.add_mul, Int.mul_comm] at h2
    omega
  · exact absurd hm (Nat.not_lt_zero m)

theorem slice_pos (len : Nat) {start stop step : Int} (h0 : 0 ≤ start) (h1 : stop ≤ len) (hs : 0 < step) {p : Nat}
    (hp : p ∈ (Py.enumFrom start step (if start < stop then ((stop - start + step - 1) / step).toNat else 0)).map
      Int.toNat) : p < len := by
  obtain ⟨x, hx, rfl⟩ := List.mem_map.mp hp
  obtain ⟨m, hm, rfl⟩ := enumFrom_mem hx
  have := steps_lt hs hm
  have := Int.mul_nonneg (Int.le_of_lt hs) (Int.natCast_nonneg m)
  omega

theorem slice_neg (len : Nat) {start stop step : Int} (h0 : -1 ≤ stop) (h1 : start ≤ (len : Int) - 1) (hs : step < 0)
    {p : Nat} (hp : p ∈ (Py.enumFrom start step
      (if stop < start then ((start - stop + (-step) - 1) / (-step)).toNat else 0)).map Int.toNat) : p < len := by
  obtain ⟨x, hx, rfl⟩ := List.mem_map.mp hp
  obtain ⟨m, hm, rfl⟩ := enumFrom_mem hx
  have := steps_lt (Int.neg_pos_of_neg hs) hm
  have := Int.mul_nonneg (Int.le_of_lt (Int.neg_pos_of_neg hs)) (Int.natCast_nonneg m)
  rw [Int.neg_mul] at *
  omega

/-- `range(len)[slice]` only enumerates valid positions -/
theorem sliceIndices_lt (len : Nat) (s : Py.Slice) (idx : List Nat) (h : Py.sliceIndices len s = some idx) :
    ∀ p ∈ idx, p < len := by
  intro p hp
  unfold Py.sliceIndices at h
  simp only at h
  -- `by_cases` and not `split at h`: the branches are large
  by_cases h0 : s.step.getD 1 = 0
  · rw [if_pos h0] at h; cases h
  · rw [if_neg h0] at h
    by_cases hs : s.step.getD 1 > 0
    · rw [if_pos hs] at h; cases h
      have hb := (clampBound_bounds len 0 len · (Int.natCast_nonneg len))
      refine slice_pos len ?_ ?_ hs hp <;> split
      · exact (hb _).1
      · exact Int.le_refl 0
      · exact (hb _).2
      · exact Int.le_refl _
    · rw [if_neg hs] at h; cases h
      have hb := (clampBound_bounds len (-1) (len - 1) · (by omega))
      refine slice_neg len ?_ ?_ (by omega) hp <;> split
      · exact (hb _).1
      · exact Int.le_refl _
      · exact (hb _).2
      · exact Int.le_refl _

theorem index_lt {len : Nat} {i : Int} {p : Nat} (h : Py.index len i = some p) : p < len := by
  unfold Py.index at h
  split at h <;> split at h <;> cases h <;> omega

theorem index_nat {len a : Nat} (ha : a < len) : Py.index len (a : Int) = some a := by
  rw [Py.index, if_pos (Int.natCast_nonneg a), if_pos (Int.ofNat_lt.mpr ha)]; rfl

theorem index_nat_none {len a : Nat} (ha : len ≤ a) : Py.index len (a : Int) = none := by
  rw [Py.index, if_pos (Int.natCast_nonneg a), if_neg (Int.not_lt.mpr (Int.ofNat_le.mpr ha))]

theorem index_neg_one (n : Nat) : Py.index (n + 1) (-1) = some n := by
  rw [Py.index, if_neg (by decide), if_pos (by omega)]; rfl

theorem mapM_index_nat (len : Nat) (idx : List Nat) (h : ∀ p ∈ idx, p < len) :
    (idx.map (fun (n : Nat) => (n : Int))).mapM (Py.index len) = some idx := by
  induction idx with
  | nil => rfl
  | cons a r ih =>
    rw [List.map_cons, List.mapM_cons, index_nat (h a List.mem_cons_self),
      ih (fun p hp => h p (List.mem_cons_of_mem a hp))]
    rfl

theorem getElem?_of_map_eq {α β γ} {f : α → γ} {g : β → γ} {as : List α} {bs : List β} (h : as.map f = bs.map g)
    (i : Nat) : as[i]?.map f = bs[i]?.map g := by
  rw [← List.getElem?_map, ← List.getElem?_map, h]


theorem getElem?_append_cons {α} (a b : List α) (x : α) : (a ++ x :: b)[a.length]? = some x := by
  simp

theorem set_append_cons {α} (a b : List α) (x y : α) : (a ++ x :: b).set a.length y = a ++ y :: b := by
  simp

theorem swap_ends {α} (a m c : List α) (x y : α) {k : Nat} (hk : k = a.length + m.length + 1) :
    (a ++ x :: (m ++ y :: c))[a.length]? = some x ∧ (a ++ x :: (m ++ y :: c))[k]? = some y ∧
    ((a ++ x :: (m ++ y :: c)).set a.length y).set k x = a ++ y :: (m ++ x :: c) := by
  have e (u v : α) : a ++ u :: (m ++ v :: c) = (a ++ u :: m) ++ v :: c := by simp
  have hk' (u : α) : k = (a ++ u :: m).length := by simp [hk]; omega
  refine ⟨getElem?_append_cons .., ?_, ?_⟩
  · rw [e, hk' x]; exact getElem?_append_cons ..
  · rw [set_append_cons, e, hk' y, set_append_cons, ← e]

theorem short_or_ends {α} : ∀ l : List α, l.length < 2 ∧ l.reverse = l ∨ ∃ x m y, l = x :: (m ++ [y])
  | [] => .inl ⟨Nat.zero_lt_two, rfl⟩
  | [_] => .inl ⟨Nat.one_lt_two, rfl⟩
  | x :: a :: t => by
    obtain ⟨m, y, h⟩ := (List.eq_nil_or_concat (a :: t)).resolve_left (List.cons_ne_nil a t)
    exact .inr ⟨x, m, y, by rw [h, List.concat_eq_append]⟩

end WindVerif.LineFile
