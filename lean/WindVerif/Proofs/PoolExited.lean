import WindVerif.Proofs.PoolLifeMidB
/-!
`join_timeout=None` (`Cfg.joinTimeout = false`): a worker the pool does not list any more has EXITED.

Every worker runs its `end()` as a step of its own (`WPc.ending`) after the operation that ended its loop, so "has left its
loop" (`gone`) and "has exited" are different things in every configuration.  What makes the difference disappear for the
replaced workers of a pool without a join timeout is the blocking `join` of the replace thread: the slot of a retired
worker is overwritten (`procs[idx] = successor`) only by the step that follows a join that has returned, i.e. after the
retired process has an exit code.  `UnlExited` is that invariant; `exit_joins_all`, `unlisted_exited'`, `alive_le_workers`
and `exit_skip_all_gone` rest on it.
-/
namespace WindVerif.Pool

def UnlExited (s : St) : Prop :=
  s.cfg.joinTimeout = false → ∀ w ∈ s.workers, w.wid ∉ s.procs → w.pc = .exited

theorem UnlExited_init (cfg : Cfg) : UnlExited (init cfg) := by
  intro _ w hw hn
  exfalso; apply hn
  obtain ⟨k, hk, rfl⟩ := List.mem_map.1 hw
  exact hk

theorem UnlExited_frame {s s' : St} (hU : UnlExited s) (h1 : s'.cfg = s.cfg) (h2 : s'.workers = s.workers)
    (h3 : s'.procs = s.procs) : UnlExited s' := by
  unfold UnlExited; rw [h1, h2, h3]; exact hU

theorem UnlExited_upd {s s' : St} {w w' : Worker} (hU : UnlExited s) (h1 : s'.cfg = s.cfg)
    (h2 : s'.workers = upd w.wid w' s.workers) (h3 : s'.procs = s.procs)
    (hw' : s.cfg.joinTimeout = false → w'.wid ∉ s.procs → w'.pc = .exited) : UnlExited s' := by
  intro hjt x hx hn
  rw [h1] at hjt; rw [h3] at hn; rw [h2] at hx
  rcases mem_upd.1 hx with ⟨rfl, _⟩ | ⟨hx', _⟩
  · exact hw' hjt hn
  · exact hU hjt x hx' hn

theorem UnlExited_stepR {s s' : St} (hL : LInv s) (hU : UnlExited s) (h : stepR s = some s') : UnlExited s' := by
  obtain ⟨_, ⟨r, _, _, rfl⟩ | ⟨wid, r, _, _, rfl⟩ | ⟨wid, hrpc, hj, rfl⟩ | ⟨nw, w, hrpc, hg, rfl⟩⟩ := stepR_cases h
  · exact hU
  · exact hU
  · -- the slot of the retired worker is overwritten: the join has returned, and without a timeout it returns only after
    -- the exit
    intro hjt x hx hn
    have hjt' : s.cfg.joinTimeout = false := hjt
    have hex : workerExited s wid = true := by
      rw [hjt'] at hj; simpa using hj
    have hx' : x ∈ s.workers ++ [mkWorker s.cfg s.widCounter] := hx
    have hn' : x.wid ∉ s.procs.map (fun y => if y = wid then s.widCounter else y) := hn
    have hwid : wid ∈ s.procs := by
      have hp : wid ∈ pending s := by unfold pending; rw [hrpc]; exact List.mem_append_left _ (List.mem_singleton.2 rfl)
      exact (hL.pend wid hp).1
    rcases List.mem_append.1 hx' with hx0 | hx0
    · by_cases hin : x.wid ∈ s.procs
      · by_cases he : x.wid = wid
        · exact workerExited_all hL hex x hx0 he
        · exact absurd (List.mem_map.2 ⟨x.wid, hin, by simp [he]⟩) hn'
      · exact hU hjt' x hx0 hin
    · simp at hx0; subst hx0
      exact absurd (List.mem_map.2 ⟨wid, hwid, by simp [mkWorker]⟩) hn'
  · obtain ⟨hwm, hwid⟩ := getWorker_some hg
    have hpc : w.pc = .notStarted := hL.rStarting nw hrpc w hwm hwid
    refine UnlExited_upd (w := w) (w' := { w with pc := .bfClear }) hU rfl rfl rfl ?_
    intro _ hn
    exact absurd (hL.listed w hwm (by rw [hpc]; rfl)) hn

theorem UnlExited_step {s s' : St} {t : Tid} (hL : LInv s) (hU : UnlExited s) (h : step s t = some s') : UnlExited s' := by
  have hcfg := step_cfg h
  cases t with
  | c =>
    have hp := (stepC_procsM h).1
    rcases stepC_workers h with e | ⟨w, hw, e⟩
    · exact UnlExited_frame hU hcfg e hp
    · have hL' := LInv_step hL (t := .c) h
      refine UnlExited_upd hU hcfg e hp ?_
      intro _ hn
      have hmem : ({ w with pc := .bfClear } : Worker) ∈ s'.workers := by
        rw [e]; exact mem_upd.2 (Or.inl ⟨rfl, w, hw, rfl⟩)
      have := hL'.listed _ hmem rfl
      rw [hp] at this
      exact absurd this hn
  | f => exact UnlExited_frame hU hcfg (stepF_same h).1.workers (stepF_same h).1.procs
  | r => exact UnlExited_stepR hL hU h
  | w k =>
    obtain ⟨w, w', hg, _, hn2, hwid, _, _, hf⟩ := stepW_summary h
    refine UnlExited_upd hU hcfg hf.workers hf.procs ?_
    intro hjt hn
    rw [hwid] at hn
    exact absurd (hU hjt w (getWorker_some hg).1 hn) hn2

theorem UnlExited_run {s s' : St} {sched : List Tid} (hL : LInv s) (hU : UnlExited s) (h : run s sched = some s') :
    UnlExited s' := by
  induction sched generalizing s with
  | nil => cases h; exact hU
  | cons t ts ih =>
    simp only [run] at h
    split at h
    · cases h
    · rename_i s1 hs1
      exact ih (LInv_step hL hs1) (UnlExited_step hL hU hs1) h

theorem UnlExited_reach {cfg : Cfg} {s : St} (h : Reach cfg s) : UnlExited s := by
  obtain ⟨sched, hs⟩ := h
  exact UnlExited_run (LInv_init cfg) (UnlExited_init cfg) hs

theorem unlisted_exited' (cfg : Cfg) (hjt : cfg.joinTimeout = false) (s : St) (h : Reach cfg s) (w : Worker)
    (hw : w ∈ s.workers) (hn : w.wid ∉ s.procs) : w.pc = .exited := by
  obtain ⟨_, hc⟩ := LInv_reach h
  exact UnlExited_reach h (by rw [hc]; exact hjt) w hw hn

end WindVerif.Pool
