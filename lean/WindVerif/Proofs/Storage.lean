import WindVerif.Proofs.StorageIteration
import WindVerif.Proofs.StorageFlush
/-! Theorems about the interleaving model of `TextFileStorage` (C14). -/
namespace WindVerif.Storage

/-- published ⇒ durable, under every interleaving of any number of writers and readers: an index entry always points at a
complete line (text and terminator) in an existing file -/
theorem published_durable (presize : Nat) (scripts : List (List Op)) (hnf : NoFlush scripts) (s : St)
    (hr : Reach presize scripts s) (g : Nat) (l : List (Option Nat)) (h : entryLine s g = some l) :
    ∃ t, l = [some t, none] := by
  obtain ⟨sched, hr⟩ := hr
  exact (reach_inv hnf hr).2.1.durable (g := g) h

/-- an index entry, once published, never changes, and neither does the line it points at (files are append-only) -/
theorem published_stable (presize : Nat) (scripts : List (List Op)) (hnf : NoFlush scripts) (s : St)
    (hr : Reach presize scripts s) (sched : List Nat) (s' : St) (hs : run s sched = some s') (g : Nat)
    (l : List (Option Nat)) (h : entryLine s g = some l) : entryLine s' g = some l ∧ s'.index[g]? = s.index[g]? := by
  obtain ⟨sched0, hr⟩ := hr
  obtain ⟨hA, hB, _⟩ := reach_inv hnf hr
  obtain ⟨hB', hS⟩ := run_AB hA hB hs
  exact hB.stable hB' hS h

/-- what is stored under an id is what any process reads back: a finished read of `g` either raised `IndexError` or
returned exactly the complete line of the text of a store of `g` that succeeded — never empty, partial or another id's -/
theorem read_spec (presize : Nat) (scripts : List (List Op)) (hnf : NoFlush scripts) (s : St)
    (hr : Reach presize scripts s) (i k g : Nat) (r : Res) (h : resultOf scripts s i k = some (.read g, r)) :
    r = .indexError ∨ ∃ j k' t, resultOf scripts s j k' = some (.store g t, .ok) ∧ r = .text [some t, none] := by
  obtain ⟨sched, hr⟩ := hr
  obtain ⟨_, _, hC, _⟩ := reach_inv hnf hr
  obtain ⟨sc, p, h1, h2, h3, h4⟩ := resultOf'_some.1 h
  rcases hC.loc1 i p h2 sc k _ r h1 h3 h4 with h5 | ⟨t, ⟨j, k', h5⟩, h6⟩
  · exact Or.inl h5
  · exact Or.inr ⟨j, k', t, h5, h6⟩

/-- storing twice under one id: at most one store of `g` succeeds, every other finished one raised `ValueError` -/
theorem store_once (presize : Nat) (scripts : List (List Op)) (hnf : NoFlush scripts) (s : St)
    (hr : Reach presize scripts s) (i k j k' g t t' : Nat) (r r' : Res)
    (h1 : resultOf scripts s i k = some (.store g t, r)) (h2 : resultOf scripts s j k' = some (.store g t', r'))
    (hne : (i, k) ≠ (j, k')) : (r = .ok ∨ r = .valueError) ∧ ¬ (r = .ok ∧ r' = .ok) := by
  obtain ⟨sched, hr⟩ := hr
  obtain ⟨_, _, hC, _⟩ := reach_inv hnf hr
  obtain ⟨sc, p, e1, e2, e3, e4⟩ := resultOf'_some.1 h1
  refine ⟨(hC.loc1 i p e2 sc k _ r e1 e3 e4).1, ?_⟩
  rintro ⟨rfl, rfl⟩
  obtain ⟨h3, h4⟩ := hC.uniqOk i k j k' g t t' h1 h2
  exact hne (by rw [h3, h4])

/-- a successful store makes the id stored; a failed one (ValueError) found it stored -/
theorem store_result (presize : Nat) (scripts : List (List Op)) (hnf : NoFlush scripts) (s : St)
    (hr : Reach presize scripts s) (i k g t : Nat) (r : Res) (h : resultOf scripts s i k = some (.store g t, r)) :
    stored s g = true := by
  obtain ⟨sched, hr⟩ := hr
  obtain ⟨_, _, hC, _⟩ := reach_inv hnf hr
  obtain ⟨sc, p, e1, e2, e3, e4⟩ := resultOf'_some.1 h
  exact (hC.loc1 i p e2 sc k _ r e1 e3 e4).2

/-- the counters, whenever nobody is inside a critical section: `len()` is the number of stored ids and `_waiting_for` is
the smallest id that is not stored -/
theorem counters_quiescent (presize : Nat) (scripts : List (List Op)) (hnf : NoFlush scripts) (s : St)
    (hr : Reach presize scripts s) (hq : s.lock = none) :
    s.cnt = ((List.range s.index.length).filter (stored s)).length ∧ (∀ g, g < s.wf → stored s g = true) ∧
    stored s s.wf = false := by
  obtain ⟨sched, hr⟩ := hr
  obtain ⟨_, _, _, hD, _⟩ := reach_inv hnf hr
  obtain ⟨h1, h2, h3⟩ := hD.free hq
  refine ⟨?_, h2, h3⟩
  rw [h1, ← nSt_eq_filter]; rfl

/-- `is_contiguous()` (evaluated in such a state) is true exactly when the stored ids are `0 .. len-1` -/
theorem contiguous_iff (presize : Nat) (scripts : List (List Op)) (hnf : NoFlush scripts) (s : St)
    (hr : Reach presize scripts s) (hq : s.lock = none) :
    (s.wf = s.cnt) ↔ (∀ g, stored s g = true ↔ g < s.cnt) := by
  obtain ⟨sched, hr⟩ := hr
  obtain ⟨_, _, _, hD, _⟩ := reach_inv hnf hr
  obtain ⟨h1, h2, h3⟩ := hD.free hq
  have hst : ∀ g, stored s g = stL s.index g := fun _ => rfl
  obtain ⟨p1, p2⟩ := pigeon s.index s.wf h2
  constructor
  · intro h g
    rw [hst]
    constructor
    · intro hg; have := p2 (by omega) g hg; omega
    · intro hg; exact h2 g (by omega)
  · intro h
    have h4 : ¬ s.wf < s.cnt := by
      intro hlt
      have := (h s.wf).2 hlt
      rw [hst, h3] at this; cases this
    omega

/-- iteration (which holds the lock throughout) yields every stored text in id order, skipping gaps -/
theorem iter_spec (presize : Nat) (scripts : List (List Op)) (hnf : NoFlush scripts) (s s' : St)
    (hr : Reach presize scripts s) (i : Nat) (p : Proc) (hp : s.procs[i]? = some p) (hpc : p.pc = .iRel)
    (hs : step s i = some s') :
    ∃ p', s'.procs[i]? = some p' ∧
      p'.results = p.results ++ [.texts ((List.range s.index.length).filterMap (entryLine s))] := by
  obtain ⟨sched, hr⟩ := hr
  obtain ⟨_, _, _, _, hE⟩ := reach_inv hnf hr
  exact iter_result hE hp hpc hs

/-- `flush()`: running the flushing process through its critical section (it holds the lock, nobody else can interfere with
the shared state) removes every listed file and leaves the storage in its initial state -/
theorem flush_clears (s : St) (i : Nat) (p : Proc) (hp : s.procs[i]? = some p) (hpc : p.pc = .fPathsGet)
    (hlock : s.lock = some i) (hk : p.tmp = 0) :
    ∃ sched s' p', run s sched = some s' ∧ (∀ j ∈ sched, j = i) ∧ s'.procs[i]? = some p' ∧ p'.pc = .fRel ∧
      s'.paths = [] ∧ s'.index = [] ∧ s'.cnt = 0 ∧ s'.wf = 0 ∧
      (∀ w, some w ∈ s.paths → fileOf s' w = none) := by
  have _ := hlock   -- the lock is not needed for the execution itself (no `acquire` on the way)
  exact flush_run s i p hp hpc hk

end WindVerif.Storage
