import WindVerif.Model.SortedMixins
import WindVerif.Proofs.Sorted
import WindVerif.Proofs.SortedCopy
/-!
Theorems about the inherited `collections.abc` interface of `SortedMap` / `SortedSet` (`Model/SortedMixins.lean`): the mixin
methods agree with dict / set semantics (`mapLookup` is the dict a map state stands for; sets are characterised by
membership, which with `Strict` determines the list — `strict_unique`).  Here are the statements with a longer proof or a
second user; the others are proved where they are stated, in `Props/C09.lean`.
-/
namespace WindVerif.Sorted

/-- after `self[key]` succeeded, `del self[key]` succeeds (in any state): the last branch of `mapPopD` is unreachable -/
theorem mapDel_ok_of_get_ok (m : SMap) (p : Probe) (v : Nat) (h : mapGet m p = .ok v) :
    ∃ m', mapDel m p = .ok m' := by
  unfold mapGet at h
  unfold mapDel
  cases hi : mapIndex m p with
  | error e => rw [hi] at h; cases h
  | ok r =>
    obtain ⟨i, b⟩ := r
    cases b with
    | false => rw [hi] at h; cases h
    | true => exact ⟨_, rfl⟩

/-- `get(key, default)` is the dict lookup, or the default; the default for a foreign-typed key -/
theorem mapGetD_spec (m : SMap) (d : Nat) (h : MapWf m) :
    (∀ k, mapGetD m (.num k) d = (mapLookup m k).getD d) ∧ mapGetD m .foreign d = d := by
  refine ⟨fun k => ?_, by rw [mapGetD, mapGet_foreign]⟩
  rw [mapGetD, mapGet_num m k h]
  cases mapLookup m k <;> rfl

/-- `pop(key, default)` of an absent key (also of a foreign-typed one): the state is unchanged, the default comes back -/
theorem mapPopD_absent (m : SMap) (d : Nat) (h : MapWf m) :
    (∀ k, mapLookup m k = none → mapPopD m (.num k) d = (m, d)) ∧ mapPopD m .foreign d = (m, d) :=
  ⟨fun k hk => by rw [mapPopD, mapGet_num m k h, hk], by rw [mapPopD, mapGet_foreign]⟩

/-- `pop(key, default)` of a present key is `del m[key]` and returns the value: the new state is well formed and stands for
the dict without the key -/
theorem mapPopD_present (m : SMap) (k : Int) (v d : Nat) (h : MapWf m) (hk : mapLookup m k = some v) :
    ∃ m', mapDel m (.num k) = .ok m' ∧ mapPopD m (.num k) d = (m', v) ∧ MapWf m' ∧
      ∀ k', mapLookup m' k' = if k' = k then none else mapLookup m k' := by
  have hd := mapDel_spec m k h
  rw [hk] at hd
  obtain ⟨m', hd1, hwf, hl⟩ := hd
  refine ⟨m', hd1, ?_, hwf, hl⟩
  rw [mapPopD, mapGet_num m k h, hk]
  simp only [hd1]

theorem mapLookup_some_mem {m : SMap} {k : Int} {v : Nat} (hk : mapLookup m k = some v) : k ∈ m.keys :=
  Classical.byContradiction fun hn => by rw [mapLookup, lookup_zip_none hn] at hk; cases hk

theorem mapLookup_isSome_of_mem {m : SMap} {k : Int} (h : MapWf m) (hk : k ∈ m.keys) :
    ∃ v, mapLookup m k = some v := by
  obtain ⟨L, G, VL, VG, hlen, hL, hG, ⟨w, rfl⟩ | rfl⟩ := map_split m k h
  · exact ⟨w, by rw [mapLookup_present hlen hL, if_pos rfl]⟩
  · exact absurd hk (not_mem_split hL hG)

theorem mapValuesContains_iff (m : SMap) (v : Nat) (h : MapWf m) :
    mapValuesContains m v = true ↔ ∃ k, mapLookup m k = some v := by
  rw [mapValuesContains, List.any_eq_true]
  constructor
  · rintro ⟨k, _, hv⟩
    rw [mapGet_num m k h] at hv
    refine ⟨k, ?_⟩
    cases hl : mapLookup m k with
    | none => rw [hl] at hv; cases hv
    | some w => rw [hl] at hv; rw [beq_iff_eq.1 hv]
  · rintro ⟨k, hk⟩
    exact ⟨k, mapLookup_some_mem hk, by rw [mapGet_num m k h, hk]; exact beq_self_eq_true v⟩

theorem dictEq_iff (a b : List (Int × Nat)) (ha : (a.map (·.1)).Nodup) (hb : (b.map (·.1)).Nodup) :
    dictEq a b = true ↔ ∀ k, a.lookup k = b.lookup k := by
  unfold dictEq
  simp only [Bool.and_eq_true, List.all_eq_true, beq_iff_eq]
  exact Cache.al_eq_iff ha hb

theorem mapIterItems_eq (m : SMap) (h : MapWf m) : mapIterItems m = mapItems m := by
  have hk : m.keys = (mapItems m).map (·.1) := (mapItems_spec m h).1.symm
  unfold mapIterItems
  rw [hk, List.filterMap_map]
  refine (filterMap_eq_map_of_mem _ id _ fun p hp => ?_).trans (List.map_id _)
  simp only [Function.comp]
  rw [mapGet_num m p.1 h]
  have : mapLookup m p.1 = some p.2 := Cache.al_lookup_of_mem (mapItems_keys_nodup h) hp
  rw [this]; rfl

/-- `m == d` for a dict `d` (given by its items, distinct keys) holds exactly when both stand for the same finite map -/
theorem mapEq_iff (m : SMap) (other : List (Int × Nat)) (h : MapWf m) (ho : (other.map (·.1)).Nodup) :
    mapEq m other = true ↔ ∀ k, mapLookup m k = other.lookup k := by
  rw [mapEq, mapIterItems_eq m h, dictOf_mapItems h, dictEq_iff _ _ (mapItems_keys_nodup h) ho]
  rfl

theorem mapClear_spec (m : SMap) (h : MapWf m) :
    mapClear (m.keys.length + 1) m = ⟨[], []⟩ ∧ MapWf (mapClear (m.keys.length + 1) m) := by
  suffices mapClear (m.keys.length + 1) m = ⟨[], []⟩ from ⟨this, this ▸ ⟨List.Pairwise.nil, rfl⟩⟩
  obtain ⟨keys, vals⟩ := m
  induction keys generalizing vals with
  | nil => cases vals with
    | nil => rfl
    | cons v vs => exact absurd h.2 (by simp)
  | cons k ks ih => cases vals with
    | nil => exact absurd h.2 (by simp)
    | cons v vs =>
      have hp := mapPopitem_spec ⟨k :: ks, v :: vs⟩ h
      simp only at hp
      rw [List.length_cons, mapClear, hp]
      exact ih vs ⟨(List.pairwise_cons.1 h.1).2, Nat.succ.inj h.2⟩

theorem setLe_iff (s t : List Int) (h : Strict s) : setLe s t = true ↔ ∀ y, y ∈ s → y ∈ t := by
  have hall : (s.all fun e => t.contains e) = true ↔ ∀ y, y ∈ s → y ∈ t := by
    simp only [List.all_eq_true, List.contains_iff_mem]
  unfold setLe
  constructor
  · intro hle
    split at hle
    · cases hle
    · exact hall.1 hle
  · intro hsub
    rw [if_neg (Nat.not_lt.2 ((strict_nodup h).length_le_of_subset hsub))]
    exact hall.2 hsub

/-! The reflected difference (the second half of `^`) is built by the class constructor like the other pure operators. -/

theorem setRSub_strict (s t : List Int) : Strict (setRSub s t) := setInit_strict _

theorem setRSub_mem (s t : List Int) (y : Int) (h : Strict s) : y ∈ setRSub s t ↔ (y ∈ t ∧ y ∉ s) := by
  rw [setRSub, setInit_mem, List.mem_filter, setContains_num s y h]
  simp

theorem setIor_spec (s t : List Int) (h : Strict s) :
    Strict (setIor s t) ∧ ∀ y, y ∈ setIor s t ↔ (y ∈ s ∨ y ∈ t) := by
  unfold setIor
  induction t generalizing s with
  | nil => exact ⟨h, fun y => by simp⟩
  | cons v r ih =>
    obtain ⟨h1, h2⟩ := ih _ (setAdd_strict s v h)
    refine ⟨h1, fun y => ?_⟩
    rw [List.foldl_cons, h2 y, setAdd_mem s v y h, List.mem_cons, or_assoc]
    exact or_left_comm

theorem setIsub_spec (s t : List Int) (h : Strict s) :
    Strict (setIsub s t) ∧ ∀ y, y ∈ setIsub s t ↔ (y ∈ s ∧ y ∉ t) := by
  unfold setIsub
  induction t generalizing s with
  | nil => exact ⟨h, fun y => by simp⟩
  | cons v r ih =>
    obtain ⟨h1, h2⟩ := ih _ (setDiscard_strict s v h)
    refine ⟨h1, fun y => ?_⟩
    rw [List.foldl_cons, h2 y, setDiscard_mem s v y h, List.mem_cons, not_or, and_assoc]
    exact and_left_comm

/-- one round of `^=`: only the membership of `v` itself changes -/
theorem setToggle_spec (s : List Int) (v : Int) (h : Strict s) :
    Strict (if setContains s (.num v) then setDiscard s v else setAdd s v) ∧
    ∀ y, y ∈ (if setContains s (.num v) then setDiscard s v else setAdd s v) ↔ if y = v then v ∉ s else y ∈ s := by
  rw [setContains_num s v h]
  by_cases hv : v ∈ s
  · simp only [hv, decide_true, if_true]
    refine ⟨setDiscard_strict s v h, fun y => ?_⟩
    rw [setDiscard_mem s v y h]
    split <;> simp [*]
  · simp only [hv, decide_false, Bool.false_eq_true, if_false]
    refine ⟨setAdd_strict s v h, fun y => ?_⟩
    rw [setAdd_mem s v y h]
    split <;> simp [*]

theorem setIxor_spec (s t : List Int) (h : Strict s) (ht : t.Nodup) :
    Strict (setIxor s t) ∧ ∀ y, y ∈ setIxor s t ↔ ((y ∈ s ∧ y ∉ t) ∨ (y ∈ t ∧ y ∉ s)) := by
  unfold setIxor
  induction t generalizing s with
  | nil => exact ⟨h, fun y => by simp⟩
  | cons v r ih =>
    obtain ⟨hv, hr⟩ := List.nodup_cons.1 ht
    obtain ⟨h1, h2⟩ := ih _ (setToggle_spec s v h).1 hr
    refine ⟨h1, fun y => ?_⟩
    rw [List.foldl_cons, h2 y, (setToggle_spec s v h).2 y, List.mem_cons]
    by_cases hyv : y = v
    · subst hyv; simp [hv]
    · simp [hyv]

theorem eq_of_same_spec {a b : List Int} {P : Int → Prop} (ha : Strict a ∧ ∀ y, y ∈ a ↔ P y)
    (hb : Strict b ∧ ∀ y, y ∈ b ↔ P y) : a = b :=
  strict_unique a b ha.1 hb.1 (fun y => (ha.2 y).trans (hb.2 y).symm)

end WindVerif.Sorted
