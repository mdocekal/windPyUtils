import WindVerif.Model.RecFileSeq
import WindVerif.Core.PyListSeq
import WindVerif.Proofs.RecFileM
import WindVerif.Proofs.LineFileSeq
/-!
The inherited `Sequence` / `MutableSequence` methods of the mutable record files (`Model/RecFileSeq.lean`): on a file all
of whose positions load they are the Python `list` operations on the presented records (C13); `remove` / `clear` keep the
invariant of a history of edits, and the save + reopen round trip extends to histories that contain them.
-/
namespace WindVerif.RecFile
open WindVerif
open WindVerif.LineFile (seqStart seqStop seqBelow seqBelow_mono seqStart_eq seqBelow_of_lt_idxHi lt_idxHi_of_seqBelow
  index_nat index_lt index_nat_none)

section seq
variable {R : Type} [DecidableEq R] (F : Fmt R)

omit [DecidableEq R] in
theorem fuel_succ {len p n : Nat} (hp : p < len) (hf : len - p < n + 1) : len - (p + 1) < n :=
  Nat.lt_of_lt_of_le (Nat.sub_succ_lt_self len p hp) (Nat.le_of_lt_succ hf)

omit [DecidableEq R] in
theorem sub_eq_succ {n p : Nat} (hp : p < n) : n - p = n - (p + 1) + 1 :=
  (Nat.succ_pred_eq_of_pos (Nat.sub_pos_of_lt hp)).symm

omit [DecidableEq R] in
theorem getRec_nat (f : RecFile) (p : Nat) :
    f.getRec F (p : Int) = match (f.records F)[p]? with
      | none => .error .indexError
      | some none => .error .loadError
      | some (some x) => .ok x := by
  by_cases hp : p < f.slots.length
  · rw [RecFile.getRec, index_nat hp]
    exact getPos_eq F f p
  · have hp := Nat.le_of_not_lt hp
    rw [RecFile.getRec, index_nat_none hp, List.getElem?_eq_none (by rwa [records_length])]

theorem indexGo_succ (f : RecFile) (r : R) (stop : Option Int) (fuel p : Nat) :
    f.indexGo F r stop (fuel + 1) p =
      if seqBelow stop p then
        match (f.records F)[p]? with
        | none => .error .valueError
        | some none => .error (.loadError p)
        | some (some x) => if x = r then .ok p else f.indexGo F r stop fuel (p + 1)
      else .error .valueError := by
  rw [RecFile.indexGo, getRec_nat]
  cases (f.records F)[p]? with
  | none => rfl
  | some o => cases o <;> rfl

theorem indexGo_scan (f : RecFile) (rs : List R) (hrs : f.records F = rs.map some) (r : R) (stop : Option Int)
    (fuel : Nat) : ∀ (p : Nat), f.slots.length - p < fuel →
    f.indexGo F r (seqStop f.slots.length stop) fuel p =
      match Py.scanIdx rs r p (Py.idxHi f.slots.length stop - p) with
      | some k => .ok k
      | none => .error .valueError := by
  induction fuel with
  | zero => intro p h; exact absurd h (Nat.not_lt_zero _)
  | succ n ih =>
    intro p hf
    rw [indexGo_succ, hrs]
    by_cases hp : p < Py.idxHi f.slots.length stop
    · have hps : p < f.slots.length := Nat.lt_of_lt_of_le hp (Py.idxHi_le _ _)
      have hpl : p < rs.length := records_len F hrs ▸ hps
      rw [seqBelow_of_lt_idxHi hp, if_pos rfl, List.getElem?_map, List.getElem?_eq_getElem hpl,
        sub_eq_succ hp, Py.scanIdx,
        List.getElem?_eq_getElem hpl]
      simp only [Option.map_some, Option.some.injEq]
      split
      · rfl
      · exact ih (p + 1) (fuel_succ hps hf)
    · rw [Nat.sub_eq_zero_of_le (Nat.le_of_not_lt hp), Py.scanIdx]
      split
      · -- below `stop` and not below `idxHi`: beyond the end
        rename_i hb
        have hlen : rs.length ≤ p :=
          records_len F hrs ▸ Nat.le_of_not_lt fun hlt => hp (lt_idxHi_of_seqBelow hlt hb)
        rw [List.getElem?_eq_none (by rwa [List.length_map])]
      · rfl

theorem indexRec_spec (f : RecFile) (rs : List R) (hrs : f.records F = rs.map some) (r : R) (start stop : Option Int) :
    f.indexRec F r start stop = match Py.pyListIndex rs r start stop with
      | some k => .ok k
      | none => .error .valueError := by
  rw [Py.pyListIndex, records_len F hrs, ← seqStart_eq]
  exact indexGo_scan F f rs hrs r stop _ _ (Nat.lt_succ_of_le (Nat.sub_le _ _))

theorem indexRec_load_error (f : RecFile) (r : R) (start stop : Option Int) (k : Nat)
    (h1 : seqStart f.slots.length start ≤ k) (h2 : seqBelow (seqStop f.slots.length stop) k = true)
    (h3 : (f.records F)[k]? = some none)
    (h4 : ∀ j, seqStart f.slots.length start ≤ j → j < k → ∃ x, (f.records F)[j]? = some (some x) ∧ x ≠ r) :
    f.indexRec F r start stop = .error (.loadError k) := by
  have hk : k < f.slots.length := records_length F f ▸ (List.getElem?_eq_some_iff.mp h3).1
  suffices ∀ fuel p, f.slots.length - p < fuel → p ≤ k →
      (∀ j, p ≤ j → j < k → ∃ x, (f.records F)[j]? = some (some x) ∧ x ≠ r) →
      f.indexGo F r (seqStop f.slots.length stop) fuel p = .error (.loadError k) from
    this _ _ (Nat.lt_succ_of_le (Nat.sub_le _ _)) h1 h4
  intro fuel
  induction fuel with
  | zero => intro p h; exact absurd h (Nat.not_lt_zero _)
  | succ n ih =>
    intro p hf hpk hmin
    rw [indexGo_succ, seqBelow_mono hpk h2, if_pos rfl]
    rcases Nat.eq_or_lt_of_le hpk with rfl | hlt
    · rw [h3]
    · obtain ⟨x, e, hx⟩ := hmin p (Nat.le_refl p) hlt
      rw [e]
      simp only [hx, if_false]
      exact ih (p + 1) (fuel_succ (Nat.lt_trans hlt hk) hf) hlt fun j hj => hmin j (Nat.le_of_succ_le hj)

theorem indexGo_fuel (f : RecFile) (r : R) (stop : Option Int) (fuel : Nat) : ∀ (p : Nat), f.slots.length - p < fuel →
    f.indexGo F r stop fuel p = f.indexGo F r stop (f.slots.length - p + 1) p := by
  induction fuel with
  | zero => intro p h; exact absurd h (Nat.not_lt_zero _)
  | succ n ih =>
    intro p hf
    rw [indexGo_succ, indexGo_succ]
    cases hx : (f.records F)[p]? with
    | none => rfl
    | some o =>
      cases o with
      | none => rfl
      | some x =>
        -- the position exists, so one round less of fuel is still enough for the rest
        have hp : p < f.slots.length := records_length F f ▸ (List.getElem?_eq_some_iff.mp hx).1
        rw [ih (p + 1) (fuel_succ hp hf), sub_eq_succ hp]

/-- `r in l` for a list with positions that raise on access -/
def containsList (r : R) : List (Option R) → Nat → Except SeqErr Bool
  | [], _ => .ok false
  | none :: _, p => .error (.loadError p)
  | some x :: t, p => if x = r then .ok true else containsList r t (p + 1)

/-- `l.count(r)` for a list with positions that raise on access -/
def countList (r : R) : List (Option R) → Nat → Nat → Except SeqErr Nat
  | [], _, acc => .ok acc
  | none :: _, p, _ => .error (.loadError p)
  | some x :: t, p, acc => countList r t (p + 1) (if x = r then acc + 1 else acc)

theorem containsGo_eq (f : RecFile) (r : R) (k : Nat) : ∀ (p : Nat), p + k = f.slots.length →
    f.containsGo F r p k = containsList r ((f.records F).drop p) p := by
  induction k with
  | zero => intro p hp; rw [List.drop_eq_nil_of_le (by rw [records_length, ← hp]; exact Nat.le_refl _)]; rfl
  | succ k ih =>
    intro p hp
    have hlt : p < (f.records F).length := by rw [records_length, ← hp]; exact Nat.lt_add_of_pos_right (Nat.succ_pos k)
    rw [RecFile.containsGo, getPos_eq, List.drop_eq_getElem_cons hlt, List.getElem?_eq_getElem hlt]
    cases (f.records F)[p] with
    | none => rfl
    | some x =>
      simp only [containsList]
      split
      · rfl
      · exact ih (p + 1) ((Nat.add_right_comm p 1 k).trans hp)

theorem containsRec_eq (f : RecFile) (r : R) : f.containsRec F r = containsList r (f.records F) 0 := by
  unfold RecFile.containsRec
  rw [containsGo_eq F f r f.slots.length 0 (Nat.zero_add _)]; rfl

theorem containsList_map_some (r : R) (rs : List R) (p : Nat) :
    containsList r (rs.map some) p = .ok (decide (r ∈ rs)) := by
  induction rs generalizing p with
  | nil => simp [containsList]
  | cons x t ih =>
    simp only [List.map_cons, containsList]
    by_cases hv : x = r
    · simp [hv]
    · have hv' : ¬ r = x := fun e => hv e.symm
      simp only [hv, if_false, ih, List.mem_cons, hv', false_or]

theorem containsRec_spec (f : RecFile) (rs : List R) (hrs : f.records F = rs.map some) (r : R) :
    f.containsRec F r = .ok (decide (r ∈ rs)) := by
  rw [containsRec_eq, hrs, containsList_map_some]

theorem countGo_eq (f : RecFile) (r : R) (k : Nat) : ∀ (p acc : Nat), p + k = f.slots.length →
    f.countGo F r p k acc = countList r ((f.records F).drop p) p acc := by
  induction k with
  | zero => intro p acc hp; rw [List.drop_eq_nil_of_le (by rw [records_length, ← hp]; exact Nat.le_refl _)]; rfl
  | succ k ih =>
    intro p acc hp
    have hlt : p < (f.records F).length := by rw [records_length, ← hp]; exact Nat.lt_add_of_pos_right (Nat.succ_pos k)
    rw [RecFile.countGo, getPos_eq, List.drop_eq_getElem_cons hlt, List.getElem?_eq_getElem hlt]
    cases (f.records F)[p] with
    | none => rfl
    | some x => exact ih (p + 1) _ ((Nat.add_right_comm p 1 k).trans hp)

theorem countRec_eq (f : RecFile) (r : R) : f.countRec F r = countList r (f.records F) 0 0 := by
  unfold RecFile.countRec
  rw [countGo_eq F f r f.slots.length 0 0 (Nat.zero_add _)]; rfl

theorem countList_map_some (r : R) (rs : List R) (p acc : Nat) :
    countList r (rs.map some) p acc = .ok (acc + rs.count r) := by
  induction rs generalizing p acc with
  | nil => simp [countList]
  | cons x t ih =>
    simp only [List.map_cons, countList, ih, List.count_cons]
    by_cases hv : x = r
    · simp [hv]; omega
    · have hv' : (x == r) = false := by simpa using hv
      simp [hv, hv']

theorem countRec_spec (f : RecFile) (rs : List R) (hrs : f.records F = rs.map some) (r : R) :
    f.countRec F r = .ok (rs.count r) := by
  rw [countRec_eq, hrs, countList_map_some]; simp

omit [DecidableEq R] in
theorem map_some_get {rs : List R} {j : Nat} {x : R} (h : (rs.map some)[j]? = some (some x)) : rs[j]? = some x := by
  rw [List.getElem?_map] at h
  cases hr : rs[j]? with
  | none => rw [hr] at h; cases h
  | some y => rw [hr] at h; simp only [Option.map_some, Option.some.injEq] at h; rw [h]

theorem map_some_erase (rs : List R) (r : R) : (rs.map some).erase (some r) = (rs.erase r).map some := by
  induction rs with
  | nil => rfl
  | cons x t ih =>
    simp only [List.map_cons, List.erase_cons]
    by_cases hv : x = r
    · simp [hv]
    · have h1 : (x == r) = false := by simpa using hv
      have h2 : (some x == some r) = false := by simpa using hv
      simp only [h1, h2, Bool.false_eq_true, if_false, List.map_cons, ih]

theorem removeRec_spec (f : RecFile) (rs : List R) (hrs : f.records F = rs.map some) (r : R) :
    (r ∈ rs → ∃ f', f.removeRec F r = .ok f' ∧ f'.records F = (rs.erase r).map some ∧ f'.source = f.source ∧
      f'.slots = f.slots.eraseIdx (rs.idxOf r)) ∧
    (r ∉ rs → f.removeRec F r = .error .valueError) := by
  have hi := indexRec_spec F f rs hrs r none none
  rw [Py.pyListIndex_default] at hi
  unfold RecFile.removeRec
  constructor
  · intro hm
    have hlt : rs.idxOf r < f.slots.length := records_len F hrs ▸ List.idxOf_lt_length_of_mem hm
    refine ⟨⟨f.source, f.slots.eraseIdx (rs.idxOf r)⟩, by simp only [hi, if_pos hm, RecFile.delRec, index_nat hlt],
      ?_, rfl, rfl⟩
    rw [List.erase_eq_eraseIdx_of_idxOf rfl, map_eraseIdx, ← hrs]
    exact map_eraseIdx _ _ _
  · intro hm
    simp only [hi, if_neg hm]

/-- comparison is on RECORDS, not on texts: a file whose position 0 holds ANY text that loads as `a` (say a needlessly
quoted source line) — `index(a)` is `0` and `remove(a)` removes position 0, whatever equal records (e.g. an appended
`a`, stored in canonical form) follow -/
theorem index_first_equal (f : RecFile) (a : R) (s : Slot) (rest : List Slot) (hs : f.slots = s :: rest)
    (hl : F.load (f.raw s) = some a) :
    f.indexRec F a none none = .ok 0 ∧ f.removeRec F a = .ok { f with slots := rest } := by
  have h0 : (f.records F)[0]? = some (some a) := by
    simp only [RecFile.records, hs, List.map_cons, List.getElem?_cons_zero, hl]
  have hi : f.indexRec F a none none = .ok 0 := by
    rw [RecFile.indexRec, indexGo_succ]
    simp only [seqStart, seqStop, Option.map_none, seqBelow, h0, if_true]
  refine ⟨hi, ?_⟩
  simp only [RecFile.removeRec, hi, RecFile.delRec, hs, List.length_cons, index_nat (Nat.succ_pos _),
    List.eraseIdx_cons_zero]

/-- … in particular after `append(a)`: the appended record is found at position 0, not at the end -/
theorem index_first_equal_append (f : RecFile) (a : R) (s : Slot) (rest : List Slot) (hs : f.slots = s :: rest)
    (hl : F.load (f.raw s) = some a) :
    (f.appendRec F a).indexRec F a none none = .ok 0 ∧
    (f.appendRec F a).removeRec F a = .ok { f with slots := rest ++ [.txt (F.save a)] } := by
  have hs' : (f.appendRec F a).slots = s :: (rest ++ [.txt (F.save a)]) := by
    simp only [RecFile.appendRec, RecFile.insertRec, insertPos_length, Py.insertAt, List.take_length, List.drop_length]
    rw [hs]; rfl
  exact index_first_equal F (f.appendRec F a) a s _ hs' hl

end seq

section clear
variable {R : Type} (F : Fmt R)

theorem index_last (n : Nat) : Py.index (n + 1) (-1) = some n := by
  rw [Py.index, if_neg (by decide), if_pos (by omega)]; rfl

theorem popRec_last (src : List Str) (l : List Slot) (s : Slot) :
    (⟨src, l ++ [s]⟩ : RecFile).popRec F (-1) = match F.load (RecFile.raw ⟨src, l ++ [s]⟩ s) with
      | none => .error .loadError
      | some x => .ok (x, ⟨src, l⟩) := by
  simp only [RecFile.popRec, RecFile.getRec, RecFile.getPos, RecFile.delRec, List.length_append, List.length_singleton,
    index_last, List.getElem?_append_right (Nat.le_refl _), Nat.sub_self, List.getElem?_cons_zero]
  cases F.load (RecFile.raw ⟨src, l ++ [s]⟩ s) with
  | none => rfl
  | some x =>
    simp only [List.eraseIdx_append_of_length_le (Nat.le_refl _), Nat.sub_self, List.eraseIdx_cons_zero, List.append_nil]

/-- `clear()` on ANY file pops from the end as long as the last position loads: of `_lines = pre ++ suf`, `suf` goes and
`pre` (empty, or ending in a position that does not load) stays -/
theorem clearGo_spec (fuel : Nat) : ∀ (f : RecFile) (pre suf : List Slot), f.slots = pre ++ suf →
    (∀ s ∈ suf, ∃ x, F.load (f.raw s) = some x) →
    (pre = [] ∨ ∃ init last, pre = init ++ [last] ∧ F.load (f.raw last) = none) → pre.length + suf.length < fuel →
    f.clearGo F fuel = (⟨f.source, pre⟩, if pre = [] then none else some .loadError) := by
  induction fuel with
  | zero => intro f pre suf _ _ _ hf; exact absurd hf (Nat.not_lt_zero _)
  | succ n ih =>
    intro f pre suf hs hsuf hpre hf
    obtain ⟨src, sl⟩ := f
    dsimp only at hs
    subst hs
    rw [RecFile.clearGo]
    rcases List.eq_nil_or_concat suf with rfl | ⟨init', last', rfl⟩
    · rcases hpre with rfl | ⟨init, last, rfl, hload⟩
      · rfl
      · rw [List.append_nil, popRec_last, show F.load (RecFile.raw ⟨src, init ++ [last]⟩ last) = none from hload,
          if_neg (by simp)]
    · obtain ⟨x, hx⟩ := hsuf last' (by simp)
      rw [List.concat_eq_append, ← List.append_assoc, popRec_last,
        show F.load (RecFile.raw ⟨src, pre ++ init' ++ [last']⟩ last') = some x from hx]
      exact ih ⟨src, pre ++ init'⟩ pre init' rfl (fun s hm => hsuf s (by simp [hm])) hpre
        (by rw [List.length_concat] at hf; exact Nat.lt_of_succ_lt_succ hf)

theorem clearRec_spec (f : RecFile) (rs : List R) (hrs : f.records F = rs.map some) :
    f.clearRec F = (⟨f.source, []⟩, none) := by
  have := clearGo_spec F (f.slots.length + 1) f [] f.slots (by simp) ?_ (.inl rfl) (by simp)
  · simpa [RecFile.clearRec] using this
  · intro s hm
    obtain ⟨j, hj, e⟩ := List.getElem_of_mem hm
    obtain ⟨x, _, hx⟩ := records_get F hrs (show f.slots[j]? = some s by rw [List.getElem?_eq_getElem hj, e])
    exact ⟨x, hx⟩

theorem clearGo_fuel (fuel : Nat) : ∀ (f : RecFile), f.slots.length < fuel →
    f.clearGo F fuel = f.clearGo F (f.slots.length + 1) := by
  induction fuel with
  | zero => intro f h; exact absurd h (Nat.not_lt_zero _)
  | succ n ih =>
    rintro ⟨src, sl⟩ hf
    dsimp only at hf ⊢
    rw [RecFile.clearGo, RecFile.clearGo]
    rcases List.eq_nil_or_concat sl with rfl | ⟨l, s, rfl⟩
    · rfl
    · rw [List.concat_eq_append] at hf ⊢
      rw [popRec_last]
      cases F.load (RecFile.raw ⟨src, l ++ [s]⟩ s) with
      | none => rfl
      | some x =>
        rw [List.length_append, List.length_singleton] at hf ⊢
        exact ih ⟨src, l⟩ (Nat.lt_of_succ_lt_succ hf)

end clear

section inv2
variable {R : Type} [DecidableEq R] (F : Fmt R) (P : R → Prop)

theorem step2_remove (f : RecFile) (r : R) :
    f.step2 F (.remove r) = match f.indexRec F r none none with
      | .ok k => f.step F (.del k)
      | .error _ => f := by
  simp only [RecFile.step2, RecFile.removeRec, RecFile.step]
  cases f.indexRec F r none none with
  | error e => rfl
  | ok k => dsimp only; cases f.delRec (k : Int) <;> rfl

omit [DecidableEq R] in
/-- `clear` is a run of `pop()`s -/
theorem inv_clearGo (hmem : F.OkMem P) (fuel : Nat) : ∀ (f : RecFile), Inv F P f →
    Inv F P (f.clearGo F fuel).1 ∧ (f.clearGo F fuel).1.source = f.source := by
  induction fuel with
  | zero => intro f hf; exact ⟨hf, rfl⟩
  | succ n ih =>
    intro f hf
    obtain ⟨h1, s1⟩ := inv_step F P hmem hf (.pop (-1)) nofun nofun
    rw [RecFile.step] at h1 s1
    rw [RecFile.clearGo]
    generalize f.popRec F (-1) = x at h1 s1 ⊢
    rcases x with e | ⟨v, f'⟩
    · cases e <;> exact ⟨hf, rfl⟩
    · obtain ⟨h2, s2⟩ := ih f' h1
      exact ⟨h2, s2.trans s1⟩

/-- `remove` may be given any record, in the domain or not: it only compares (`Op2.recs`) -/
theorem inv_step2 (hmem : F.OkMem P) {f : RecFile} (hf : Inv F P f) (op : Op2 R) (hop : ∀ r ∈ op.recs, P r)
    (hl : op = .base .reverse → Loads F P f.source) : Inv F P (f.step2 F op) ∧ (f.step2 F op).source = f.source := by
  cases op with
  | base o => exact inv_step F P hmem hf o hop fun e => hl (e ▸ rfl)
  | remove r =>
    rw [step2_remove]
    split
    · exact inv_step F P hmem hf (.del _) nofun nofun
    · exact ⟨hf, rfl⟩
  | clear => exact inv_clearGo F P hmem _ f hf

theorem inv_run2 (hmem : F.OkMem P) : ∀ (ops : List (Op2 R)) (f : RecFile), Inv F P f →
    (∀ op ∈ ops, ∀ r ∈ op.recs, P r) → (Op2.base .reverse ∈ ops → Loads F P f.source) →
    Inv F P (f.run2 F ops) ∧ (f.run2 F ops).source = f.source :=
  inv_foldl F P (inv_step2 F P hmem)

/-- LIST SEMANTICS with `remove` and `clear` (`list.remove` deletes the first equal element; when it raises `ValueError`
the list — and the file — stay as they are) -/
theorem records_list_semantics2 (hmem : F.OkMem P) (f : RecFile) (hf : Inv F P f) (hl : Loads F P f.source)
    (op : Op2 R) (hop : ∀ r ∈ op.recs, P r) : (f.step2 F op).records F = op.onList (f.records F) := by
  cases op with
  | base o => exact records_list_semantics F P hmem f hf hl o hop
  | remove r =>
    obtain ⟨rs, hrs, -⟩ := records_all F P hmem hf hl
    obtain ⟨hA, hB⟩ := removeRec_spec F f rs hrs r
    simp only [RecFile.step2, Op2.onList]
    by_cases hm : r ∈ rs
    · obtain ⟨f', e1, e2, -, -⟩ := hA hm
      simp only [e1, e2, hrs, map_some_erase]
    · have hm' : some r ∉ rs.map some := by simpa using hm
      simp only [hB hm, hrs, List.erase_of_not_mem hm']
  | clear =>
    obtain ⟨rs, hrs, -⟩ := records_all F P hmem hf hl
    simp only [RecFile.step2, Op2.onList, clearRec_spec F f rs hrs, RecFile.records, List.map_nil]

theorem records_run2 (hmem : F.OkMem P) : ∀ (ops : List (Op2 R)) (f : RecFile), Inv F P f → Loads F P f.source →
    (∀ op ∈ ops, ∀ r ∈ op.recs, P r) →
    (f.run2 F ops).records F = ops.foldl (fun l op => op.onList l) (f.records F) :=
  records_foldl F P (inv_step2 F P hmem) (records_list_semantics2 F P hmem)

/-- EDIT, SAVE, REOPEN (`reopen_roundtrip`) with `remove` and `clear` in the history -/
theorem reopen_roundtrip2 (hok : F.Ok P) (hmem : F.OkMem P) (h1 : F.OneLine P) (source : List Str)
    (hsrc : ∀ l ∈ source, '\n' ∉ l) (ops : List (Op2 R)) (hops : ∀ op ∈ ops, ∀ r ∈ op.recs, P r)
    (hl : Op2.base .reverse ∈ ops → Loads F P source) :
    (RecFile.ofContent (((RecFile.open source).run2 F ops).saveText ['\n'])).records F =
      ((RecFile.open source).run2 F ops).records F :=
  reopen_of_inv F P hok hmem h1 _ (inv_run2 F P hmem ops _ (inv_open F P source hsrc) hops hl).1

theorem run2_base (f : RecFile) (ops : List (Op R)) : f.run2 F (ops.map Op2.base) = f.run F ops := by
  induction ops generalizing f with
  | nil => rfl
  | cons op rest ih => simp only [List.map_cons, RecFile.run2, RecFile.run, List.foldl_cons] at ih ⊢; exact ih _

end inv2

end WindVerif.RecFile
