import WindVerif.Proofs.FMapProgress
import WindVerif.Proofs.FMapMeasure
/-! Theorems about the interleaving model of `FunctorMap` and `mul_p_map` (C05). -/
namespace WindVerif.FMap

theorem prefix_of_inv {cfg : Cfg} {s : St} (h : Inv cfg s) (k : Nat) : ∃ m, outK s.out k = List.range m := by
  rw [h.outs k]
  unfold expOut
  split
  · exact ⟨0, rfl⟩
  · split
    · exact ⟨_, rfl⟩
    · split
      · exact ⟨_, rfl⟩
      · exact ⟨0, rfl⟩

/-- at the end the last call is complete like the earlier ones, so `expOut` can be read as for call `callNo + 1` -/
theorem result_of_inv {cfg : Cfg} {s : St} (h : Inv cfg s) (hd : s.ppc = .done) (k n : Nat)
    (hk : cfg.calls[k]? = some n) : outK s.out (k + 1) = List.range n := by
  have hph := h.phase
  simp only [PhaseOK, hd] at hph
  obtain ⟨hfd, hdt, hcl⟩ := hph
  have hklt : k + 1 < s.callNo + 1 := Nat.succ_lt_succ (Nat.lt_of_lt_of_le (List.getElem?_eq_some_iff.1 hk).1
    (List.drop_eq_nil_iff.1 (h.histDrop.trans hcl)))
  have hcur : cur cfg s.ppc s.total s.wf = s.total := by
    cases hm : cfg.mulP
    · have hfin := h.fin
      rw [h.modeF hm, hfd, hdt] at hfin
      simp only [cur, hm, Bool.false_eq_true, if_false]
      exact (hfin.trans (Nat.zero_add _)).symm
    · simp only [cur, hm, hd, if_true]
  rw [h.outs, hcur, ← expOut_complete _ _ _ h.histTot]
  simp [expOut, hklt, hk]

theorem workers_exited_of_inv {cfg : Cfg} {s : St} (h : Inv cfg s) (hd : s.ppc = .done) :
    (∀ w ∈ s.workers, w.pc = .exited) ∧ s.workQ = [] ∧ s.resQ = [] := by
  have hph := h.phase
  simp only [PhaseOK, hd] at hph
  obtain ⟨q1, _, q3, _, _⟩ := main_quiet h.toMain hph.1
  have hex : ∀ w ∈ s.workers, w.pc = .exited := fun w hw => by
    refine joinedEx_at h.toMain hd w hw ?_
    rcases h.len with h' | h'
    · exact h' ▸ wid_lt_of_mem h.wids hw
    · rw [h'.1] at hw; cases hw
  refine ⟨hex, queue_nil_of _ q1 ?_, q3⟩
  have := h.count
  rw [hd, live_zero_iff.2 hex, Nat.zero_add] at this
  exact (Nat.add_left_cancel (m := 0) this).symm

/-- at every moment of a `FunctorMap` call, under every interleaving of the workers, what the caller has received so far
is `0, 1, …, m-1` in this order: nothing lost, duplicated, reordered or invented -/
theorem fmap_prefix (cfg : Cfg) (hw : Wellformed cfg) (s : St) (h : Reach cfg s) (k : Nat) :
    ∃ m, outOf s k = List.range m :=
  prefix_of_inv (inv_of_reachable hw.1 h) k

/-- when the caller's whole program is over (all consecutive calls on one `FunctorMap`, resp. all `mul_p_map` calls), call
number `k+1` has handed over exactly its chunks `0 … n-1` in input order, for every call of the history: the calls are
independent -/
theorem fmap_result (cfg : Cfg) (hw : Wellformed cfg) (s : St) (h : Reach cfg s) (hd : s.ppc = .done)
    (k n : Nat) (hk : cfg.calls[k]? = some n) : outOf s (k + 1) = List.range n :=
  result_of_inv (inv_of_reachable hw.1 h) hd k n hk

/-- no deadlock: as long as the caller has not finished, some thread can move -/
theorem fmap_no_deadlock (cfg : Cfg) (hw : Wellformed cfg) (s : St) (h : Reach cfg s) (hnd : s.ppc ≠ .done) :
    ∃ t, (step s t).isSome :=
  progress_of_inv hw.1 hw.2 (inv_of_reachable hw.1 h) hnd

/-- termination: every schedule is finite — there is a bound on the length of all executions of a configuration (so every
maximal execution ends, and by `fmap_no_deadlock` it ends with the caller finished) -/
theorem fmap_terminates (cfg : Cfg) (hw : Wellformed cfg) :
    ∃ bound, ∀ sched s, run (init cfg) sched = some s → sched.length ≤ bound :=
  ⟨mu (init cfg), fun sched _ hr => Nat.le_trans (Nat.le_add_right _ _) (run_mu hw.1 sched (inv_init hw.1) hr)⟩

/-- when everything is over no worker process is left running (every `None` sentinel was consumed by exactly one worker) -/
theorem fmap_workers_exited (cfg : Cfg) (hw : Wellformed cfg) (s : St) (h : Reach cfg s) (hd : s.ppc = .done) :
    (∀ w ∈ s.workers, w.pc = .exited) ∧ s.workQ = [] ∧ s.resQ = [] :=
  workers_exited_of_inv (inv_of_reachable hw.1 h) hd

end WindVerif.FMap
