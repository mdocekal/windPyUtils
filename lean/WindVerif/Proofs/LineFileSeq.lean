import WindVerif.Model.LineFileSeq
import WindVerif.Core.PyListSeq
import WindVerif.Proofs.LineFile
/-!
The inherited `Sequence` / `MutableSequence` methods of the line files (`Model/LineFileSeq.lean`) agree with the Python
`list` operations on the presented list (C11 read side: `index`, `count`, `in`, `reversed`; C12: `remove`, `clear`).
-/
namespace WindVerif.LineFile
open WindVerif

theorem getPos_ok {f f' : LF} {p : Nat} {s : Str} (h : f.getPos p = .ok (f', s)) :
    SameButCursor f f' ∧ p < f.lines.length := by
  unfold LF.getPos at h
  cases he : f.lines[p]? with
  | none => rw [he] at h; cases h
  | some e =>
    refine ⟨?_, (List.getElem?_eq_some_iff.mp he).1⟩
    rw [he] at h
    cases e with
    | str t => cases h; exact same_refl f
    | off o =>
      simp only [LF.readAt] at h
      split at h <;> cases h
      exact ⟨rfl, rfl, rfl, rfl⟩

/-- within the range `_get_item` does not raise `IndexError` (it may fail to decode: `ValueError`) -/
theorem getPos_ne_indexError {f : LF} {p : Nat} (hp : p < f.lines.length) : f.getPos p ≠ .error .indexError := by
  unfold LF.getPos
  rw [List.getElem?_eq_getElem hp]
  cases f.lines[p] with
  | str t => exact nofun
  | off o => simp only [LF.readAt]; split <;> exact nofun

theorem getInt_ok {f f' : LF} {i : Int} {s : Str} (h : f.getInt i = .ok (f', s)) :
    SameButCursor f f' ∧ f.closed = false ∧ ∃ p, Py.index f.lines.length i = some p := by
  unfold LF.getInt at h
  split at h
  · cases h
  · rename_i hc
    split at h
    · cases h
    · rename_i p hp
      exact ⟨(getPos_ok h).1, by simpa using hc, p, hp⟩

theorem getInt_nat_ok {f f' : LF} {p : Nat} {s : Str} (h : f.getInt (p : Int) = .ok (f', s)) :
    SameButCursor f f' ∧ f.closed = false ∧ p < f.lines.length :=
  let ⟨hs, hc, _, hq⟩ := getInt_ok h
  ⟨hs, hc, Nat.lt_of_not_le fun hle => by rw [index_nat_none hle] at hq; cases hq⟩

theorem getInt_beyond {f : LF} (hc : f.closed = false) {p : Nat} (hp : f.lines.length ≤ p) :
    f.getInt (p : Int) = .error .indexError := by
  rw [getInt_natCast, hc, LF.getPos, List.getElem?_eq_none hp]; rfl

theorem seqBelow_mono {stop : Option Int} {j k : Nat} (hjk : j ≤ k) (h : seqBelow stop k = true) :
    seqBelow stop j = true := by
  unfold seqBelow at *
  split
  · rfl
  · simp only [decide_eq_true_eq] at h ⊢; omega

theorem seqStart_eq (len : Nat) (start : Option Int) : seqStart len start = Py.idxLo len start := by
  cases start with
  | none => rfl
  | some s =>
    simp only [seqStart, Py.idxLo, Py.clampIdx]
    split
    · rw [← Int.toNat_eq_max, Int.toNat_natCast, Int.add_comm]
    · rfl

/-- the loop condition of `Sequence.index`, together with the `IndexError` that ends the loop at `len`, is the bound of
`list.index` -/
theorem seqBelow_iff_lt_idxHi {len : Nat} {stop : Option Int} {k : Nat} :
    seqBelow (seqStop len stop) k = true ∧ k < len ↔ k < Py.idxHi len stop := by
  cases stop with
  | none => exact ⟨fun h => h.2, fun h => ⟨rfl, h⟩⟩
  | some s =>
    simp only [seqBelow, seqStop, Option.map_some, decide_eq_true_eq, Py.idxHi, Py.clampIdx, Nat.lt_min]
    rw [← apply_ite Int.toNat, Int.lt_toNat]

theorem seqBelow_of_lt_idxHi {len : Nat} {stop : Option Int} {k : Nat} (h : k < Py.idxHi len stop) :
    seqBelow (seqStop len stop) k = true :=
  (seqBelow_iff_lt_idxHi.mpr h).1

theorem lt_idxHi_of_seqBelow {len : Nat} {stop : Option Int} {k : Nat} (hk : k < len)
    (h : seqBelow (seqStop len stop) k = true) : k < Py.idxHi len stop :=
  seqBelow_iff_lt_idxHi.mp ⟨h, hk⟩

/-- on an opened file the loop of `Sequence.index` and the loop of `list.index` run in step, from position `p` over the
`n` positions up to `Py.idxHi` -/
theorem lfIndexGo_scan (v : Str) (stop : Option Int) (fuel : Nat) : ∀ (f : LF) (ls : List Str) (p n : Nat), Good f ls →
    f.closed = false → ls.length < p + fuel → n = Py.idxHi ls.length stop - p →
    match Py.scanIdx ls v p n with
    | some k => ∃ f', lfIndexGo f v (seqStop ls.length stop) fuel p = .ok (f', k) ∧ SameButCursor f f'
    | none => lfIndexGo f v (seqStop ls.length stop) fuel p = .error .valueError := by
  induction fuel with
  | zero =>
    intro f ls p n h hc hf hn
    have := Py.idxHi_le ls.length stop
    cases (show n = 0 by omega)
    rfl
  | succ m ih =>
    intro f ls p n h hc hf hn
    unfold lfIndexGo
    cases n with
    | zero =>
      show _ = Except.error Err.valueError
      by_cases hb : seqBelow (seqStop ls.length stop) p = true
      · have hp : ls.length ≤ p := Nat.le_of_not_lt fun hlt =>
          Nat.not_lt.mpr (Nat.sub_eq_zero_iff_le.mp hn.symm) (lt_idxHi_of_seqBelow hlt hb)
        rw [if_pos hb, getInt_beyond hc (h.1 ▸ hp)]
      · rw [if_neg hb]
    | succ n =>
      have hlt : p < Py.idxHi ls.length stop := Nat.lt_of_sub_eq_succ hn.symm
      have hpl : p < ls.length := Nat.lt_of_lt_of_le hlt (Py.idxHi_le ..)
      obtain ⟨f1, e1, e2⟩ := getInt_nat h hc (List.getElem?_eq_getElem hpl)
      rw [if_pos (seqBelow_of_lt_idxHi hlt), e1]
      simp only [Py.scanIdx, List.getElem?_eq_getElem hpl, Option.some.injEq]
      by_cases hv : ls[p] = v
      · rw [if_pos hv, if_pos hv]; exact ⟨f1, rfl, e2⟩
      · rw [if_neg hv, if_neg hv]
        have := ih f1 ls (p + 1) n (good_of_same _ _ _ h e2) (closed_of_same e2 hc) (by omega)
          (by rw [Nat.sub_succ, ← hn]; rfl)
        revert this
        cases Py.scanIdx ls v (p + 1) n with
        | none => exact id
        | some k => exact fun ⟨f', a, b⟩ => ⟨f', a, same_trans e2 b⟩

/-- `f.index(v, start, stop)` on an opened file is `ls.index(v, start, stop)` of the presented list — the same position,
and `ValueError` exactly when the list raises it — for every `start` / `stop`, negative and out of range included -/
theorem lfIndex_spec (f : LF) (ls : List Str) (h : Good f ls) (hc : f.closed = false) (v : Str)
    (start stop : Option Int) :
    match Py.pyListIndex ls v start stop with
    | some k => ∃ f', lfIndex f v start stop = .ok (f', k) ∧ SameButCursor f f'
    | none => lfIndex f v start stop = .error .valueError := by
  unfold lfIndex Py.pyListIndex
  rw [h.1, seqStart_eq]
  exact lfIndexGo_scan v stop (ls.length + 1) f ls _ _ h hc (by omega) rfl

theorem lfIndexGo_fuel (v : Str) (stop : Option Int) (fuel : Nat) (f : LF) (p : Nat) (h : f.lines.length - p < fuel) :
    lfIndexGo f v stop fuel p = lfIndexGo f v stop (f.lines.length - p + 1) p := by
  induction fuel generalizing f p with
  | zero => exact absurd h (Nat.not_lt_zero _)
  | succ n ih =>
    unfold lfIndexGo
    split
    · cases hg : f.getInt (p : Int) with
      | error e => cases e <;> rfl
      | ok r =>
        obtain ⟨f', s⟩ := r
        obtain ⟨hs, -, hp⟩ := getInt_nat_ok hg
        simp only
        split
        · rfl
        · -- `d + 1` positions are left, `d` after this one
          obtain ⟨d, hd⟩ := Nat.exists_eq_add_one_of_ne_zero (Nat.ne_of_gt (Nat.sub_pos_of_lt hp))
          have hd' : f'.lines.length - (p + 1) = d := by rw [hs.2.1, Nat.sub_succ, hd]; rfl
          rw [hd] at h
          rw [ih f' (p + 1) (hd'.symm ▸ Nat.lt_of_succ_lt_succ h), hd', hd]
    · rfl

theorem lfContainsGo_spec (v : Str) (k : Nat) : ∀ (f : LF) (ls : List Str) (p : Nat), Good f ls → p + k = ls.length →
    ∃ f', lfContainsGo f v p k = .ok (f', decide (v ∈ ls.drop p)) ∧ SameButCursor f f' := by
  induction k with
  | zero =>
    intro f ls p h hp
    rw [List.drop_eq_nil_of_le (i := p) (Nat.le_of_eq hp.symm)]
    exact ⟨f, rfl, same_refl f⟩
  | succ k ih =>
    intro f ls p h hp
    have hlt : p < ls.length := by omega
    obtain ⟨f1, e1, e2⟩ := getPos_spec f ls h p ls[p] (List.getElem?_eq_getElem hlt)
    unfold lfContainsGo
    rw [List.drop_eq_getElem_cons hlt, e1]
    by_cases hv : ls[p] = v
    · exact ⟨f1, by rw [decide_eq_true (List.mem_cons.mpr (.inl hv.symm))]; exact if_pos hv, e2⟩
    · obtain ⟨f2, d1, d2⟩ := ih f1 ls (p + 1) (good_of_same _ _ _ h e2) (by omega)
      refine ⟨f2, ?_, same_trans e2 d2⟩
      rw [decide_eq_decide.mpr ⟨fun hm => (List.mem_cons.mp hm).resolve_left (fun e => hv e.symm),
        List.mem_cons_of_mem _⟩]
      exact (if_neg hv).trans d1

/-- `v in f` on an opened file: `v in ls` -/
theorem lfContains_iff (f : LF) (ls : List Str) (h : Good f ls) (hc : f.closed = false) (v : Str) :
    ∃ f' b, lfContains f v = .ok (f', b) ∧ (b = true ↔ v ∈ ls) ∧ SameButCursor f f' := by
  obtain ⟨f', e1, e2⟩ := lfContainsGo_spec v ls.length f ls 0 h (by omega)
  refine ⟨f', decide (v ∈ ls), ?_, by simp, e2⟩
  simpa [lfContains, hc, h.1] using e1

theorem lfCountGo_spec (v : Str) (k : Nat) : ∀ (f : LF) (ls : List Str) (p acc : Nat), Good f ls →
    p + k = ls.length →
    ∃ f', lfCountGo f v p k acc = .ok (f', acc + (ls.drop p).count v) ∧ SameButCursor f f' := by
  induction k with
  | zero =>
    intro f ls p acc h hp
    rw [List.drop_eq_nil_of_le (i := p) (Nat.le_of_eq hp.symm)]
    exact ⟨f, rfl, same_refl f⟩
  | succ k ih =>
    intro f ls p acc h hp
    have hlt : p < ls.length := by omega
    obtain ⟨f1, e1, e2⟩ := getPos_spec f ls h p ls[p] (List.getElem?_eq_getElem hlt)
    obtain ⟨f2, d1, d2⟩ := ih f1 ls (p + 1) (if ls[p] = v then acc + 1 else acc) (good_of_same _ _ _ h e2) (by omega)
    refine ⟨f2, ?_, same_trans e2 d2⟩
    unfold lfCountGo
    rw [List.drop_eq_getElem_cons hlt, e1, List.count_cons]
    simp only [d1, beq_iff_eq]
    split <;> simp only [Nat.add_zero, Nat.add_assoc, Nat.add_comm 1]

/-- `f.count(v)` on an opened file: `ls.count(v)` -/
theorem lfCount_spec (f : LF) (ls : List Str) (h : Good f ls) (hc : f.closed = false) (v : Str) :
    ∃ f', lfCount f v = .ok (f', ls.count v) ∧ SameButCursor f f' := by
  obtain ⟨f', e1, e2⟩ := lfCountGo_spec v ls.length f ls 0 0 h (by omega)
  refine ⟨f', ?_, e2⟩
  simpa [lfCount, hc, h.1] using e1

theorem lfReversedGo_spec (k : Nat) : ∀ (f : LF) (ls : List Str), Good f ls → f.closed = false → k ≤ ls.length →
    ∃ f', lfReversedGo f k = .ok (f', (ls.take k).reverse) ∧ SameButCursor f f' := by
  induction k with
  | zero => intro f ls h hc hk; exact ⟨f, by simp [lfReversedGo], same_refl f⟩
  | succ k ih =>
    intro f ls h hc hk
    have hlt : k < ls.length := by omega
    obtain ⟨f1, e1, e2⟩ := getInt_nat h hc (List.getElem?_eq_getElem hlt)
    obtain ⟨f2, d1, d2⟩ := ih f1 ls (good_of_same _ _ _ h e2) (closed_of_same e2 hc) (by omega)
    refine ⟨f2, ?_, same_trans e2 d2⟩
    unfold lfReversedGo
    simp only [e1, d1]
    rw [List.take_succ_eq_append_getElem hlt, List.reverse_append]
    rfl

/-- `list(reversed(f))` on an opened file: the presented list reversed -/
theorem lfReversed_spec (f : LF) (ls : List Str) (h : Good f ls) (hc : f.closed = false) :
    ∃ f', lfReversed f = .ok (f', ls.reverse) ∧ SameButCursor f f' := by
  obtain ⟨f', e1, e2⟩ := lfReversedGo_spec ls.length f ls h hc (Nat.le_refl _)
  refine ⟨f', ?_, e2⟩
  unfold lfReversed
  rw [h.1, e1, List.take_length]

theorem indexOf_eq_lfIndexGo (v : Str) (fuel : Nat) : ∀ (f : LF) (p : Nat), f.closed = false →
    f.indexOf v fuel p = lfIndexGo f v none fuel p := by
  induction fuel with
  | zero => intro f p hc; rfl
  | succ n ih =>
    intro f p hc
    unfold LF.indexOf lfIndexGo
    simp only [seqBelow, if_true]
    by_cases hp : p ≥ f.lines.length
    · rw [if_pos hp, getInt_beyond hc hp]
    · rw [if_neg hp]
      cases hg : f.getInt (p : Int) with
      | error e =>
        rw [getInt_natCast, hc] at hg
        cases e <;> first | rfl | exact absurd hg (getPos_ne_indexError (Nat.lt_of_not_le hp))
      | ok r =>
        obtain ⟨f', s⟩ := r
        simp only
        split
        · rfl
        · exact ih f' (p + 1) (closed_of_same (getInt_nat_ok hg).1 hc)

/-- `f.remove(v)` is `del f[f.index(v)]` with the inherited `index` -/
theorem remove_eq_del_index (f : LF) (v : Str) :
    f.remove v = match lfIndex f v none none with
      | .error e => .error e
      | .ok (f', p) => f'.delItem (p : Int) := by
  unfold LF.remove lfIndex
  cases hc : f.closed with
  | true => simp [lfIndexGo, seqStop, seqBelow, getInt_closed hc]
  | false =>
    simp only [Bool.false_eq_true, if_false, indexOf_eq_lfIndexGo v _ f 0 hc]
    rfl

/-- `f.remove(v)` on an opened file: `ls.remove(v)` — the first occurrence goes, `ValueError` when there is none -/
theorem remove_spec (f : LF) (ls : List Str) (h : Good f ls) (hc : f.closed = false) (s : Str) :
    (s ∈ ls → ∃ f', f.remove s = .ok f' ∧ Good f' (ls.erase s) ∧ f'.dirty = true ∧ f'.content = f.content) ∧
    (s ∉ ls → f.remove s = .error .valueError) := by
  have hi := lfIndex_spec f ls h hc s none none
  rw [remove_eq_del_index]
  cases hr : Py.pyListIndex ls s none none with
  | none =>
    rw [hr] at hi
    have hn : s ∉ ls := fun hm => by
      obtain ⟨j, hj⟩ := List.mem_iff_getElem?.mp hm
      exact (Py.pyListIndex_eq_none_iff ls s none none).mp hr j (Nat.zero_le j) (List.getElem?_eq_some_iff.mp hj).1 hj
    exact ⟨fun hm => absurd hm hn, fun _ => by rw [hi]⟩
  | some k =>
    rw [hr] at hi
    obtain ⟨f1, e1, e2⟩ := hi
    obtain ⟨-, (hk : k < ls.length), hks, hmin⟩ := (Py.pyListIndex_eq_some_iff ls s none none k).mp hr
    refine ⟨fun _ => ?_, fun hn => absurd (List.mem_of_getElem? hks) hn⟩
    have hd := delItem_spec f1 ls (good_of_same _ _ _ h e2) (k : Int)
    rw [index_nat hk] at hd
    obtain ⟨f2, d1, d2, d3, d4, -⟩ := hd
    -- `list.remove` deletes at the first position that holds the value
    have hfirst : ls.idxOf? s = some k := List.idxOf?_eq_some_iff.mpr
      ⟨hk, (List.getElem?_eq_some_iff.mp hks).2, fun j hj hjs =>
        hmin j (Nat.zero_le j) hj ((List.getElem?_eq_getElem (Nat.lt_trans hj hk)).trans (congrArg some hjs))⟩
    rw [List.erase_eq_eraseIdx, hfirst, e1]
    exact ⟨f2, d1, d2, d3, d4.trans e2.1⟩

theorem pop_ok {f f' : LF} {i : Int} {s : Str} (h : f.pop i = .ok (f', s)) :
    f'.lines.length + 1 = f.lines.length ∧ f'.closed = false := by
  unfold LF.pop at h
  split at h
  · cases h
  · rename_i f1 v hg
    obtain ⟨hs, hc, p, hp⟩ := getInt_ok hg
    unfold LF.delItem at h
    rw [hs.2.1, hp] at h
    cases h
    have hlt := index_lt hp
    exact ⟨by rw [List.length_eraseIdx_of_lt hlt]; omega, (closed_of_same hs hc : f1.closed = false)⟩

theorem clearGo_fuel (fuel : Nat) (f : LF) (h : f.lines.length < fuel) :
    f.clearGo fuel = f.clearGo (f.lines.length + 1) := by
  induction fuel generalizing f with
  | zero => exact absurd h (Nat.not_lt_zero _)
  | succ n ih =>
    unfold LF.clearGo
    cases hp : f.pop (-1) with
    | error e => cases e <;> rfl
    | ok r =>
      obtain ⟨f', s⟩ := r
      have hlen := (pop_ok hp).1
      simp only
      rw [ih f' (by omega), hlen]

theorem clearGo_spec (fuel : Nat) : ∀ (f : LF) (ls : List Str), Good f ls → f.closed = false → ls.length < fuel →
    ∃ f', f.clearGo fuel = .ok f' ∧ Good f' [] ∧ f'.content = f.content ∧ f'.closed = false ∧
      (ls ≠ [] ∨ f.dirty = true → f'.dirty = true) ∧ (ls = [] → f' = f) := by
  induction fuel with
  | zero => intro f ls h hc hf; exact absurd hf (Nat.not_lt_zero _)
  | succ n ih =>
    intro f ls h hc hf
    have hp := pop_spec f ls h hc (-1)
    unfold LF.clearGo
    cases ls with
    | nil =>
      rw [show f.pop (-1) = .error .indexError from hp]
      exact ⟨f, rfl, h, rfl, hc, fun hd => hd.elim (fun hne => absurd rfl hne) id, fun _ => rfl⟩
    | cons a t =>
      rw [List.length_cons, index_neg_one] at hp
      obtain ⟨f1, l, -, e1, g1, d1, k1⟩ := hp
      obtain ⟨f2, e2, g2, k2, c2, d2, -⟩ := ih f1 _ g1 (pop_ok e1).2
        (by rw [List.length_eraseIdx_of_lt (Nat.lt_succ_self _)]; exact Nat.lt_of_succ_lt_succ hf)
      exact ⟨f2, by rw [e1]; exact e2, g2, k2.trans k1, c2, fun _ => d2 (.inr d1), nofun⟩

/-- `f.clear()` on an opened file: the file presents the empty list (and is dirty unless it was empty already, in which
case nothing changes); the source content is untouched -/
theorem clear_spec (f : LF) (ls : List Str) (h : Good f ls) (hc : f.closed = false) :
    ∃ f', f.clear = .ok f' ∧ Good f' [] ∧ f'.content = f.content ∧ f'.closed = false ∧
      (ls ≠ [] → f'.dirty = true) ∧ (ls = [] → f' = f) := by
  unfold LF.clear
  rw [h.1]
  obtain ⟨f', e, g, k, c, d, z⟩ := clearGo_spec (ls.length + 1) f ls h hc (Nat.lt_succ_self _)
  exact ⟨f', e, g, k, c, fun hne => d (.inl hne), z⟩

end WindVerif.LineFile
