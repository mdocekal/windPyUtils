import WindVerif.Proofs.PoolLifeConsumer
/-!
Mid-call `until_all_ready()` (C04): where the consumer's `midReady` pcs come from, and what leaving one of them means.
The workers covered are exactly those the consumer has been at a `midReady` pc for: the occupant of every slot at the moment
the loop `for p in self.procs` arrived there.  A successor the replace thread lists in a slot the loop has passed (or has
already fetched) is not waited for.
-/
namespace WindVerif.Pool

/-- the fields the mid-call wait looks at -/
structure SameM (s s' : St) : Prop where
  workers : s'.workers = s.workers
  procs : s'.procs = s.procs
  fRun : s'.fRun = s.fRun
  cur : s'.cur = s.cur
  cfg : s'.cfg = s.cfg

theorem stepC_mid {s s' : St} {i wid : Nat} (h : stepC s = some s') (hm : s'.cpc = .midReady i wid) :
    s.procs[i]? = some wid ∧ SameM s s' ∧
    ((i = 0 ∧ (s.cpc = .lockRel ∨ s.cpc = .getBlock) ∧ s.cfg.readyMid = true) ∨
     (∃ j w0, i = j + 1 ∧ s.cpc = .midReady j w0)) :=
  have ⟨⟨hc, hp, _, _, _, hmid⟩, _⟩ := stepC_shape h
  have ⟨h1, hw, hf, hcur, h2⟩ := hmid i wid hm
  ⟨h1, ⟨hw, hp, hf, hcur, hc⟩, h2⟩

theorem stepF_frameM {s s' : St} (h : stepF s = some s') :
    s'.cpc = s.cpc ∧ s'.workers = s.workers ∧ s'.fRun = s.fRun ∧ s'.cur = s.cur :=
  have ⟨e, hc, hf, hcur⟩ := stepF_same h
  ⟨hc, e.workers, hf, hcur⟩

theorem stepC_workers {s s' : St} (h : stepC s = some s') :
    s'.workers = s.workers ∨ ∃ w, w ∈ s.workers ∧ s'.workers = upd w.wid { w with pc := .bfClear } s.workers :=
  (stepC_shape h).1.2.2.2.2.1

theorem bfMono_upd {l : List Worker} (hn : (l.map (·.wid)).Nodup) {w w' : Worker} (hw : w ∈ l) (hwid : w'.wid = w.wid)
    (hb : w.bf = true → w'.bf = true) :
    ∀ x ∈ l, ∃ y ∈ upd w.wid w' l, y.wid = x.wid ∧ (x.bf = true → y.bf = true) := by
  intro x hx
  by_cases he : x.wid = w.wid
  · have e := wid_inj hn hx hw he; subst e
    exact ⟨w', mem_upd.2 (Or.inl ⟨rfl, x, hw, rfl⟩), hwid, hb⟩
  · exact ⟨x, mem_upd.2 (Or.inr ⟨hx, he⟩), rfl, id⟩

theorem stepR_frameM {s s' : St} (hI : LInv s) (h : stepR s = some s') :
    s'.cpc = s.cpc ∧ s'.fRun = s.fRun ∧ s'.cur = s.cur ∧
    ∀ x ∈ s.workers, ∃ y ∈ s'.workers, y.wid = x.wid ∧ (x.bf = true → y.bf = true) := by
  obtain ⟨_, ⟨r, _, _, rfl⟩ | ⟨wid, r, _, _, rfl⟩ | ⟨wid, _, _, rfl⟩ | ⟨nw, w, _, hg, rfl⟩⟩ := stepR_cases h
  · exact ⟨rfl, rfl, rfl, fun x hx => ⟨x, hx, rfl, id⟩⟩
  · exact ⟨rfl, rfl, rfl, fun x hx => ⟨x, hx, rfl, id⟩⟩
  · exact ⟨rfl, rfl, rfl, fun x hx => ⟨x, List.mem_append_left _ hx, rfl, id⟩⟩
  · exact ⟨rfl, rfl, rfl, bfMono_upd (w := w) hI.nodup (getWorker_some hg).1 rfl id⟩

/-- `begin_finished`, once set, stays set: along every step of every thread every worker keeps its wid and the flag -/
theorem step_bfMono {s s' : St} {t : Tid} (hI : LInv s) (h : step s t = some s') :
    ∀ x ∈ s.workers, ∃ y ∈ s'.workers, y.wid = x.wid ∧ (x.bf = true → y.bf = true) := by
  cases t with
  | c =>
    rcases stepC_workers h with e | ⟨w, hwm, e⟩ <;> rw [e]
    · exact fun x hx => ⟨x, hx, rfl, id⟩
    · exact bfMono_upd hI.nodup hwm rfl id
  | f => rw [(stepF_same h).1.workers]; exact fun x hx => ⟨x, hx, rfl, id⟩
  | r => exact (stepR_frameM hI h).2.2.2
  | w k =>
    obtain ⟨w, w', hg, _, _, hwid, _, hinv, hf⟩ := stepW_summary h
    have hwm := (getWorker_some hg).1
    rw [hf.workers]; exact bfMono_upd hI.nodup hwm hwid (hinv (hI.wk w hwm)).2

theorem run_bfMono {s s' : St} {sched : List Tid} (hI : LInv s) (h : run s sched = some s') {wid : Nat}
    (hw : ∃ x ∈ s.workers, x.wid = wid ∧ x.bf = true) : ∃ y ∈ s'.workers, y.wid = wid ∧ y.bf = true := by
  induction sched generalizing s with
  | nil => cases h; exact hw
  | cons t ts ih =>
    simp only [run] at h
    split at h
    · cases h
    · rename_i s1 hs1
      obtain ⟨x, hx, hxw, hxb⟩ := hw
      obtain ⟨y, hy, hyw, hyb⟩ := step_bfMono hI hs1 x hx
      exact ih (LInv_step hI hs1) h ⟨y, hy, hyw.trans hxw, hyb hxb⟩

theorem step_cpc_of_ne_c {s s' : St} {t : Tid} (hI : LInv s) (h : step s t = some s') (ht : t ≠ .c) : s'.cpc = s.cpc := by
  cases t with
  | c => exact absurd rfl ht
  | f => exact (stepF_same h).2.1
  | r => exact (stepR_frameM hI h).1
  | w k =>
    obtain ⟨_, _, _, _, _, _, _, _, hf⟩ := stepW_summary h
    exact hf.cpc

theorem stepC_midReady_bf {s s' : St} {i wid : Nat} (hpc : s.cpc = .midReady i wid) (h : stepC s = some s') :
    ∃ w ∈ s.workers, w.wid = wid ∧ w.bf = true := by
  simp only [stepC, hpc] at h
  split at h
  · cases h
  · rename_i w hg
    obtain ⟨hwm, hwid⟩ := getWorker_some hg
    split at h
    · rename_i hbf; exact ⟨w, hwm, hwid, hbf⟩
    · cases h

theorem mid_wait_passed {s s' : St} {sched : List Tid} (hI : LInv s) {i wid : Nat} (hpc : s.cpc = .midReady i wid)
    (hr : run s sched = some s') (hleft : s'.cpc ≠ .midReady i wid) : ∃ y ∈ s'.workers, y.wid = wid ∧ y.bf = true := by
  induction sched generalizing s with
  | nil => cases hr; exact absurd hpc hleft
  | cons t ts ih =>
    simp only [run] at hr
    split at hr
    · cases hr
    · rename_i s1 hs1
      by_cases ht : t = .c
      · subst ht
        obtain ⟨w, hwm, hwid, hbf⟩ := stepC_midReady_bf hpc hs1
        obtain ⟨y, hy, hyw, hyb⟩ := step_bfMono hI hs1 w hwm
        exact run_bfMono (LInv_step hI hs1) hr ⟨y, hy, hyw.trans hwid, hyb hbf⟩
      · exact ih (LInv_step hI hs1) ((step_cpc_of_ne_c hI hs1 ht).trans hpc) hr

/-- **C04, mid-call `until_all_ready()`**: let the consumer be at the wait for worker `wid`, the occupant of slot `i` of
`procs` at the moment the loop `for p in self.procs` arrived at that slot (`ready_mid_slot`), in a reachable state `s`.  In
every later state `s'` in which the consumer is no longer at that wait — in particular as soon as `until_all_ready()` has
returned — worker `wid` has completed `begin()`: its `begin_finished` is set and `begin` is in its log.  This holds for
every configuration (faults included: the wait for a worker whose `begin()` raises never returns), every call history and
every interleaving, whatever the replace thread does to the list in the meantime. -/
theorem ready_mid_after_begin (cfg : Cfg) (s : St) (h : Reach cfg s) (i wid : Nat) (hpc : s.cpc = .midReady i wid)
    (sched : List Tid) (s' : St) (hrun : run s sched = some s') (hleft : s'.cpc ≠ .midReady i wid) :
    ∃ w ∈ s'.workers, w.wid = wid ∧ w.bf = true ∧ WEv.begin ∈ w.log := by
  obtain ⟨hI, _⟩ := LInv_reach h
  obtain ⟨y, hy, hyw, hyb⟩ := mid_wait_passed hI hpc hrun hleft
  exact ⟨y, hy, hyw, hyb, ((LInv_run hI hrun).1.wk y hy).bfLog hyb⟩

/-- which workers are covered: the consumer arrives at the wait for `wid` in slot `i` only by a step of its own, and `wid`
is what `procs[i]` holds at that very moment — slot 0 when the first result of a call has just been emitted, slot `j + 1`
when the wait for slot `j` has returned; the list is not touched by that step -/
theorem ready_mid_slot (cfg : Cfg) (s s' : St) (t : Tid) (i wid : Nat) (hr : Reach cfg s) (h : step s t = some s')
    (hm : s'.cpc = .midReady i wid) (hnew : s.cpc ≠ .midReady i wid) :
    t = .c ∧ s.procs[i]? = some wid ∧ s'.procs = s.procs ∧
    ((i = 0 ∧ (s.cpc = .lockRel ∨ s.cpc = .getBlock) ∧ cfg.readyMid = true) ∨ ∃ j w0, i = j + 1 ∧ s.cpc = .midReady j w0) := by
  obtain ⟨hI, hcfg⟩ := LInv_reach hr
  by_cases ht : t = .c
  · subst ht
    obtain ⟨h1, h2, h3⟩ := stepC_mid h hm
    rw [hcfg] at h3
    exact ⟨rfl, h1, h2.procs, h3⟩
  · exact absurd ((step_cpc_of_ne_c hI h ht).symm.trans hm) hnew

/-- the loop itself: the consumer's step at the wait for slot `i` needs `begin_finished` of the fetched worker, goes on to
the occupant of slot `i + 1` of the list as it is now, and leaves `until_all_ready()` exactly when there is no such slot -/
theorem ready_mid_next (s s' : St) (i wid : Nat) (hpc : s.cpc = .midReady i wid) (h : step s .c = some s') :
    (∃ w ∈ s.workers, w.wid = wid ∧ w.bf = true) ∧
    (match s.procs[i + 1]? with
     | some v => s'.cpc = .midReady (i + 1) v
     | none => ∀ j v, s'.cpc ≠ .midReady j v) := by
  have h : stepC s = some s' := h
  refine ⟨stepC_midReady_bf hpc h, ?_⟩
  simp only [stepC, hpc] at h
  split at h
  · cases h
  · split at h
    · split at h
      · rename_i v hv
        cases h
        rw [hv]
      · rename_i hv
        cases h
        rw [hv]
        intro j v
        exact (afterBatch_same _).2.2 _ _
    · cases h

end WindVerif.Pool
