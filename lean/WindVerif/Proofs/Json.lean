import WindVerif.Model.Json
/-! Theorems about the JSON model (C13): for well-formed `v`, `decode (encode v) = some v` and `encode v` is printable ASCII,
hence a single line.  The round trip is proved as a continuation lemma: `parseValue` reads `encode v ++ rest` back as `(v, rest)`
for every `rest` that cannot extend a number token (`numStop`). -/
namespace WindVerif.Json

abbrev Printable (c : Char) : Prop := 32 ≤ c.toNat ∧ c.toNat ≤ 126

theorem printable_iff (c : Char) : (' ' ≤ c ∧ c ≤ '~') ↔ Printable c := by
  simp only [Char.le_def, UInt32.le_iff_toNat_le, Char.toNat_val]
  exact Iff.rfl

theorem digitChar_toNat : ∀ d, d < 10 → (digitChar d).toNat = 48 + d := by decide

theorem isDigit_digitChar : ∀ d, d < 10 → isDigit (digitChar d) = true := by decide

theorem digitChar_eq_zero : ∀ d, d < 10 → (digitChar d = '0' ↔ d = 0) := by decide

theorem hexVal_hexDigit : ∀ d, d < 16 → hexVal (hexDigit d) = some d := by decide

theorem hexDigit_printable : ∀ d, d < 16 → Printable (hexDigit d) := by decide

theorem isDigit_printable {c : Char} (h : isDigit c = true) : Printable c := by
  simp [isDigit] at h; omega

theorem showNat_induction {P : Nat → List Char → Prop} (one : ∀ n, n < 10 → P n [digitChar n])
    (more : ∀ n l, 10 ≤ n → P (n / 10) l → P n (l ++ [digitChar (n % 10)])) (n : Nat) : P n (showNat n) := by
  have : ∀ f n, n < f → P n (showNatF f n) := by
    intro f
    induction f with
    | zero => intro n h; cases h
    | succ f ih =>
      intro n h
      rw [showNatF]
      split
      · exact one n ‹_›
      · exact more n _ (by omega) (ih _ (by omega))
  exact this _ n (Nat.lt_succ_self n)

theorem showNat_digits (n : Nat) : ∀ c ∈ showNat n, isDigit c = true := by
  induction n using showNat_induction with
  | one n h => exact List.forall_mem_singleton.2 (isDigit_digitChar n h)
  | more n l _ ih =>
    exact List.forall_mem_append.2 ⟨ih, List.forall_mem_singleton.2 (isDigit_digitChar _ (Nat.mod_lt _ (by decide)))⟩

theorem showNat_head (n : Nat) : ∃ c r, showNat n = c :: r ∧ c ≠ '-' := by
  induction n using showNat_induction with
  | one n h => exact ⟨_, [], rfl, fun e => absurd (e ▸ isDigit_digitChar n h) (by decide)⟩
  | more n l _ ih => obtain ⟨c, r, rfl, hc⟩ := ih; exact ⟨c, _, rfl, hc⟩

theorem readNat_snoc (l : List Char) (c : Char) : readNat (l ++ [c]) = readNat l * 10 + (c.toNat - 48) := by
  simp [readNat, List.foldl_append]

theorem readNat_showNat (n : Nat) : readNat (showNat n) = n := by
  induction n using showNat_induction with
  | one n h => simp [readNat, digitChar_toNat n h]
  | more n l _ ih =>
    rw [readNat_snoc, ih, digitChar_toNat _ (Nat.mod_lt _ (by decide))]
    omega

/-- what follows cannot extend a number token -/
def numStop : List Char → Bool
  | [] => true
  | c :: _ => !isDigit c && c != '.' && c != 'e' && c != 'E'

theorem nstep_some {s s' : NState} {c : Char} (h : nstep s c = some s') :
    isDigit c = true ∨ c ∈ ['.', 'e', 'E'] ∨ (s = .e ∧ c ∈ ['+', '-']) := by
  by_cases hd : isDigit c = true; · exact .inl hd
  by_cases h1 : c ∈ ['.', 'e', 'E']; · exact .inr (.inl h1)
  have h0 : c ≠ '0' := by rintro rfl; exact hd rfl
  simp only [List.mem_cons, List.not_mem_nil, or_false, not_or] at h1
  cases s <;> simp [nstep, hd, h0, h1] at h ⊢
  exact h.1

theorem nstep_stop {s : NState} (hs : s.accepting = true) {c : Char} {r : List Char} (h : numStop (c :: r) = true) :
    nstep s c = none := by
  simp [numStop] at h
  obtain ⟨⟨⟨h1, h2⟩, h3⟩, h4⟩ := h
  cases s <;> simp [NState.accepting] at hs <;> simp [nstep, h1, h2, h3, h4]

theorem scan_stop {s : NState} (hs : s.accepting = true) {rest : List Char} (h : numStop rest = true) :
    scan s rest = ([], s, rest) := by
  cases rest with
  | nil => rfl
  | cons c r => simp [scan, nstep_stop hs h]

theorem scan_append : ∀ (l1 : List Char) (s : NState) (t1 : List Char) (s1 : NState) (l2 : List Char),
    scan s l1 = (t1, s1, []) →
    t1 = l1 ∧ scan s (l1 ++ l2) = (l1 ++ (scan s1 l2).1, (scan s1 l2).2.1, (scan s1 l2).2.2) := by
  intro l1
  induction l1 with
  | nil => intro s t1 s1 l2 h; cases h; exact ⟨rfl, rfl⟩
  | cons c r ih =>
    intro s t1 s1 l2 h
    simp only [scan, List.cons_append] at h ⊢
    cases hn : nstep s c with
    | none => simp [hn] at h
    | some s' =>
      simp only [hn] at h ⊢
      rcases hsc : scan s' r with ⟨t, sf, rest⟩
      simp only [hsc, Prod.mk.injEq] at h
      obtain ⟨rfl, rfl, rfl⟩ := h
      obtain ⟨rfl, h2⟩ := ih s' t sf l2 hsc
      exact ⟨rfl, by rw [h2]⟩

theorem scan_whole_append {l : List Char} {s s1 : NState} {t : List Char} (h : scan s l = (t, s1, []))
    (hs : s1.accepting = true) {rest : List Char} (hr : numStop rest = true) :
    t = l ∧ scan s (l ++ rest) = (l, s1, rest) := by
  obtain ⟨rfl, h2⟩ := scan_append l s t s1 rest h
  rw [h2, scan_stop hs hr, List.append_nil]
  exact ⟨rfl, rfl⟩

theorem scanNumber_append {l tok : List Char} {b : Bool} (h : scanNumber l = some (tok, b, []))
    {rest : List Char} (hr : numStop rest = true) : tok = l ∧ scanNumber (l ++ rest) = some (l, b, rest) := by
  cases l with
  | nil => cases h
  | cons c r =>
    simp only [scanNumber] at h
    simp only [scanNumber, List.cons_append]
    split at h
    · rename_i hc
      rcases hsc : scan .start r with ⟨t, sf, rs⟩
      simp only [hsc] at h
      split at h
      · rename_i hacc
        cases h
        obtain ⟨rfl, h2⟩ := scan_whole_append hsc hacc hr
        simp [hc, h2, hacc]
      · cases h
    · rename_i hc
      rcases hsc : scan .start (c :: r) with ⟨t, sf, rs⟩
      simp only [hsc] at h
      split at h
      · rename_i hacc
        cases h
        obtain ⟨rfl, h2⟩ := scan_whole_append hsc hacc hr
        rw [List.cons_append] at h2
        simp [hc, h2, hacc]
      · cases h

theorem scanNumber_float {l : List Char} (h : floatLexeme l = true) : scanNumber l = some (l, true, []) := by
  unfold floatLexeme at h
  split at h
  · rename_i tok isF heq
    subst h
    have := (scanNumber_append heq (rest := []) rfl).1
    subst this; exact heq
  · cases h

theorem scan_showNat (n : Nat) :
    scan .start (showNat n) = (showNat n, if n = 0 then NState.zero else NState.int, []) := by
  induction n using showNat_induction with
  | one n h =>
    by_cases h0 : n = 0
    · subst h0; rfl
    · have hz : digitChar n ≠ '0' := fun hh => h0 ((digitChar_eq_zero n h).1 hh)
      simp [scan, nstep, isDigit_digitChar n h, hz, h0]
  | more n l h10 ih =>
    rw [if_neg (by omega)] at ih
    have hd : nstep .int (digitChar (n % 10)) = some .int := by
      simp [nstep, isDigit_digitChar _ (Nat.mod_lt n (by decide : 0 < 10))]
    rw [(scan_append _ _ _ _ [digitChar (n % 10)] ih).2, if_neg (by omega)]
    simp [scan, hd]

theorem scanNumber_showNat (n : Nat) : scanNumber (showNat n) = some (showNat n, false, []) := by
  have h := scan_showNat n
  obtain ⟨c, r, hcr, hm⟩ := showNat_head n
  rw [hcr] at h ⊢
  simp only [scanNumber, hm, if_false, h]
  by_cases h0 : n = 0 <;> simp [h0, NState.accepting, NState.isFloat]

theorem scanNumber_showInt (i : Int) : scanNumber (showInt i) = some (showInt i, false, []) := by
  cases i with
  | ofNat n => exact scanNumber_showNat n
  | negSucc n =>
    simp [showInt, scanNumber, scan_showNat, NState.accepting, NState.isFloat]

theorem readInt_showInt (i : Int) : readInt (showInt i) = i := by
  cases i with
  | ofNat n =>
    obtain ⟨c, r, hcr, hm⟩ := showNat_head n
    rw [showInt, hcr, readInt, if_neg hm, ← hcr, readNat_showNat]
  | negSucc n =>
    simp only [showInt, readInt, if_true, readNat_showNat]
    rfl

theorem showInt_printable (i : Int) : ∀ c ∈ showInt i, Printable c := by
  intro c hc
  cases i with
  | ofNat n => exact isDigit_printable (showNat_digits _ c hc)
  | negSucc n =>
    simp only [showInt, List.mem_cons] at hc
    rcases hc with rfl | hc
    · decide
    · exact isDigit_printable (showNat_digits _ c hc)

theorem toNat_ofNat_valid (n : Nat) (h : n.isValidChar) : (Char.ofNat n).toNat = n := by
  unfold Char.ofNat; rw [dif_pos h]; rfl

theorem hex4_digits (n : Nat) (h : n < 65536) :
    hex4 (hexDigit (n / 4096 % 16)) (hexDigit (n / 256 % 16)) (hexDigit (n / 16 % 16)) (hexDigit (n % 16)) = some n := by
  have hd (m : Nat) : hexVal (hexDigit (m % 16)) = some (m % 16) := hexVal_hexDigit _ (Nat.mod_lt _ (by decide))
  have e1 : n / 256 = n / 16 / 16 := (Nat.div_div_eq_div_mul n 16 16).symm
  have e2 : n / 4096 = n / 16 / 16 / 16 := by rw [Nat.div_div_eq_div_mul, Nat.div_div_eq_div_mul]
  have e3 : n / 4096 % 16 = n / 4096 := Nat.mod_eq_of_lt (Nat.div_lt_of_lt_mul h)
  simp only [hex4, hd, Option.some.injEq]
  rw [e3, e2, e1, Nat.div_add_mod', Nat.div_add_mod', Nat.div_add_mod']

theorem readEscape_u4 (n : Nat) (h : n < 0xD800 ∨ (0xE000 ≤ n ∧ n < 0x10000)) (tl : List Char) :
    readEscape ((u4 n).tail ++ tl) = some (Char.ofNat n, tl) := by
  have hn : n < 65536 := by omega
  have h1 : ¬ (0xD800 ≤ n ∧ n < 0xDC00) := by omega
  have h2 : ¬ (0xDC00 ≤ n ∧ n < 0xE000) := by omega
  simp [u4, readEscape, hex4_digits n hn, h1, h2]

theorem readEscape_surrogates (hi lo : Nat) (hhi : 0xD800 ≤ hi ∧ hi < 0xDC00) (hlo : 0xDC00 ≤ lo ∧ lo < 0xE000)
    (tl : List Char) :
    readEscape ((u4 hi).tail ++ (u4 lo ++ tl)) = some (Char.ofNat (0x10000 + (hi - 0xD800) * 1024 + (lo - 0xDC00)), tl) := by
  have a1 : hi < 65536 := by omega
  have a2 : lo < 65536 := by omega
  simp only [u4, readEscape, List.tail_cons, List.cons_append, List.nil_append]
  simp [hex4_digits _ a1, hex4_digits _ a2, hhi, hlo]

theorem readEscape_pair (n : Nat) (h : 0x10000 ≤ n ∧ n < 0x110000) (tl : List Char) :
    readEscape ((u4 (0xD800 + (n - 0x10000) / 1024)).tail ++ (u4 (0xDC00 + (n - 0x10000) % 1024) ++ tl)) =
      some (Char.ofNat n, tl) := by
  rw [readEscape_surrogates _ _ (by omega) (by omega), Nat.add_sub_cancel_left, Nat.add_sub_cancel_left, Nat.add_assoc,
    Nat.div_add_mod', Nat.add_sub_of_le h.1]

def shortEscapes : List (Char × Char) :=
  [('"', '"'), ('\\', '\\'), ('\n', 'n'), ('\r', 'r'), ('\t', 't'), ('\x08', 'b'), ('\x0c', 'f')]

theorem readEscape_short : ∀ p ∈ shortEscapes, ∀ tl, readEscape (p.2 :: tl) = some (p.1, tl) := by
  intro p hp tl
  simp only [shortEscapes, List.mem_cons, List.not_mem_nil, or_false] at hp
  rcases hp with rfl | rfl | rfl | rfl | rfl | rfl | rfl <;> rfl

inductive Escape (c : Char) : List Char → Prop
  | short (e : Char) : (c, e) ∈ shortEscapes → Escape c ['\\', e]
  | plain : Printable c → c ≠ '"' → c ≠ '\\' → Escape c [c]
  | bmp : c.toNat < 0x10000 → Escape c (u4 c.toNat)
  | pair : 0x10000 ≤ c.toNat →
      Escape c (u4 (0xD800 + (c.toNat - 0x10000) / 1024) ++ u4 (0xDC00 + (c.toNat - 0x10000) % 1024))

/-- `split` on this chain of `if`s is slow to check; the tests are taken one at a time instead -/
theorem encodeChar_escape (c : Char) : Escape c (encodeChar c) := by
  by_cases h1 : c = '"'; · subst h1; exact .short _ (by decide)
  by_cases h2 : c = '\\'; · subst h2; exact .short _ (by decide)
  by_cases h3 : c = '\n'; · subst h3; exact .short _ (by decide)
  by_cases h4 : c = '\r'; · subst h4; exact .short _ (by decide)
  by_cases h5 : c = '\t'; · subst h5; exact .short _ (by decide)
  by_cases h6 : c = '\x08'; · subst h6; exact .short _ (by decide)
  by_cases h7 : c = '\x0c'; · subst h7; exact .short _ (by decide)
  rw [encodeChar, if_neg h1, if_neg h2, if_neg h3, if_neg h4, if_neg h5, if_neg h6, if_neg h7]
  by_cases hp : Printable c
  · rw [if_pos hp]; exact .plain hp h1 h2
  by_cases hb : c.toNat < 0x10000
  · rw [if_neg hp, if_pos hb]; exact .bmp hb
  · rw [if_neg hp, if_neg hb]; exact .pair (Nat.le_of_not_lt hb)

theorem Escape.length_pos {c : Char} {l : List Char} (h : Escape c l) : 1 ≤ l.length := by
  cases h <;> exact Nat.le_add_left 1 _

theorem u4_printable (n : Nat) : ∀ x ∈ u4 n, Printable x := by
  have hd (n : Nat) : Printable (hexDigit (n % 16)) := hexDigit_printable _ (Nat.mod_lt _ (by decide))
  simp only [u4, List.forall_mem_cons]
  exact ⟨by decide, by decide, hd _, hd _, hd _, hd _, List.forall_mem_nil _⟩

theorem Escape.printable {c : Char} {l : List Char} (h : Escape c l) : ∀ x ∈ l, Printable x := by
  cases h with
  | short e he =>
    have : ∀ p ∈ shortEscapes, Printable p.2 := by decide
    simp only [List.forall_mem_cons]
    exact ⟨by decide, this _ he, List.forall_mem_nil _⟩
  | plain hp => simpa using hp
  | bmp => exact u4_printable _
  | pair => exact List.forall_mem_append.2 ⟨u4_printable _, u4_printable _⟩

theorem parseStrBody_escape {r r' : List Char} {ch : Char} (h : readEscape r = some (ch, r')) (f : Nat) :
    parseStrBody (f + 1) ('\\' :: r) = consFst ch (parseStrBody f r') := by
  rw [parseStrBody, if_neg (by decide), if_pos rfl, h]

theorem Escape.parse {c : Char} {l : List Char} (h : Escape c l) (f : Nat) (tl : List Char) :
    parseStrBody (f + 1) (l ++ tl) = consFst c (parseStrBody f tl) := by
  have hv : c.toNat < 0xD800 ∨ (0xDFFF < c.toNat ∧ c.toNat < 0x110000) := c.valid
  cases h with
  | short e he => exact parseStrBody_escape (readEscape_short _ he tl) f
  | plain hp hq hb =>
    have : ¬ c.toNat < 32 := Nat.not_lt.2 hp.1
    rw [List.singleton_append, parseStrBody, if_neg hq, if_neg hb, if_neg this]
  | bmp h =>
    have := parseStrBody_escape (readEscape_u4 c.toNat (by omega) tl) f
    rwa [Char.ofNat_toNat] at this
  | pair h =>
    have := parseStrBody_escape (readEscape_pair c.toNat ⟨h, by omega⟩ tl) f
    rwa [Char.ofNat_toNat, ← List.append_assoc] at this

theorem encodeStrBody_length (s : List Char) : s.length ≤ (encodeStrBody s).length := by
  induction s with
  | nil => exact Nat.le_refl 0
  | cons c r ih =>
    have := (encodeChar_escape c).length_pos
    simp only [encodeStrBody, List.length_append, List.length_cons]
    omega

theorem parseStrBody_encodeStrBody (s : List Char) : ∀ (f : Nat) (rest : List Char), s.length < f →
    parseStrBody f (encodeStrBody s ++ '"' :: rest) = some (s, rest) := by
  induction s with
  | nil =>
    intro f rest h
    obtain ⟨f, rfl⟩ : ∃ g, f = g + 1 := ⟨f - 1, by simp at h; omega⟩
    simp [encodeStrBody, parseStrBody]
  | cons c r ih =>
    intro f rest h
    obtain ⟨f, rfl⟩ : ∃ g, f = g + 1 := ⟨f - 1, by simp at h; omega⟩
    simp only [encodeStrBody, List.append_assoc]
    rw [(encodeChar_escape c).parse, ih f rest (by simpa using h)]
    rfl

theorem parseStr_encodeStr (s rest : List Char) :
    parseStrBody (encodeStrBody s ++ '"' :: rest).length (encodeStrBody s ++ '"' :: rest) = some (s, rest) := by
  apply parseStrBody_encodeStrBody
  have := encodeStrBody_length s
  simp only [List.length_append, List.length_cons]
  omega

theorem decodeString_encodeStr (s rest : List Char) : decodeString (encodeStr s ++ rest) = some (s, rest) := by
  simp only [encodeStr, List.cons_append, List.append_assoc, List.nil_append, decodeString, if_true]
  exact parseStr_encodeStr s rest

theorem encodeStr_printable (s : List Char) : ∀ x ∈ encodeStr s, Printable x := by
  have body : ∀ x ∈ encodeStrBody s, Printable x := by
    induction s with
    | nil => exact List.forall_mem_nil _
    | cons c r ih => exact List.forall_mem_append.2 ⟨(encodeChar_escape c).printable, ih⟩
  simp only [encodeStr, List.forall_mem_cons, List.forall_mem_append]
  exact ⟨by decide, body, by decide, List.forall_mem_nil _⟩

theorem JVal.induction {P : JVal → Prop} (null : P .null) (bool : ∀ b, P (.bool b)) (int : ∀ i, P (.int i))
    (float : ∀ l, P (.float l)) (str : ∀ s, P (.str s))
    (arr : ∀ l, (∀ v ∈ l, P v) → P (.arr l))
    (obj : ∀ l : List (List Char × JVal), (∀ kv ∈ l, P kv.2) → P (.obj l)) : ∀ v, P v :=
  JVal.rec (motive_1 := P) (motive_2 := fun l => ∀ v ∈ l, P v) (motive_3 := fun l => ∀ kv ∈ l, P kv.2)
    (motive_4 := fun kv => P kv.2) null bool int float str arr obj (List.forall_mem_nil _)
    (fun _ _ ha hl => List.forall_mem_cons.2 ⟨ha, hl⟩) (List.forall_mem_nil _)
    (fun _ _ ha hl => List.forall_mem_cons.2 ⟨ha, hl⟩) (fun _ _ h => h)

theorem skipWs_cons {c : Char} (h : isWs c = false) (r : List Char) : skipWs (c :: r) = c :: r := by
  simp [skipWs, h]

theorem stripPrefix_append (p r : List Char) : stripPrefix p (p ++ r) = some r := by
  induction p with
  | nil => rfl
  | cons c p ih => simp [stripPrefix, ih]

theorem setKey_new (k : List Char) (v : JVal) : ∀ (acc : List (List Char × JVal)), k ∉ acc.map (·.1) →
    setKey k v acc = acc ++ [(k, v)] := by
  intro acc
  induction acc with
  | nil => intro _; rfl
  | cons a acc ih =>
    intro h
    obtain ⟨k', v'⟩ := a
    simp only [List.map_cons, List.mem_cons, not_or] at h
    simp only [setKey, if_neg (Ne.symm h.1), List.cons_append, ih h.2]

theorem dictOf_aux (l : List (List Char × JVal)) : ∀ (acc : List (List Char × JVal)),
    ((acc ++ l).map (·.1)).Nodup → l.foldl (fun acc kv => setKey kv.1 kv.2 acc) acc = acc ++ l := by
  induction l with
  | nil => intro acc _; simp
  | cons a l ih =>
    intro acc h
    have hk : a.1 ∉ acc.map (·.1) := by
      simp only [List.map_append, List.map_cons, List.nodup_append, List.nodup_cons] at h
      intro hmem
      exact h.2.2 _ hmem _ (by simp) rfl
    simp only [List.foldl_cons, setKey_new _ _ _ hk]
    rw [ih _ (by simpa using h)]
    simp

theorem dictOf_nodup (l : List (List Char × JVal)) (h : (l.map (·.1)).Nodup) : dictOf l = l := by
  simpa [dictOf] using dictOf_aux l [] (by simpa using h)

abbrev startOk (c : Char) : Prop := isWs c = false ∧ c ≠ ']'

theorem head_of_scanNumber {l : List Char} {x : List Char × Bool × List Char} (h : scanNumber l = some x) :
    ∃ c tl, l = c :: tl ∧ startOk c := by
  cases l with
  | nil => cases h
  | cons c r =>
    refine ⟨c, r, rfl, ?_, ?_⟩
    · cases hw : isWs c with
      | false => rfl
      | true =>
        simp only [isWs, Bool.or_eq_true, decide_eq_true_eq] at hw
        rcases hw with ((rfl | rfl) | rfl) | rfl <;> cases h
    · rintro rfl; cases h

theorem skipWs_of_scanNumber {l : List Char} {x : List Char × Bool × List Char} (h : scanNumber l = some x) :
    skipWs l = l := by
  obtain ⟨c, tl, rfl, hc, _⟩ := head_of_scanNumber h
  exact skipWs_cons hc tl

theorem encode_head (v : JVal) (h : WF v) : ∃ c tl, encode v = c :: tl ∧ startOk c := by
  cases h with
  | null | str _ => exact ⟨_, _, rfl, by decide⟩
  | bool b => cases b <;> exact ⟨_, _, rfl, by decide⟩
  | int i => exact head_of_scanNumber (scanNumber_showInt i)
  | float l hl => exact head_of_scanNumber (scanNumber_float hl)
  | arr l _ => cases l <;> exact ⟨'[', _, by rw [encode], by decide⟩
  | obj l _ _ => cases l <;> exact ⟨'{', _, by rw [encode], by decide⟩

theorem skipWs_encode (v : JVal) (h : WF v) (rest : List Char) : skipWs (encode v ++ rest) = encode v ++ rest := by
  obtain ⟨c, tl, h1, h2, _⟩ := encode_head v h
  rw [h1, List.cons_append, skipWs_cons h2]

theorem encode_lt_encodeTail (l : List JVal) : ∀ w ∈ l, (encode w).length < (encodeTail l).length := by
  induction l with
  | nil => exact List.forall_mem_nil _
  | cons v l ih =>
    simp only [encodeTail, List.length_cons, List.length_append, List.forall_mem_cons]
    exact ⟨by omega, fun w hw => by have := ih w hw; omega⟩

theorem encode_lt_encodeMTail (l : List (List Char × JVal)) :
    ∀ kv ∈ l, (encode kv.2).length < (encodeMTail l).length := by
  induction l with
  | nil => exact List.forall_mem_nil _
  | cons kv l ih =>
    simp only [encodeMTail, List.length_cons, List.length_append, List.forall_mem_cons]
    exact ⟨by omega, fun w hw => by have := ih w hw; omega⟩

theorem encode_lt_arr {l : List JVal} {w : JVal} (hw : w ∈ l) : (encode w).length < (encode (.arr l)).length := by
  have := encode_lt_encodeTail l w hw
  cases l with
  | nil => cases hw
  | cons v l =>
    rw [encode]
    simp only [encodeTail, List.length_cons, List.length_append] at this ⊢
    omega

theorem encode_lt_obj {l : List (List Char × JVal)} {kv : List Char × JVal} (hw : kv ∈ l) :
    (encode kv.2).length < (encode (.obj l)).length := by
  have := encode_lt_encodeMTail l kv hw
  cases l with
  | nil => cases hw
  | cons kv l =>
    rw [encode]
    simp only [encodeMTail, List.length_cons, List.length_append] at this ⊢
    omega

theorem encodeStr_append (k rest : List Char) : encodeStr k ++ rest = '"' :: (encodeStrBody k ++ '"' :: rest) := by
  simp [encodeStr]

/-! The loops are stated for any parser `pv` of single values, so that they can be used at `pv := parseValue f` inside the
induction on the fuel.  Each round of a loop takes one unit of fuel, and the text has at least one character (the comma) per round. -/

section loops
variable {pv : List Char → Option (JVal × List Char)}

def Good (pv : List Char → Option (JVal × List Char)) (v : JVal) : Prop :=
  ∀ rest, numStop rest = true → pv (encode v ++ rest) = some (v, rest)

theorem parseElems_encode (l : List JVal) : ∀ (v : JVal) (n : Nat) (rest : List Char),
    (encode v ++ (encodeTail l ++ ']' :: rest)).length ≤ n → (∀ w ∈ v :: l, Good pv w) → (∀ w ∈ l, WF w) →
      parseElems pv n (encode v ++ (encodeTail l ++ ']' :: rest)) = some (v :: l, rest) := by
  induction l with
  | nil =>
    intro v n rest hn hg _
    obtain ⟨n, rfl⟩ : ∃ m, n = m + 1 := ⟨n - 1, by simp only [List.length_append, List.length_cons] at hn; omega⟩
    rw [parseElems, encodeTail, List.nil_append, hg v (.head _) _ rfl]
    rfl
  | cons w l ih =>
    intro v n rest hn hg hwf
    simp only [encodeTail, List.length_cons, List.length_append] at hn
    obtain ⟨n, rfl⟩ : ∃ m, n = m + 1 := ⟨n - 1, by omega⟩
    have hw := List.forall_mem_cons.1 hwf
    rw [parseElems, encodeTail, List.cons_append, List.append_assoc, hg v (.head _) _ rfl]
    simp only [skipWs_cons (c := ',') rfl, if_true]
    rw [skipWs_encode w hw.1, ih w n rest (by simp only [List.length_cons, List.length_append]; omega) (List.forall_mem_cons.1 hg).2 hw.2]

theorem parseArr_encode {v : JVal} {l : List JVal} (hg : ∀ w ∈ v :: l, Good pv w) (hwf : ∀ w ∈ v :: l, WF w)
    (rest : List Char) : parseArr pv (encode v ++ (encodeTail l ++ ']' :: rest)) = some (.arr (v :: l), rest) := by
  have hw := List.forall_mem_cons.1 hwf
  have key := parseElems_encode l v _ rest (Nat.le_refl _) hg hw.2
  obtain ⟨c, tl, hc, hws, hb⟩ := encode_head v hw.1
  rw [hc, List.cons_append] at key ⊢
  rw [parseArr, skipWs_cons hws]
  simp only [hb, if_false, key]

theorem parseMembers_encode (l : List (List Char × JVal)) : ∀ (k : List Char) (v : JVal) (n : Nat) (rest : List Char),
    (encodeStr k ++ ':' :: (encode v ++ (encodeMTail l ++ '}' :: rest))).length ≤ n →
    (∀ kv ∈ (k, v) :: l, Good pv kv.2) → (∀ kv ∈ (k, v) :: l, WF kv.2) →
      parseMembers pv n (encodeStr k ++ ':' :: (encode v ++ (encodeMTail l ++ '}' :: rest))) = some ((k, v) :: l, rest) := by
  induction l with
  | nil =>
    intro k v n rest hn hg hwf
    obtain ⟨n, rfl⟩ : ∃ m, n = m + 1 := ⟨n - 1, by simp only [List.length_append, List.length_cons] at hn; omega⟩
    rw [encodeStr_append, parseMembers, if_pos rfl, parseStr_encodeStr]
    simp only [skipWs_cons (c := ':') rfl, if_true]
    rw [skipWs_encode v (hwf _ (.head _)), encodeMTail, List.nil_append, hg _ (.head _) _ rfl]
    rfl
  | cons kw l ih =>
    obtain ⟨k', w⟩ := kw
    intro k v n rest hn hg hwf
    simp only [encodeMTail, List.length_cons, List.length_append] at hn
    obtain ⟨n, rfl⟩ : ∃ m, n = m + 1 := ⟨n - 1, by omega⟩
    rw [encodeStr_append, parseMembers, if_pos rfl, parseStr_encodeStr]
    simp only [skipWs_cons (c := ':') rfl, if_true]
    rw [skipWs_encode v (hwf _ (.head _)), encodeMTail, List.cons_append, List.append_assoc, List.cons_append,
      List.append_assoc, hg _ (.head _) _ rfl]
    simp only [skipWs_cons (c := ',') rfl, if_true]
    rw [encodeStr_append k', skipWs_cons (c := '"') rfl, ← encodeStr_append,
      ih k' w n rest (by simp only [List.length_cons, List.length_append]; omega) (List.forall_mem_cons.1 hg).2
        (List.forall_mem_cons.1 hwf).2]

theorem parseObj_encode {k : List Char} {v : JVal} {l : List (List Char × JVal)}
    (hg : ∀ kv ∈ (k, v) :: l, Good pv kv.2) (hwf : ∀ kv ∈ (k, v) :: l, WF kv.2)
    (hnd : (((k, v) :: l).map (·.1)).Nodup) (rest : List Char) :
    parseObj pv (encodeStr k ++ ':' :: (encode v ++ (encodeMTail l ++ '}' :: rest))) = some (.obj ((k, v) :: l), rest) := by
  have key := parseMembers_encode l k v _ rest (Nat.le_refl _) hg hwf
  rw [encodeStr_append] at key ⊢
  rw [parseObj, skipWs_cons (c := '"') rfl]
  simp only [show ('"' : Char) ≠ '}' by decide, if_false, key, dictOf_nodup _ hnd]

end loops

theorem parseValue_num {l : List Char} {b : Bool} (h : scanNumber l = some (l, b, [])) (f : Nat) {rest : List Char}
    (hr : numStop rest = true) :
    parseValue (f + 1) (l ++ rest) = some (if b then .float l else .int (readInt l), rest) := by
  simp only [parseValue, (scanNumber_append h hr).2]

theorem parseValue_str (f : Nat) (r : List Char) : parseValue (f + 1) ('"' :: r) =
    match parseStrBody r.length r with
    | none => none
    | some (s, r') => some (.str s, r') := rfl

theorem parseValue_arr (f : Nat) (r : List Char) : parseValue (f + 1) ('[' :: r) = parseArr (parseValue f) r := rfl

theorem parseValue_obj (f : Nat) (r : List Char) : parseValue (f + 1) ('{' :: r) = parseObj (parseValue f) r := rfl

/-- By induction on the fuel, as `parseValue` recurses: one level of nesting is read by the equations of `parseValue`, the
elements by the induction hypothesis (their texts are shorter, so one unit less of fuel is enough for them). -/
theorem parseValue_encode : ∀ (fuel : Nat) (v : JVal), WF v → (encode v).length ≤ fuel → Good (parseValue fuel) v := by
  intro fuel
  induction fuel with
  | zero =>
    intro v h hf
    obtain ⟨c, tl, hc, _⟩ := encode_head v h
    rw [hc] at hf
    exact absurd hf (Nat.not_succ_le_zero _)
  | succ f ih =>
    intro v h hf rest hr
    cases h with
    | null => rfl
    | bool b => cases b <;> rfl
    | int i => rw [encode, parseValue_num (scanNumber_showInt i) f hr, readInt_showInt]; rfl
    | float l hl => rw [encode, parseValue_num (scanNumber_float hl) f hr]; rfl
    | str s => rw [encode, encodeStr_append, parseValue_str, parseStr_encodeStr]
    | arr l hwl =>
      cases l with
      | nil => rfl
      | cons v l =>
        have hg : ∀ w ∈ v :: l, Good (parseValue f) w := fun w hw =>
          ih w (hwl w hw) (Nat.le_of_lt_succ (Nat.lt_of_lt_of_le (encode_lt_arr hw) hf))
        rw [encode]
        simp only [List.cons_append, List.append_assoc, List.nil_append]
        rw [parseValue_arr, parseArr_encode hg hwl]
    | obj l hnd hwl =>
      cases l with
      | nil => rfl
      | cons kv l =>
        obtain ⟨k, v⟩ := kv
        have hg : ∀ kw ∈ (k, v) :: l, Good (parseValue f) kw.2 := fun w hw =>
          ih w.2 (hwl w hw) (Nat.le_of_lt_succ (Nat.lt_of_lt_of_le (encode_lt_obj hw) hf))
        rw [encode]
        simp only [List.cons_append, List.append_assoc, List.nil_append]
        rw [parseValue_obj, parseObj_encode hg hwl hnd]

theorem decode_encode (v : JVal) (h : WF v) : decode (encode v) = some v := by
  have := parseValue_encode _ v h (Nat.le_refl _) [] rfl
  rw [List.append_nil] at this
  rw [decode, ← List.append_nil (encode v), skipWs_encode v h, List.append_nil, this]
  rfl

theorem nstep_printable {s s' : NState} {c : Char} (h : nstep s c = some s') : Printable c := by
  have : ∀ x ∈ ['.', 'e', 'E', '+', '-'], Printable x := by decide
  rcases nstep_some h with hd | hm | ⟨_, hm⟩
  · exact isDigit_printable hd
  · exact this c (List.mem_append_left ['+', '-'] hm)
  · exact this c (List.mem_append_right ['.', 'e', 'E'] hm)

theorem scan_printable : ∀ (l : List Char) (s : NState), ∀ c ∈ (scan s l).1, Printable c := by
  intro l
  induction l with
  | nil => intro s c h; cases h
  | cons a r ih =>
    intro s c h
    simp only [scan] at h
    cases hn : nstep s a with
    | none => simp [hn] at h
    | some s' =>
      simp only [hn, List.mem_cons] at h
      rcases h with rfl | h
      · exact nstep_printable hn
      · exact ih s' c h

theorem scanNumber_printable {l tok : List Char} {b : Bool} {rest : List Char} (h : scanNumber l = some (tok, b, rest)) :
    ∀ c ∈ tok, Printable c := by
  cases l with
  | nil => cases h
  | cons a r =>
    simp only [scanNumber] at h
    split at h <;> split at h <;> cases h
    · exact List.forall_mem_cons.2 ⟨by decide, scan_printable _ _⟩
    · exact scan_printable _ _

theorem encodeTail_printable (l : List JVal) (h : ∀ v ∈ l, ∀ c ∈ encode v, Printable c) :
    ∀ c ∈ encodeTail l, Printable c := by
  induction l with
  | nil => exact List.forall_mem_nil _
  | cons v l ih =>
    have h := List.forall_mem_cons.1 h
    simp only [encodeTail, List.forall_mem_cons, List.forall_mem_append]
    exact ⟨by decide, h.1, ih h.2⟩

theorem encodeMTail_printable (l : List (List Char × JVal)) (h : ∀ kv ∈ l, ∀ c ∈ encode kv.2, Printable c) :
    ∀ c ∈ encodeMTail l, Printable c := by
  induction l with
  | nil => exact List.forall_mem_nil _
  | cons kv l ih =>
    have h := List.forall_mem_cons.1 h
    simp only [encodeMTail, List.forall_mem_cons, List.forall_mem_append]
    exact ⟨by decide, encodeStr_printable _, by decide, h.1, ih h.2⟩

theorem encode_printable_nat : ∀ (v : JVal), WF v → ∀ c ∈ encode v, Printable c := by
  intro v
  induction v using JVal.induction with
  | null => intro _; decide
  | bool b => intro _; cases b <;> decide
  | int i => intro _; exact showInt_printable i
  | float l => intro h; cases h with | float _ hl => exact scanNumber_printable (scanNumber_float hl)
  | str s => intro _; exact encodeStr_printable s
  | arr l ih =>
    intro h
    cases h with
    | arr _ hwl =>
      cases l with
      | nil => decide
      | cons v l =>
        have ih := List.forall_mem_cons.1 fun w hw => ih w hw (hwl w hw)
        rw [encode]
        simp only [List.forall_mem_cons, List.forall_mem_append]
        exact ⟨by decide, ih.1, encodeTail_printable l ih.2, by decide, List.forall_mem_nil _⟩
  | obj l ih =>
    intro h
    cases h with
    | obj _ _ hwl =>
      cases l with
      | nil => decide
      | cons kv l =>
        have ih := List.forall_mem_cons.1 fun w hw => ih w hw (hwl w hw)
        rw [encode]
        simp only [List.forall_mem_cons, List.forall_mem_append]
        exact ⟨by decide, encodeStr_printable _, by decide, ih.1, encodeMTail_printable l ih.2, by decide, List.forall_mem_nil _⟩

/-- `json.dumps` (`ensure_ascii=True`, compact separators) emits printable ASCII only -/
theorem encode_printable (v : JVal) (h : WF v) : ∀ c ∈ encode v, ' ' ≤ c ∧ c ≤ '~' :=
  fun c hc => (printable_iff c).2 (encode_printable_nat v h c hc)

theorem encode_single_line (v : JVal) (h : WF v) : '\n' ∉ encode v ∧ '\r' ∉ encode v :=
  ⟨fun hc => absurd (encode_printable_nat v h _ hc) (by decide), fun hc => absurd (encode_printable_nat v h _ hc) (by decide)⟩

theorem nodupKeys_iff (ks : List (List Char)) : nodupKeys ks = true ↔ ks.Nodup := by
  induction ks with
  | nil => simp [nodupKeys]
  | cons k ks ih => simp [nodupKeys, ih]

theorem wfList_iff (l : List JVal) : wfList l = true ↔ ∀ v ∈ l, wf v = true := by
  induction l with
  | nil => simp [wfList]
  | cons v l ih => simp [wfList, ih]

theorem wfMembers_iff (l : List (List Char × JVal)) : wfMembers l = true ↔ ∀ kv ∈ l, wf kv.2 = true := by
  induction l with
  | nil => simp [wfMembers]
  | cons kv l ih => obtain ⟨k, v⟩ := kv; simp [wfMembers, ih]

theorem wf_iff : ∀ (v : JVal), wf v = true ↔ WF v := by
  intro v
  induction v using JVal.induction with
  | null | bool _ | int _ | str _ => exact ⟨fun _ => by constructor, fun _ => rfl⟩
  | float l => exact ⟨.float l, fun h => by cases h; assumption⟩
  | arr l ih =>
    rw [wf, wfList_iff]
    constructor
    · intro h; exact .arr l (fun v hv => (ih v hv).1 (h v hv))
    · intro h; cases h with | arr _ hl => exact fun v hv => (ih v hv).2 (hl v hv)
  | obj l ih =>
    rw [wf, Bool.and_eq_true, nodupKeys_iff, wfMembers_iff]
    constructor
    · intro h; exact .obj l h.1 (fun v hv => (ih v hv).1 (h.2 v hv))
    · intro h; cases h with | obj _ hn hl => exact ⟨hn, fun v hv => (ih v hv).2 (hl v hv)⟩

instance (v : JVal) : Decidable (WF v) := decidable_of_iff _ (wf_iff v)

/-- `[{"k\"é":[-12,2.5e-07,"a\n\u0001😀\\\x7f",null,true],"":{}},[],0]` (as a Python value) -/
def sample : JVal :=
  .arr [.obj [(['k', '"', 'é'], .arr [.int (-12), .float "2.5e-07".toList, .str ['a', '\n', '\x01', '😀', '\\', '\x7f'], .null,
      .bool true]), ([], .obj [])], .arr [], .int 0]

example : WF sample := by decide +kernel
/- `"…".toList` of a literal is dear to evaluate (the literal is decoded from UTF-8); `String.toList_ofList` turns it into
the list of its characters without evaluation -/
example : encode sample =
    "[{\"k\\\"\\u00e9\":[-12,2.5e-07,\"a\\n\\u0001\\ud83d\\ude00\\\\\\u007f\",null,true],\"\":{}},[],0]".toList := by
  rw [String.toList_ofList]; decide +kernel
example : decode (encode sample) = some sample := by rfl
example : (decode " { \"a\" : 1 , \"b\" : [ 1.0 ] , \"a\" : \"\\u00E9\\/\" } ".toList).map encode =
    some "{\"a\":\"\\u00e9/\",\"b\":[1.0]}".toList := by
  rw [String.toList_ofList, String.toList_ofList]; decide +kernel
example : decode "[1,]".toList = none ∧ decode "01".toList = none ∧ decode "1.".toList = none ∧ decode "-".toList = none ∧
    decode "\"\\ud83d\"".toList = none ∧ decode "[1] x".toList = none := by
  decide +kernel
example : floatLexeme "1.5".toList = true ∧ floatLexeme "-0.0".toList = true ∧ floatLexeme "1e+16".toList = true ∧
    floatLexeme "1.2345e+20".toList = true ∧ floatLexeme "15".toList = false ∧ floatLexeme "01.5".toList = false ∧
    floatLexeme "1.".toList = false ∧ floatLexeme ".5".toList = false ∧ floatLexeme "1e".toList = false ∧
    floatLexeme "1.5 ".toList = false ∧ floatLexeme "nan".toList = false := by decide +kernel

end WindVerif.Json
