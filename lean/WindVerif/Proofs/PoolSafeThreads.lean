import WindVerif.Proofs.PoolSafeParts
/-!
The safety invariant is preserved by the steps of the workers, of the replace thread and of the feeder.
-/
namespace WindVerif.Pool
open List

macro "perm_solve" : tactic => `(tactic| (
  rw [List.perm_iff_count]; intro x
  simp only [List.count_append, List.count_cons, List.count_nil, Option.toList, chunksOf_cons_some, chunksOf_cons_none,
    chunksOf_append, chunksOf_nil]
  omega))

theorem safe_setWorkerG {s : St} (h : SafeInv s) {wid : Nat} {w w' : Worker} (hg : getWorker s wid = some w)
    (hw' : w'.wid = w.wid) {wq' rq' pq' : List (Option Nat)} {lk' : Option Tid} {rpc' : RPc}
    (hp : (chunksOf wq' ++ w'.held.toList ++ chunksOf rq').Perm (chunksOf s.workQ ++ w.held.toList ++ chunksOf s.resQ))
    (hH : HeldOk w') (hns : ∀ nw, rpc' = .start nw → s.rpc = .start nw ∧ w.pc ≠ .notStarted)
    (he : (csig s.cpc).en = true → rpc' = .idle) :
    SafeInv { (setWorker { s with workQ := wq', resQ := rq', replQ := pq', lock := lk' } w') with rpc := rpc' } := by
  rw [safe_iff] at h ⊢
  obtain ⟨hc, hd, ho, hw⟩ := h
  exact ⟨hc, data_perm hd (flight_update hw.wids hg (hw'.trans ((getWorker_some hg).2)) hp), ho,
    wrk_update hw hg hw' hH hns he⟩

theorem safe_setWorker {s : St} (h : SafeInv s) {wid : Nat} {w w' : Worker} (hg : getWorker s wid = some w)
    (hw' : w'.wid = w.wid) {wq' rq' pq' : List (Option Nat)} {lk' : Option Tid}
    (hp : (chunksOf wq' ++ w'.held.toList ++ chunksOf rq').Perm (chunksOf s.workQ ++ w.held.toList ++ chunksOf s.resQ))
    (hH : HeldOk w') (hns : w.pc ≠ .notStarted) :
    SafeInv (setWorker { s with workQ := wq', resQ := rq', replQ := pq', lock := lk' } w') :=
  safe_setWorkerG h hg hw' hp hH (fun _ hr => ⟨hr, hns⟩) ((safe_iff s).1 h).2.2.2.enterR

theorem heldOk_of_none {w : Worker} (h : w.held = none) : HeldOk w := by
  intro hh; simp [h] at hh

theorem held_none {w : Worker} (hH : HeldOk w)
    (hpc : ¬(w.pc = .lockAcq ∨ w.pc = .putNowait ∨ w.pc = .putBlock ∨ (w.pc = .lockRel ∧ w.full = true))) :
    w.held = none := by
  cases hh : w.held with
  | none => rfl
  | some i => exact absurd (hH (by rw [hh]; rfl)) hpc

theorem workerLoopTop_wid (f : Bool) (w : Worker) : (workerLoopTop f w).wid = w.wid := by
  unfold workerLoopTop workerEnding
  split <;> (try split) <;> rfl

theorem workerLoopTop_held (f : Bool) (w : Worker) (h : w.held = none) : (workerLoopTop f w).held = none := by
  unfold workerLoopTop workerEnding
  split <;> (try split) <;> simp [h]

theorem safe_stepW (s s' : St) (wid : Nat) (hf : NoFaults s.cfg) (h : SafeInv s) (hs : stepW s wid = some s') :
    SafeInv s' := by
  obtain ⟨w, hg, hW⟩ := stepW_cases' hs
  have hH := h.heldPc w (mem_of_find?_eq_some hg)
  have hns : ∀ {p : WPc}, w.pc = p → p ≠ .notStarted → w.pc ≠ .notStarted := fun e hp => e ▸ hp
  cases hW with
  | beginFault _ hb => rw [hf.1] at hb; cases hb
  | itemFault _ _ hi => rw [hf.2] at hi; cases hi
  | begin hpc =>
    have hnone := held_none hH (by simp [hpc])
    exact safe_setWorker h hg (by rfl) (by rfl) (by exact heldOk_of_none hnone) (hns hpc nofun)
  | bfSet hpc =>
    have hnone := held_none hH (by simp [hpc])
    have hl := workerLoopTop_held s.cfg.factory { w with bf := true } hnone
    exact safe_setWorker h hg (by exact workerLoopTop_wid _ _) (by rw [hl, hnone]) (by exact heldOk_of_none hl)
      (hns hpc nofun)
  | getStop hpc hq =>
    have hnone := held_none hH (by simp [hpc])
    exact safe_setWorker h hg (by rfl) (by rw [hq, hnone]; simp [workerEnding]) (heldOk_of_none rfl) (hns hpc nofun)
  | item hpc hq =>
    have hnone := held_none hH (by simp [hpc])
    exact safe_setWorker h hg (by rfl) (by rw [hq, hnone]; perm_solve) (fun _ => .inl rfl) (hns hpc nofun)
  | lockAcq hpc => exact safe_setWorker h hg (by rfl) (by rfl) (fun _ => .inr (.inl rfl)) (hns hpc nofun)
  | putFull hpc =>
    exact safe_setWorker h hg (by rfl) (by rfl) (fun _ => .inr (.inr (.inr ⟨rfl, rfl⟩))) (hns hpc nofun)
  | putNowait hpc hh =>
    exact safe_setWorker h hg (by rfl) (by rw [hh]; perm_solve) (heldOk_of_none rfl) (hns hpc nofun)
  | relFull hpc => exact safe_setWorker h hg (by rfl) (by rfl) (fun _ => .inr (.inr (.inl rfl))) (hns hpc nofun)
  | relDone hpc hfull =>
    have hnone := held_none hH (by simp [hpc, hfull])
    have hl := workerLoopTop_held s.cfg.factory { w with done := w.done + 1, quota := w.quota.map (· - 1) } hnone
    exact safe_setWorker h hg (by exact workerLoopTop_wid _ _) (by rw [hl, hnone]) (by exact heldOk_of_none hl)
      (hns hpc nofun)
  | putBlock hpc hh =>
    have hl := workerLoopTop_held s.cfg.factory
      { w with full := false, held := none, done := w.done + 1, quota := w.quota.map (· - 1) } rfl
    exact safe_setWorker h hg (by exact workerLoopTop_wid _ _) (by rw [hl, hh]; perm_solve) (by exact heldOk_of_none hl)
      (hns hpc nofun)
  | retire hpc =>
    exact safe_setWorker h hg (by rfl) (by rw [held_none hH (by simp [hpc])]; simp [workerEnding]) (heldOk_of_none rfl)
      (hns hpc nofun)
  | ending hpc =>
    exact safe_setWorker h hg (by rfl) (by rw [held_none hH (by simp [hpc])]; simp [workerExit]) (heldOk_of_none rfl)
      (hns hpc nofun)

theorem safe_stepR (s s' : St) (h : SafeInv s) (hs : stepR s = some s') : SafeInv s' := by
  obtain ⟨hc, hd, ho, hw⟩ := (safe_iff s).1 h
  have hen : s.rpc ≠ .idle → (csig s.cpc).en = true → False := fun hr he => hr (hw.enterR he)
  obtain ⟨_, ⟨r, hrpc, _, rfl⟩ | ⟨wid, r, hrpc, _, rfl⟩ | ⟨wid, hrpc, _, rfl⟩ | ⟨nw, w, hrpc, hg, rfl⟩⟩ := stepR_cases hs
  · -- get: the stop token
    rw [hrpc] at hw
    exact (safe_iff _).2 ⟨hc, hd, ho, wrk_rpc hw nofun fun _ => rfl⟩
  · -- get: a retired worker
    have hen := hen (by rw [hrpc]; nofun)
    rw [hrpc] at hw
    exact (safe_iff _).2 ⟨hc, hd, ho, wrk_rpc hw nofun fun he => (hen he).elim⟩
  · -- join: the successor is created
    rw [hrpc] at hw
    refine (safe_iff _).2 ⟨hc, data_perm hd ?_, ho, wrk_join hw⟩
    show (flightL s.workQ (s.workers ++ [mkWorker s.cfg s.widCounter]) s.resQ).Perm _
    unfold flightL
    rw [heldL_append]
    simp [heldL, mkWorker]
  · -- start
    have hen := hen (by rw [hrpc]; nofun)
    have hmem : w ∈ s.workers := mem_of_find?_eq_some hg
    have hns : w.pc = .notStarted := h.startFresh nw (by rw [hrpc]) w hmem ((getWorker_some hg).2)
    have hnone := held_none (h.heldPc w hmem) (by simp [hns])
    exact safe_setWorkerG h hg (by rfl) (by rfl) (by exact heldOk_of_none hnone) nofun fun he => (hen he).elim

theorem flight_workQ_none (wq : List (Option Nat)) (ws : List Worker) (rq : List (Option Nat)) :
    flightL (wq ++ [none]) ws rq = flightL wq ws rq := by simp [flightL]

theorem flight_resQ_none (wq : List (Option Nat)) (ws : List Worker) (rq : List (Option Nat)) :
    flightL wq ws (rq ++ [none]) = flightL wq ws rq := by simp [flightL]

theorem sentV_run {pre : Bool} {cur : Option Call} {fpc : FPc} {fNext fTotal : Nat} (hp : pre = false)
    (hc : cur.isSome = true) :
    sentV pre cur fpc fNext fTotal =
      match fpc with
      | .put => fNext
      | .rdCnt | .wrCnt | .stopIsSet | .runWait => fNext + 1
      | .wrSending | .token | .idle => fTotal := by
  subst hp
  cases cur with
  | none => exact absurd hc (by decide)
  | some c => rfl

theorem sentV_of_not_sending {g : CSig} {cur : Option Call} {fpc : FPc} {sending : Bool}
    {dataCnt fNext fTotal fRead : Nat} {fAlive fStop : Bool} {finished : Nat}
    (hc : CtlV g cur fpc sending dataCnt fNext fTotal fRead fAlive fStop finished) (hs : sending = false)
    (hpre : g.pre = false) (hcur : cur.isSome = true) :
    sentV g.pre cur fpc fNext fTotal = fTotal ∧ dataCnt = fTotal := by
  subst hs
  rw [sentV_run hpre hcur]
  obtain ⟨h | h, hd⟩ := (hc.feed hpre hcur).of_not_sending <;> subst h <;> exact ⟨rfl, hd⟩

theorem safe_stepF (s s' : St) (h : SafeInv s) (hs : stepF s = some s') : SafeInv s' := by
  obtain ⟨hc, hd, ho, hw⟩ := (safe_iff s).1 h
  obtain ⟨hal, hF⟩ := stepF_cases hs
  have hne := hF.fpc_ne_idle
  obtain ⟨hpre, hcur⟩ := ctl_running hc hne
  have hrow := hc.feed hpre hcur
  -- the stop flag goes up only after the feeder has cleared `_sending_work`
  have hloop : ∀ {P : Prop}, s.fpc ≠ .token → s.fStop = true → P := fun ht q => ((hc.stopF q).elim ht hne).elim
  cases hF with
  | tokenFull hf =>
    rw [hf] at hrow hd
    exact (safe_iff _).2 ⟨ctl_feeder hc hne hrow rfl (fun _ => Or.inr rfl) id, hd, ho, hw⟩
  | token hf =>
    rw [hf] at hrow hd
    refine (safe_iff _).2 ⟨ctl_feeder hc hne hrow rfl (fun _ => Or.inr rfl) id, ?_, ho, hw⟩
    show DataV _ _ _ (flightL s.workQ s.workers (s.resQ ++ [none])) _ _ _ _ _
    rw [flight_resQ_none]
    exact hd
  | put hf =>
    rw [hf] at hrow hd
    refine (safe_iff _).2 ⟨ctl_feeder hc hne hrow hal (hloop (by rw [hf]; nofun)) id, ?_, ho, hw⟩
    show DataV _ _ (sentV _ _ .rdCnt _ _) (flightL (s.workQ ++ [some s.fNext]) s.workers s.resQ) _ _ _ _ _
    rw [sentV_run hpre hcur] at hd ⊢
    refine data_put hd hcur ?_
    unfold flightL
    perm_solve
  | rdCnt hf =>
    rw [hf] at hrow hd
    obtain ⟨a, b, c⟩ := hrow
    exact (safe_iff _).2 ⟨ctl_feeder hc hne ⟨a, b, b, c⟩ hal (hloop (by rw [hf]; nofun)) id, hd, ho, hw⟩
  | wrCnt hf =>
    rw [hf] at hrow hd
    obtain ⟨a, -, c, d⟩ := hrow
    exact (safe_iff _).2 ⟨ctl_feeder hc hne ⟨a, congrArg (· + 1) c, d⟩ hal (hloop (by rw [hf]; nofun)) id, hd, ho, hw⟩
  | stopped hf hst => exact hloop (by rw [hf]; nofun) hst
  | notStopped hf =>
    rw [hf] at hrow hd
    exact (safe_iff _).2 ⟨ctl_feeder hc hne hrow hal (hloop (by rw [hf]; nofun)) id, hd, ho, hw⟩
  | next hf _ hlt =>
    rw [hf] at hrow hd
    obtain ⟨a, b, c⟩ := hrow
    exact (safe_iff _).2 ⟨ctl_feeder hc hne ⟨a, b, hlt⟩ hal (hloop (by rw [hf]; nofun)) id, hd, ho, hw⟩
  | last hf _ hlt =>
    rw [hf] at hrow hd
    obtain ⟨a, b, c⟩ := hrow
    have hcnt : s.dataCnt = s.fTotal := by omega
    exact (safe_iff _).2 ⟨ctl_feeder hc hne ⟨a, hcnt⟩ hal (hloop (by rw [hf]; nofun)) id,
      data_n hd fun _ => by rw [sentV_run hpre hcur, sentV_run hpre hcur]; show s.fTotal = s.fNext + 1; omega,
      ho, hw⟩
  | wrSending hf =>
    rw [hf] at hrow hd
    exact (safe_iff _).2 ⟨ctl_feeder hc hne ⟨rfl, hrow.2⟩ hal (fun _ => Or.inl rfl) fun _ => rfl, hd, ho, hw⟩

end WindVerif.Pool
