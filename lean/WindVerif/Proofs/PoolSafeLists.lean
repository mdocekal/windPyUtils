import WindVerif.Proofs.PoolSafeValues
/-!
List lemmas about the observables of the pool: `chunksOf`, held chunks under the update of one worker, the reorder buffer
and `consumeBatch`, `curOutL`.
-/
namespace WindVerif.Pool
open List

@[simp] theorem chunksOf_nil : chunksOf [] = [] := rfl
@[simp] theorem chunksOf_cons_some (i : Nat) (q : List (Option Nat)) : chunksOf (some i :: q) = i :: chunksOf q := by
  simp [chunksOf]
@[simp] theorem chunksOf_cons_none (q : List (Option Nat)) : chunksOf (none :: q) = chunksOf q := by
  simp [chunksOf]
@[simp] theorem chunksOf_append (a b : List (Option Nat)) : chunksOf (a ++ b) = chunksOf a ++ chunksOf b := by
  simp [chunksOf]

theorem heldL_cons (x : Worker) (xs : List Worker) : heldL (x :: xs) = x.held.toList ++ heldL xs := by
  unfold heldL
  rw [filterMap_cons]
  cases x.held <;> simp

theorem map_upd_of_not_mem (xs : List Worker) (w' : Worker) (h : ∀ y ∈ xs, y.wid ≠ w'.wid) :
    xs.map (fun x => if x.wid = w'.wid then w' else x) = xs := by
  induction xs with
  | nil => rfl
  | cons y ys ih =>
    have h1 : y.wid ≠ w'.wid := h y (by simp)
    simp only [map_cons, h1, if_false]
    rw [ih (fun z hz => h z (by simp [hz]))]

theorem heldL_update (ws : List Worker) (wid : Nat) (w w' : Worker) (hnd : (ws.map (·.wid)).Nodup)
    (hf : ws.find? (fun x => decide (x.wid = wid)) = some w) (hw' : w'.wid = wid) :
    ∃ rest, (heldL ws).Perm (w.held.toList ++ rest) ∧
      (heldL (ws.map (fun x => if x.wid = w'.wid then w' else x))).Perm (w'.held.toList ++ rest) := by
  induction ws with
  | nil => simp at hf
  | cons x xs ih =>
    rw [map_cons, nodup_cons] at hnd
    by_cases hx : x.wid = wid
    · have hxw : x = w := by simpa [find?_cons, hx] using hf
      subst hxw
      refine ⟨heldL xs, ?_, ?_⟩
      · rw [heldL_cons]
      · have hne : ∀ y ∈ xs, y.wid ≠ w'.wid := by
          intro y hy heq
          apply hnd.1
          rw [hx, ← hw', ← heq]
          exact mem_map_of_mem hy
        rw [map_cons, map_upd_of_not_mem xs w' hne, heldL_cons]
        simp [hx, hw']
    · have hf' : xs.find? (fun x => decide (x.wid = wid)) = some w := by simpa [find?_cons, hx] using hf
      obtain ⟨rest, h1, h2⟩ := ih hnd.2 hf'
      refine ⟨x.held.toList ++ rest, ?_, ?_⟩
      · rw [heldL_cons]
        exact (Perm.append_left _ h1).trans (by
          rw [← append_assoc, ← append_assoc]
          exact Perm.append_right _ perm_append_comm)
      · have hx' : x.wid ≠ w'.wid := by rw [hw']; exact hx
        rw [map_cons, heldL_cons]
        simp only [hx', if_false]
        exact (Perm.append_left _ h2).trans (by
          rw [← append_assoc, ← append_assoc]
          exact Perm.append_right _ perm_append_comm)

theorem heldL_append (a b : List Worker) : heldL (a ++ b) = heldL a ++ heldL b := by
  simp [heldL]

theorem held_none_of_heldL_nil (ws : List Worker) (h : heldL ws = []) (w : Worker) (hw : w ∈ ws) : w.held = none := by
  unfold heldL at h
  rw [filterMap_eq_nil_iff] at h
  exact h w hw

theorem drainBuffer_spec (fuel : Nat) : ∀ (buf : List Nat) (wf : Nat) (acc : List Nat),
    ∃ buf' k, drainBuffer fuel buf wf acc = (buf', wf + k, acc ++ List.range' wf k) ∧
      buf.Perm (List.range' wf k ++ buf') := by
  induction fuel with
  | zero => intro buf wf acc; exact ⟨buf, 0, by simp [drainBuffer], by simp⟩
  | succ fuel ih =>
    intro buf wf acc
    unfold drainBuffer
    by_cases hc : buf.contains wf = true
    · obtain ⟨buf', k, h1, h2⟩ := ih (buf.erase wf) (wf + 1) (acc ++ [wf])
      refine ⟨buf', k + 1, ?_, ?_⟩
      · rw [if_pos hc, h1, range'_succ]
        simp [Nat.add_assoc, Nat.add_comm 1 k]
      · have hm : wf ∈ buf := by simpa using hc
        rw [range'_succ]
        exact (perm_cons_erase hm).trans (Perm.cons _ h2)
    · exact ⟨buf, 0, by rw [if_neg hc]; simp, by simp⟩

theorem go_spec (s : St) : ∀ (b buf : List Nat) (wf fin : Nat) (out : List (Nat × Nat)),
    ∃ buf' k, consumeBatch.go s b buf wf fin out =
        (buf', wf + k, fin + k, out ++ (List.range' wf k).map (fun j => (s.callNo, j))) ∧
      (b ++ buf).Perm (List.range' wf k ++ buf') := by
  intro b
  induction b with
  | nil => intro buf wf fin out; exact ⟨buf, 0, by simp [consumeBatch.go], by simp⟩
  | cons i r ih =>
    intro buf wf fin out
    obtain ⟨buf1, k1, h1, p1⟩ := drainBuffer_spec ((i :: buf).length + 1) (i :: buf) wf []
    obtain ⟨buf', k2, h2, p2⟩ := ih buf1 (wf + k1) (fin + (List.range' wf k1).length)
      (out ++ (List.range' wf k1).map (fun j => (s.callNo, j)))
    refine ⟨buf', k1 + k2, ?_, ?_⟩
    · unfold consumeBatch.go
      simp only [length_cons] at h1
      simp only [h1, nil_append]
      rw [h2]
      simp only [length_range', Nat.add_assoc, append_assoc, ← map_append]
      rw [show List.range' wf k1 ++ List.range' (wf + k1) k2 = List.range' wf (k1 + k2) from by simp]
    · rw [show List.range' wf (k1 + k2) = List.range' wf k1 ++ List.range' (wf + k1) k2 by simp]
      rw [perm_iff_count] at p1 p2 ⊢
      intro x
      have q1 := p1 x
      have q2 := p2 x
      simp only [count_append, count_cons] at q1 q2 ⊢
      omega

theorem consumeBatch_spec (s : St) (call : Call) (hc : s.cur = some call) :
    ∃ buf' wf' em, consumeBatch s =
        { s with buffer := buf', wf := wf', finished := s.finished + em.length,
                 out := s.out ++ em.map (fun j => (s.callNo, j)), batch := [], woken := false } ∧
      (s.batch ++ s.buffer).Perm (em ++ buf') ∧
      (call.ordered = true → ∃ k, wf' = s.wf + k ∧ em = List.range' s.wf k) ∧
      (call.ordered = false → buf' = s.buffer ∧ wf' = s.wf ∧ em = s.batch) := by
  by_cases ho : call.ordered = true
  · obtain ⟨buf', k, h1, p1⟩ := go_spec s s.batch s.buffer s.wf s.finished s.out
    refine ⟨buf', s.wf + k, List.range' s.wf k, ?_, p1, fun _ => ⟨k, rfl, rfl⟩, fun h => by simp [ho] at h⟩
    unfold consumeBatch
    simp only [hc, ho, if_true, h1, length_range']
  · refine ⟨s.buffer, s.wf, s.batch, ?_, Perm.refl _, fun h => absurd h ho, fun _ => ⟨rfl, rfl, rfl⟩⟩
    unfold consumeBatch
    simp only [hc, ho]
    rfl

theorem curOutL_append (a b : List (Nat × Nat)) (k : Nat) : curOutL (a ++ b) k = curOutL a k ++ curOutL b k := by
  simp [curOutL]

theorem curOutL_map_same (l : List Nat) (k : Nat) : curOutL (l.map (fun j => (k, j))) k = l := by
  induction l with
  | nil => rfl
  | cons x xs ih => simp_all [curOutL]

theorem curOutL_map_ne (l : List Nat) (k k' : Nat) (h : k ≠ k') : curOutL (l.map (fun j => (k, j))) k' = [] := by
  induction l with
  | nil => rfl
  | cons x xs ih => simp_all [curOutL]

theorem curOutL_of_lt (out : List (Nat × Nat)) (k k' : Nat) (h : OutLe out k) (hk : k < k') : curOutL out k' = [] := by
  unfold curOutL
  rw [map_eq_nil_iff, filter_eq_nil_iff]
  intro p hp
  have := h p hp
  simp only [beq_iff_eq]
  omega

theorem OutLe_append_map (out : List (Nat × Nat)) (k : Nat) (l : List Nat) (h : OutLe out k) :
    OutLe (out ++ l.map (fun j => (k, j))) k := by
  intro p hp
  rw [mem_append] at hp
  rcases hp with hp | hp
  · exact h p hp
  · rw [mem_map] at hp
    obtain ⟨j, _, rfl⟩ := hp
    exact Nat.le_refl _

theorem OutLe_mono (out : List (Nat × Nat)) (k k' : Nat) (h : OutLe out k) (hk : k ≤ k') : OutLe out k' :=
  fun p hp => Nat.le_trans (h p hp) hk

end WindVerif.Pool
