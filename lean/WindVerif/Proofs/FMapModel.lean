import WindVerif.Proofs.FMapBasic
/-! What the transition functions of the model do, case by case: `receive`, the caller's step at each program counter,
the three moves of a worker. -/
namespace WindVerif.FMap

/-- case analysis on an equation whose left side is an `if`, without touching the branches -/
theorem of_ite_eq {α : Sort _} {c : Prop} [Decidable c] {a b x : α} {P : Prop} (h : (if c then a else b) = x)
    (ht : c → a = x → P) (he : ¬ c → b = x → P) : P := by
  split at h
  · exact ht ‹_› h
  · exact he ‹_› h

theorem receive_mulP {s : St} (hm : s.cfg.mulP = true) (i : Nat) :
    receive s i = { s with got := s.got ++ [i], finished := s.finished + 1 } := by
  simp only [receive, hm, if_true]

theorem receive_fmap {s : St} (hm : s.cfg.mulP = false) (i : Nat) :
    ∃ k buf, receive s i =
        { s with buffer := buf, wf := s.wf + k, finished := s.finished + k
                 out := s.out ++ (List.range' s.wf k).map (fun j => (s.callNo, j)) } ∧
      (i :: s.buffer).Perm (buf ++ List.range' s.wf k) ∧ s.wf + k ∉ buf := by
  obtain ⟨k, e1, e2, e3, e4⟩ := drainBuffer_spec (s.buffer.length + 2) (i :: s.buffer) s.wf []
  refine ⟨k, _, ?_, e3, e1 ▸ e4 (Nat.lt_succ_self _)⟩
  simp only [receive, hm, Bool.false_eq_true, if_false, e1, e2, List.nil_append, List.length_range']

theorem receive_frame (s : St) (i : Nat) :
    ∃ b wf f g o, receive s i = { s with buffer := b, wf := wf, finished := f, got := g, out := o } := by
  unfold receive
  split
  · exact ⟨_, _, _, _, _, rfl⟩
  · exact ⟨_, _, _, _, _, rfl⟩

theorem stepP_start {s : St} {i : Nat} (hp : s.ppc = .start i) : stepP s =
    match getWorker s (s.base + i) with
    | none => none
    | some w =>
      let s := setWorker s { w with pc := .get }
      if i + 1 < s.cfg.nWorkers then some { s with ppc := .start (i + 1) }
      else if s.cfg.mulP then (if s.total = 0 then some (afterFeeding s) else some { s with ppc := .put })
      else some (startCall s) := by
  unfold stepP; simp only [hp]; rfl

theorem stepP_put {s : St} (hp : s.ppc = .put) : stepP s =
    if s.workQ.length ≥ s.cfg.workCap then none
    else some { s with workQ := s.workQ ++ [some s.next], dataCnt := s.dataCnt + 1, ppc := .nowait } := by
  unfold stepP; simp only [hp]

theorem stepP_nowait_cons {s : St} {i : Nat} {r : List Nat} (hp : s.ppc = .nowait) (hq : s.resQ = i :: r) :
    stepP s = if s.cfg.exact ∧ ¬ s.cfg.mulP ∧
        (receive { s with resQ := r } i).finished = (receive { s with resQ := r } i).total
      then some (startCall (receive { s with resQ := r } i)) else some (receive { s with resQ := r } i) := by
  unfold stepP; simp only [hp, hq]

theorem stepP_nowait_nil {s : St} (hp : s.ppc = .nowait) (hq : s.resQ = []) :
    stepP s = if s.next + 1 < s.total then some { s with next := s.next + 1, ppc := .put }
      else some (afterFeeding { s with next := s.next + 1 }) := by
  unfold stepP; simp only [hp, hq]

theorem stepP_stopPut {s : St} {i : Nat} (hp : s.ppc = .stopPut i) :
    stepP s = if s.workQ.length ≥ s.cfg.workCap then none
      else if i + 1 < s.cfg.nWorkers then some { s with workQ := s.workQ ++ [none], ppc := .stopPut (i + 1) }
      else if s.cfg.mulP then some (finalOrNext { s with workQ := s.workQ ++ [none] })
      else some { s with workQ := s.workQ ++ [none], ppc := .join 0 } := by
  unfold stepP; simp only [hp]

theorem stepP_finalGet {s : St} (hp : s.ppc = .finalGet) : stepP s =
    match s.resQ with
    | [] => none
    | i :: r => some (finalOrNext (receive { s with resQ := r } i)) := by
  unfold stepP; simp only [hp]; rfl

theorem stepP_join {s : St} {i : Nat} (hp : s.ppc = .join i) : stepP s =
    if exitedW s (s.base + i) then
      (if i + 1 < s.cfg.nWorkers then some { s with ppc := .join (i + 1) }
       else if s.cfg.mulP then some (startCall s) else some { s with ppc := .done })
    else none := by
  unfold stepP; simp only [hp]

theorem stepP_done {s : St} (hp : s.ppc = .done) : stepP s = none := by
  unfold stepP; simp only [hp]


theorem stepW_elim {motive : St → Prop} {s s' : St} {wid : Nat}
    (hwids : s.workers.map (·.wid) = List.range s.workers.length) (hs : stepW s wid = some s')
    (exit : ∀ l1 l2 w q, s.workers = l1 ++ w :: l2 → w.pc = .get → s.workQ = none :: q →
      motive { s with workQ := q, workers := l1 ++ { w with pc := .exited } :: l2 })
    (take : ∀ l1 l2 w c q, s.workers = l1 ++ w :: l2 → w.pc = .get → s.workQ = some c :: q →
      motive { s with workQ := q, workers := l1 ++ { w with pc := .put, held := some c } :: l2 })
    (put : ∀ l1 l2 w c, s.workers = l1 ++ w :: l2 → w.pc = .put → w.held = some c →
      motive { s with resQ := s.resQ ++ [c], workers := l1 ++ { w with pc := .get, held := none } :: l2 }) :
    motive s' := by
  unfold stepW at hs
  split at hs
  · cases hs
  · rename_i w hg
    obtain ⟨l1, l2, hws, hwid, hset⟩ := workers_decomp hwids hg
    split at hs
    · cases hs
    · cases hs
    · rename_i hpc
      split at hs
      · cases hs
      · rename_i q hq
        cases hs
        rw [hset { s with workQ := q } { w with pc := .exited } rfl hwid]
        exact exit l1 l2 w q hws hpc hq
      · rename_i c q hq
        cases hs
        rw [hset { s with workQ := q } { w with pc := .put, held := some c } rfl hwid]
        exact take l1 l2 w c q hws hpc hq
    · rename_i hpc
      split at hs
      · cases hs
      · rename_i c hc
        cases hs
        rw [hset { s with resQ := s.resQ ++ [c] } { w with pc := .get, held := none } rfl hwid]
        exact put l1 l2 w c hws hpc hc

end WindVerif.FMap
