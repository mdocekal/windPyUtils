import WindVerif.Model.GenericK
/-!
`sorted_combinations` with an ARBITRARY key (C17).  Every queue entry stands for a subtree of combinations (`tree`); one
turn of the loop takes the root of a minimal subtree out and puts the subtrees of its children in, so the combinations still
to come (`pending`) lose exactly the one that is yielded.  Completeness needs nothing of the key, the key order needs
exactly `KeyMono` (the key never decreases when an element is appended).
-/
namespace WindVerif.Generic

/-- all index-ordered sub-tuples of a list (the empty one included) -/
def subsets : List Nat → List (List Nat)
  | [] => [[]]
  | x :: r => subsets r ++ (subsets r).map (x :: ·)

/-- every non-empty combination of the element indices `0..n-1`, each as an index-ordered tuple -/
def allCombos (n : Nat) : List (List Nat) := (subsets (List.range n)).filter (fun c => c ≠ [])

theorem popMin_none {val : Nat → Nat} {q : List Entry} (h : popMin val q = none) : q = [] := by
  cases q with
  | nil => rfl
  | cons e r =>
    simp only [popMin] at h
    split at h
    · simp at h
    · split at h <;> simp at h

theorem lt_of_key_lt {val : Nat → Nat} {a b : Entry} (h : a.key < b.key) : a.lt val b = true := by
  simp [Entry.lt, h]

theorem key_le_of_lt {val : Nat → Nat} {a b : Entry} (h : a.lt val b = true) : a.key ≤ b.key := by
  simp only [Entry.lt, Bool.or_eq_true, Bool.and_eq_true, decide_eq_true_eq, beq_iff_eq] at h
  omega

/-- `heappop` takes one entry out, and none of the others has a smaller key (all that is used of the tuple order) -/
theorem popMin_spec {val : Nat → Nat} {q : List Entry} {m : Entry} {q' : List Entry} (h : popMin val q = some (m, q')) :
    q.Perm (m :: q') ∧ ∀ e ∈ q, m.key ≤ e.key := by
  induction q generalizing m q' with
  | nil => simp [popMin] at h
  | cons e r ih =>
    simp only [popMin] at h
    split at h
    · rename_i hn
      obtain ⟨rfl, rfl⟩ : e = m ∧ [] = q' := by simpa using h
      simp [popMin_none hn]
    · rename_i m' r' hs
      obtain ⟨hperm, hmin⟩ := ih hs
      split at h
      · rename_i hlt
        obtain ⟨rfl, rfl⟩ : e = m ∧ r = q' := by simpa using h
        exact ⟨.refl _, List.forall_mem_cons.2
          ⟨Nat.le_refl _, fun x hx => Nat.le_trans (key_le_of_lt hlt) (hmin x hx)⟩⟩
      · rename_i hlt
        obtain ⟨rfl, rfl⟩ : m' = m ∧ e :: r' = q' := by simpa using h
        exact ⟨(hperm.cons e).trans (.swap _ _ _), List.forall_mem_cons.2
          ⟨Nat.le_of_not_lt fun hk => hlt (lt_of_key_lt hk), hmin⟩⟩

theorem subsets_length (l : List Nat) : (subsets l).length = 2 ^ l.length := by
  induction l with
  | nil => rfl
  | cons x r ih => simp [subsets, ih, Nat.pow_succ]; omega

theorem nil_mem_subsets (l : List Nat) : [] ∈ subsets l := by
  induction l with
  | nil => simp [subsets]
  | cons x r ih => simp [subsets, ih]

theorem mem_of_mem_subsets {l c : List Nat} (h : c ∈ subsets l) : ∀ a ∈ c, a ∈ l := by
  induction l generalizing c with
  | nil => simp [subsets] at h; subst h; simp
  | cons x r ih =>
    simp only [subsets, List.mem_append, List.mem_map] at h
    rcases h with h | ⟨c', h, rfl⟩
    · intro a ha; exact List.mem_cons_of_mem _ (ih h a ha)
    · exact List.forall_mem_cons.2 ⟨List.mem_cons_self, fun a ha => List.mem_cons_of_mem _ (ih h a ha)⟩

theorem subsets_nodup {l : List Nat} (h : l.Nodup) : (subsets l).Nodup := by
  induction l with
  | nil => simp [subsets]
  | cons x r ih =>
    have hx : x ∉ r := (List.nodup_cons.1 h).1
    have hr := ih (List.nodup_cons.1 h).2
    simp only [subsets]
    rw [List.nodup_append]
    refine ⟨hr, ?_, ?_⟩
    · exact List.Pairwise.map (x :: ·) (fun a b hab h => hab (by simpa using h)) hr
    · intro a ha b hb hab
      subst hab
      simp only [List.mem_map] at hb
      obtain ⟨c', _, rfl⟩ := hb
      exact hx (mem_of_mem_subsets ha x List.mem_cons_self)

theorem allCombos_nodup (n : Nat) : (allCombos n).Nodup :=
  (subsets_nodup List.nodup_range).filter _

theorem allCombos_length_le (n : Nat) : (allCombos n).length ≤ 2 ^ n := by
  have := List.length_filter_le (fun c => decide (c ≠ [])) (subsets (List.range n))
  simpa [allCombos, subsets_length] using this

/-- all combinations that the loop will eventually produce from entry `e`: `e.comb` extended by larger indices -/
def tree (n : Nat) (e : Entry) : List (List Nat) :=
  (subsets (List.range' (e.idx + 1) (n - (e.idx + 1)))).map (e.comb ++ ·)

def children (key : List Nat → Nat) (n : Nat) (e : Entry) : List Entry :=
  (List.range' (e.idx + 1) (n - (e.idx + 1))).map
    (fun i => { key := key (e.comb ++ [i]), comb := e.comb ++ [i], idx := i : Entry })

def initQueue (key : List Nat → Nat) (n : Nat) : List Entry :=
  (List.range n).map (fun i => { key := key [i], comb := [i], idx := i : Entry })

def pending (n : Nat) (q : List Entry) : List (List Nat) := q.flatMap (tree n)

theorem tree_length_pos (n : Nat) (e : Entry) : 0 < (tree n e).length := by
  simp [tree, subsets_length, Nat.pow_pos]

/-- the extensions of `c` by indices from `s` up to `n`: `c` itself, and for every `i` the extensions of `c ++ [i]` by
indices above `i` -/
theorem subsets_range'_perm (n : Nat) (c : List Nat) : ∀ (k s : Nat), k = n - s →
    ((subsets (List.range' s k)).map (c ++ ·)).Perm
      (c :: (List.range' s k).flatMap (fun i => (subsets (List.range' (i + 1) (n - (i + 1)))).map ((c ++ [i]) ++ ·)))
  | 0, s, _ => by simp [subsets]
  | k + 1, s, h => by
    have ih := subsets_range'_perm n c k (s + 1) (by omega)
    have hk : n - (s + 1) = k := by omega
    have hs : ((fun x => c ++ x) ∘ fun x => s :: x) = fun x => c ++ [s] ++ x := by funext x; simp
    simp only [List.range'_succ, subsets, List.map_append, List.map_map, List.flatMap_cons, hk, hs]
    exact (ih.append_right _).trans (.cons _ List.perm_append_comm)

theorem tree_perm (key : List Nat → Nat) (n : Nat) (e : Entry) :
    (tree n e).Perm (e.comb :: pending n (children key n e)) := by
  have h := subsets_range'_perm n e.comb _ (e.idx + 1) rfl
  simpa only [pending, children, List.flatMap_map, tree] using h

theorem pending_init (key : List Nat → Nat) (n : Nat) : (pending n (initQueue key n)).Perm (allCombos n) := by
  have h := (subsets_range'_perm n [] n 0 rfl).filter (fun c => c ≠ [])
  simp only [List.nil_append, List.map_id', ← List.range_eq_range'] at h
  refine (List.Perm.of_eq ?_).trans h.symm
  rw [List.filter_cons_of_neg (by simp), List.filter_eq_self.2]
  · simp only [pending, initQueue, List.flatMap_map, tree]
  · intro c hc
    simp only [List.mem_flatMap, List.mem_map] at hc
    obtain ⟨i, _, c', _, rfl⟩ := hc
    simp

theorem pending_pop {val : Nat → Nat} (key : List Nat → Nat) (n : Nat) {q q' : List Entry} {e : Entry}
    (h : popMin val q = some (e, q')) :
    (pending n q).Perm (e.comb :: pending n (q' ++ children key n e)) := by
  have h1 : (pending n q).Perm (pending n (e :: q')) := (popMin_spec h).1.flatMap_right _
  simp only [pending, List.flatMap_cons, List.flatMap_append] at h1 ⊢
  exact h1.trans (((tree_perm key n e).append_right _).trans (.cons _ List.perm_append_comm))

theorem combosLoopK_succ (val : Nat → Nat) (key : List Nat → Nat) (n fuel : Nat) (q : List Entry) :
    combosLoopK val key n (fuel + 1) q =
      match popMin val q with
      | none => []
      | some (e, q') => (e.comb, e.key) :: combosLoopK val key n fuel (q' ++ children key n e) := rfl

theorem combosLoopK_complete (val : Nat → Nat) (key : List Nat → Nat) (n : Nat) :
    ∀ (fuel : Nat) (q : List Entry), (pending n q).length ≤ fuel →
      ((combosLoopK val key n fuel q).map (·.1)).Perm (pending n q)
  | 0, q, hq => by simp [combosLoopK, List.eq_nil_of_length_eq_zero (Nat.le_zero.1 hq)]
  | fuel + 1, q, hq => by
    rw [combosLoopK_succ]
    split
    · rename_i hn
      simp [popMin_none hn, pending]
    · rename_i e q' hs
      have hp := pending_pop key n hs
      have hl := hp.length_eq
      rw [List.length_cons] at hl
      exact ((combosLoopK_complete val key n fuel _ (by omega)).cons _).trans hp.symm

theorem combosLoopK_keys (val : Nat → Nat) (key : List Nat → Nat) (n : Nat) :
    ∀ (fuel : Nat) (q : List Entry), (∀ e ∈ q, e.key = key e.comb) →
      ∀ p ∈ combosLoopK val key n fuel q, p.2 = key p.1
  | 0, q, _, p, hp => by simp [combosLoopK] at hp
  | fuel + 1, q, hq, p, hp => by
    rw [combosLoopK_succ] at hp
    split at hp
    · simp at hp
    · rename_i e q' hs
      have hq' := (List.forall_mem_cons (p := fun e => e.key = key e.comb)).1
        fun x hx => hq x ((popMin_spec hs).1.mem_iff.2 hx)
      rcases List.mem_cons.1 hp with rfl | hp
      · exact hq'.1
      · refine combosLoopK_keys val key n fuel _ (fun x hx => ?_) p hp
        rcases List.mem_append.1 hx with hx | hx
        · exact hq'.2 x hx
        · obtain ⟨i, _, rfl⟩ := List.mem_map.1 hx
          rfl

/-- the invariant of the key order: everything in the queue has its own key and lies above the bound; a popped entry is
minimal, and (`KeyMono`) its children lie above it -/
theorem combosLoopK_sorted (val : Nat → Nat) (key : List Nat → Nat) (hmono : KeyMono key) (n : Nat) :
    ∀ (fuel : Nat) (q : List Entry) (lb : Nat), (∀ e ∈ q, lb ≤ e.key ∧ e.key = key e.comb) →
      ((combosLoopK val key n fuel q).map (·.2)).Pairwise (· ≤ ·) ∧
        ∀ p ∈ combosLoopK val key n fuel q, lb ≤ p.2
  | 0, q, lb, _ => by simp [combosLoopK]
  | fuel + 1, q, lb, hq => by
    rw [combosLoopK_succ]
    split
    · simp
    · rename_i e q' hs
      obtain ⟨hperm, hmin⟩ := popMin_spec hs
      have he := hq e (hperm.mem_iff.2 List.mem_cons_self)
      obtain ⟨h1, h2⟩ := combosLoopK_sorted val key hmono n fuel (q' ++ children key n e) e.key (by
        intro x hx
        rcases List.mem_append.1 hx with hx | hx
        · have hxq : x ∈ q := hperm.mem_iff.2 (List.mem_cons_of_mem _ hx)
          exact ⟨hmin x hxq, (hq x hxq).2⟩
        · obtain ⟨i, _, rfl⟩ := List.mem_map.1 hx
          exact ⟨he.2 ▸ hmono e.comb i, rfl⟩)
      refine ⟨?_, List.forall_mem_cons.2 ⟨he.1, fun p hp => Nat.le_trans he.1 (h2 p hp)⟩⟩
      rw [List.map_cons, List.pairwise_cons]
      exact ⟨fun k hk => by obtain ⟨p, hp, rfl⟩ := List.mem_map.1 hk; exact h2 p hp, h1⟩

theorem initQueue_keys (key : List Nat → Nat) (n : Nat) : ∀ e ∈ initQueue key n, e.key = key e.comb := by
  intro e he
  obtain ⟨i, _, rfl⟩ := List.mem_map.1 he
  rfl

/-- every non-empty index combination exactly once — for ANY key (monotone or not) and any element values -/
theorem combosK_complete (val : Nat → Nat) (key : List Nat → Nat) (n : Nat) :
    ((sortedCombinationsK val key n).map (·.1)).Perm (allCombos n) := by
  have hinit := pending_init key n
  exact (combosLoopK_complete val key n (2 ^ n) (initQueue key n)
    (by rw [hinit.length_eq]; exact allCombos_length_le _)).trans hinit

/-- the key yielded alongside is the key of the combination -/
theorem combosK_keys (val : Nat → Nat) (key : List Nat → Nat) (n : Nat) (p : List Nat × Nat)
    (hp : p ∈ sortedCombinationsK val key n) : p.2 = key p.1 :=
  combosLoopK_keys val key n _ _ (initQueue_keys key n) p hp

/-- in non-decreasing key order, for every key that never decreases when an element is appended -/
theorem combosK_sorted (val : Nat → Nat) (key : List Nat → Nat) (n : Nat) (h : KeyMono key) :
    ((sortedCombinationsK val key n).map (·.2)).Pairwise (· ≤ ·) :=
  (combosLoopK_sorted val key h n _ _ 0 (fun e he => ⟨Nat.zero_le _, initQueue_keys key n e he⟩)).1

/-- the hypothesis is needed: `key = lambda c: 3 - len(c)` decreases under appending, and on two elements the keys come out
as 2, 1, 2 -/
theorem combosK_needs_mono :
    ∃ (key : List Nat → Nat) (n : Nat), ¬ KeyMono key ∧
      ¬ ((sortedCombinationsK (fun i => i) key n).map (·.2)).Pairwise (· ≤ ·) :=
  ⟨fun c => 3 - c.length, 2, fun h => absurd (h [0] 1) (by decide), by decide⟩

end WindVerif.Generic
