import WindVerif.Model.TmpPoolCtx
import WindVerif.Proofs.TmpPool
/-! Theorems about `TmpPool` histories that enter and leave the context (`Model/TmpPoolCtx.lean`, C20 / D21). -/
namespace WindVerif.TmpPoolCtx
open WindVerif.TmpPool

theorem rebindOwner_listOf_zero {s : Pool} (h : 0 < s.refs.length) (l : List Path) :
    (rebindOwner s l).listOf 0 = some l := by
  simp [rebindOwner, Pool.listOf, List.getElem?_set_self h]

theorem refs_pos_of_listOf {s : Pool} {l : List Path} (h : s.listOf 0 = some l) : 0 < s.refs.length := by
  unfold Pool.listOf at h
  cases hr : s.refs with
  | nil => simp [hr] at h
  | cons a t => simp

theorem enter_listing (mp : Bool) (s : Pool) (l : List Path) (h : s.listOf 0 = some l) :
    (enter mp s).listOf 0 = some l ∧ (enter mp s).fs = s.fs := by
  cases mp with
  | false => exact ⟨h, rfl⟩
  | true =>
    simp only [enter, if_true, h]
    exact ⟨rebindOwner_listOf_zero (refs_pos_of_listOf h) l, rfl⟩

theorem enterFresh_listing (s : Pool) (l : List Path) (h : s.listOf 0 = some l) :
    (enterFresh true s).listOf 0 = some [] ∧ (enterFresh true s).fs = s.fs := by
  simp only [enterFresh, if_true, h]
  exact ⟨rebindOwner_listOf_zero (refs_pos_of_listOf h) [], rfl⟩

structure InvC (s : Pool) : Prop where
  owner  : ∃ r, s.refs[0]? = some r
  refs   : ∀ r, s.refs[0]? = some r → ∀ r' ∈ s.refs, r' = r
  alloc  : ∀ r, s.refs[0]? = some r → r < s.heap.length
  nodup  : ∀ l, s.listOf 0 = some l → l.Nodup
  below  : ∀ l, s.listOf 0 = some l → ∀ p ∈ l, p < s.fresh
  fsLt   : ∀ p ∈ s.fs, p < s.fresh
  fsNodup : s.fs.Nodup
  listedOfExisting : ∀ l, s.listOf 0 = some l → ∀ p ∈ s.fs, p ∈ l

structure InvC2 (s : Pool) : Prop extends InvC s where
  existingOfListed : ∀ l, s.listOf 0 = some l → ∀ p ∈ l, p ∈ s.fs

theorem invC_of_shape {strict : Bool} {s : Pool} {r : Nat} {l : List Path} (h : Shape strict s r l) : InvC s := by
  have hr : ∀ r1, s.refs[0]? = some r1 → r1 = r := fun r1 hr1 => Option.some.inj (hr1.symm.trans h.r0)
  have hl : ∀ l1, s.listOf 0 = some l1 → l1 = l := fun l1 hl1 => Option.some.inj (hl1.symm.trans h.listOf_zero)
  exact ⟨⟨r, h.r0⟩, fun r1 hr1 => hr r1 hr1 ▸ h.all, fun r1 hr1 => hr r1 hr1 ▸ h.rlt, fun l1 hl1 => hl l1 hl1 ▸ h.nodup,
    fun l1 hl1 => hl l1 hl1 ▸ h.below, h.fsLt, h.fsNodup, fun l1 hl1 => hl l1 hl1 ▸ h.listed⟩

theorem shape_of_invC {s : Pool} (h : InvC s) : InvG false s := by
  obtain ⟨r, hr⟩ := h.owner
  have hlt := h.alloc r hr
  have hl : s.heap[r]? = some s.heap[r] := List.getElem?_eq_getElem hlt
  have h0 : s.listOf 0 = some s.heap[r] := by simp only [Pool.listOf, hr, hl]
  exact ⟨r, _, hr, hl, h.refs r hr, h.nodup _ h0, h.below _ h0, h.fsLt, h.fsNodup, h.listedOfExisting _ h0, nofun⟩

theorem invC_iff (s : Pool) : InvC s ↔ InvG false s :=
  ⟨shape_of_invC, fun ⟨_, _, h⟩ => invC_of_shape h⟩

theorem invC2_iff (s : Pool) : InvC2 s ↔ InvG true s := by
  constructor
  · intro h
    obtain ⟨r, l, hs⟩ := shape_of_invC h.toInvC
    exact ⟨r, l, { hs with existing := fun _ => h.existingOfListed l hs.listOf_zero }⟩
  · rintro ⟨r, l, hs⟩
    refine ⟨invC_of_shape hs, fun l1 hl1 => ?_⟩
    cases hs.listOf_zero.symm.trans hl1
    exact hs.existing rfl

def COp.ofOp : Op → COp
  | .create pid => .create pid
  | .remove pid p => .remove pid p
  | .flush pid => .flush pid
  | .fork pid => .fork pid
  | .unlink p => .unlink p

theorem applyC_ofOp (mp : Bool) (s : Pool) (op : Op) : applyC mp s (COp.ofOp op) = applyOp s op := by
  cases op <;> rfl

theorem runC_ofOp (mp : Bool) (s : Pool) (ops : List Op) : runC mp s (ops.map COp.ofOp) = run s ops := by
  induction ops generalizing s with
  | nil => rfl
  | cons op ops ih => simp only [List.map_cons, runC, List.foldl_cons, applyC_ofOp, run] at ih ⊢; exact ih _

theorem shape_rebind {strict : Bool} {s : Pool} {r : Nat} {l : List Path} (h : Shape strict s r l)
    (h1 : s.refs.length = 1) : Shape strict (rebindOwner s l) s.heap.length l := by
  refine .of (List.getElem?_set_self h.pos) (by simp [rebindOwner]) ?_ h.listing
  match hr : s.refs, h1 with
  | [a], _ => simp [rebindOwner, hr]

theorem exitCtx_eq (mp : Bool) {strict : Bool} {s : Pool} {r : Nat} {l : List Path} (h : Shape strict s r l) :
    exitCtx mp s =
      .ok (if mp then rebindOwner { s with fs := [], heap := s.heap.set r [] } [] else { s with fs := [], heap := s.heap.set r [] }) := by
  cases mp <;> simp [exitCtx, h.flush_eq h.pos]

theorem shape_step (mp : Bool) {strict : Bool} {s : Pool} (op : COp) (h : InvG strict s)
    (hc : op = .enter ∨ op = .exit → s.refs.length = 1) (hu : strict = true → ∀ p, op ≠ .unlink p) :
    InvG strict (applyC mp s op) ∧ ((∀ pid, op ≠ .fork pid) → (applyC mp s op).refs.length = s.refs.length) := by
  obtain ⟨r, l, h⟩ := h
  have old : ∀ o : Op, op = .ofOp o → InvG strict (applyC mp s op) ∧
      ((∀ pid, op ≠ .fork pid) → (applyC mp s op).refs.length = s.refs.length) := by
    rintro o rfl
    obtain ⟨l', h', -, hr⟩ := h.step o (fun hs p ho => hu hs p (ho ▸ rfl))
    rw [applyC_ofOp]
    exact ⟨⟨r, l', h'⟩, fun hf => congrArg List.length (hr (fun pid ho => hf pid (ho ▸ rfl)))⟩
  cases op with
  | create pid => exact old (.create pid) rfl
  | remove pid p => exact old (.remove pid p) rfl
  | flush pid => exact old (.flush pid) rfl
  | fork pid => exact old (.fork pid) rfl
  | unlink p => exact old (.unlink p) rfl
  | enter =>
    cases mp with
    | false => exact ⟨⟨r, l, h⟩, fun _ => rfl⟩
    | true =>
      simp only [applyC, enter, if_true, h.listOf_zero]
      exact ⟨⟨_, _, shape_rebind h (hc (Or.inl rfl))⟩, fun _ => List.length_set⟩
  | exit =>
    have hf := h.put (l' := []) (fs' := []) (n' := s.fresh) .nil
    simp only [applyC, exitCtx_eq mp h]
    cases mp with
    | false => exact ⟨⟨r, [], hf⟩, fun _ => rfl⟩
    | true => exact ⟨⟨_, _, shape_rebind hf (hc (Or.inr rfl))⟩, fun _ => List.length_set⟩

theorem noCtx_cons {op : COp} {ops : List COp} (h : noCtx (op :: ops) = true) :
    (op ≠ .enter ∧ op ≠ .exit) ∧ noCtx ops = true := by
  cases op with
  | enter => cases h
  | exit => cases h
  | _ => exact ⟨⟨nofun, nofun⟩, h⟩

theorem noUnlink_cons {op : COp} {ops : List COp} (h : noUnlink (op :: ops) = true) :
    (∀ p, op ≠ .unlink p) ∧ noUnlink ops = true := by
  cases op with
  | unlink p => cases h
  | _ => exact ⟨nofun, h⟩

theorem enterAlone_cons {op : COp} (ops : List COp) (h : ∀ pid, op ≠ .fork pid) :
    enterAlone (op :: ops) = enterAlone ops := by
  cases op with
  | fork pid => exact absurd rfl (h pid)
  | _ => rfl

/-- `ha` is `EnterAlone` in the form the induction needs: while the owner is the only process no `enter` / `exit` follows a
`fork`; once there are more processes none occurs at all -/
theorem shape_run (mp : Bool) {strict : Bool} (ops : List COp) (s : Pool) (h : InvG strict s)
    (ha : (s.refs.length = 1 ∧ enterAlone ops = true) ∨ noCtx ops = true) (hu : strict = true → noUnlink ops = true) :
    InvG strict (runC mp s ops) := by
  induction ops generalizing s with
  | nil => exact h
  | cons op ops ih =>
    have hc : op = .enter ∨ op = .exit → s.refs.length = 1 := by
      rcases ha with ⟨h1, -⟩ | ha
      · exact fun _ => h1
      · exact fun hc => hc.elim (fun hc => absurd hc (noCtx_cons ha).1.1) (fun hc => absurd hc (noCtx_cons ha).1.2)
    obtain ⟨h', hr⟩ := shape_step mp op h hc (fun hs => (noUnlink_cons (hu hs)).1)
    refine ih _ h' ?_ (fun hs => (noUnlink_cons (hu hs)).2)
    rcases ha with ⟨h1, ha⟩ | ha
    · by_cases hf : ∃ pid, op = .fork pid
      · obtain ⟨pid, rfl⟩ := hf
        exact Or.inr ha
      · have hf : ∀ pid, op ≠ .fork pid := fun pid hc => hf ⟨pid, hc⟩
        exact Or.inl ⟨(hr hf).trans h1, enterAlone_cons ops hf ▸ ha⟩
    · exact Or.inr (noCtx_cons ha).2

theorem invC2_new : InvC2 Pool.new := (invC2_iff _).mpr ⟨_, _, shape_new true⟩

theorem invC2_step (mp : Bool) (s : Pool) (op : COp) (h : InvC2 s)
    (hc : op = .enter ∨ op = .exit → s.refs.length = 1) (hu : ∀ p, op ≠ .unlink p) : InvC2 (applyC mp s op) :=
  (invC2_iff _).mpr (shape_step mp op ((invC2_iff _).mp h) hc (fun _ => hu)).1

theorem invC_run (mp : Bool) (ops : List COp) (ha : EnterAlone ops) : InvC (runC mp Pool.new ops) :=
  (invC_iff _).mpr (shape_run mp ops _ ⟨_, _, shape_new false⟩ (Or.inl ⟨rfl, ha⟩) nofun)

theorem invC2_run (mp : Bool) (ops : List COp) (ha : EnterAlone ops) (hn : NoUnlinkC ops) :
    InvC2 (runC mp Pool.new ops) :=
  (invC2_iff _).mpr (shape_run mp ops _ ⟨_, _, shape_new true⟩ (Or.inl ⟨rfl, ha⟩) (fun _ => hn))

theorem listed_eq_existing_ctx (mp : Bool) (ops : List COp) (ha : EnterAlone ops) (hn : NoUnlinkC ops) :
    ∃ l, (runC mp Pool.new ops).listOf 0 = some l ∧ ∀ p, p ∈ l ↔ p ∈ (runC mp Pool.new ops).fs := by
  obtain ⟨r, l, h⟩ := shape_run mp ops _ ⟨_, _, shape_new true⟩ (Or.inl ⟨rfl, ha⟩) (fun _ => hn)
  exact ⟨l, h.listOf_zero, fun p => ⟨h.existing rfl p, h.listed p⟩⟩

theorem exitCtx_nothing_left (mp : Bool) {s : Pool} (h : InvC s) :
    ∃ s', exitCtx mp s = .ok s' ∧ s'.fs = [] ∧ s'.listOf 0 = some [] ∧
      s'.refs.length = s.refs.length ∧ ∀ pid, pid < s.refs.length → s'.listOf pid = some [] := by
  obtain ⟨r, l, h⟩ := shape_of_invC h
  have hf := h.put (l' := []) (fs' := []) (n' := s.fresh) .nil
  refine ⟨_, exitCtx_eq mp h, ?_⟩
  cases mp with
  | false => exact ⟨rfl, hf.listOf_zero, rfl, fun pid hp => hf.listOf hp⟩
  | true =>
    refine ⟨rfl, rebindOwner_listOf_zero hf.pos [], List.length_set, ?_⟩
    intro pid hp
    cases pid with
    | zero => exact rebindOwner_listOf_zero hf.pos []
    | succ k =>
      -- the other processes still reference the old object, which the flush has emptied
      have hk : (s.refs.set 0 (s.heap.set r []).length)[k + 1]? = some r :=
        (List.getElem?_set_ne (Nat.succ_ne_zero k).symm).trans (h.refs_get hp)
      simp only [if_true, rebindOwner, Pool.listOf, hk]
      rw [List.getElem?_append_left hf.rlt]
      exact hf.hl

theorem nothing_left_exit_ctx (mp : Bool) (ops : List COp) (ha : EnterAlone ops) :
    ∃ s', exitCtx mp (runC mp Pool.new ops) = .ok s' ∧ s'.fs = [] ∧ s'.listOf 0 = some [] := by
  obtain ⟨s', h1, h2, h3, _⟩ := exitCtx_nothing_left mp (invC_run mp ops ha)
  exact ⟨s', h1, h2, h3⟩

theorem enterAlone_of_noFork {ops : List COp} (h : ∀ op ∈ ops, ∀ pid, op ≠ .fork pid) : EnterAlone ops := by
  induction ops with
  | nil => rfl
  | cons op ops ih =>
    exact (enterAlone_cons ops (h op List.mem_cons_self)).trans (ih (fun o ho => h o (List.mem_cons_of_mem _ ho)))

theorem noUnlink_of_forall {ops : List COp} (h : ∀ op ∈ ops, ∀ p, op ≠ .unlink p) : NoUnlinkC ops := by
  induction ops with
  | nil => rfl
  | cons op ops ih =>
    have := ih (fun o ho => h o (List.mem_cons_of_mem _ ho))
    cases op with
    | unlink p => exact absurd rfl (h _ List.mem_cons_self p)
    | _ => exact this

theorem mem_creates_enter {n m : Nat} {op : COp}
    (h : op ∈ List.replicate n (COp.create 0) ++ [.enter] ++ List.replicate m (.create 0)) : op = .create 0 ∨ op = .enter := by
  simp only [List.mem_append, List.mem_replicate, List.mem_singleton] at h
  rcases h with (h | h) | h
  · exact Or.inl h.2
  · exact Or.inr h
  · exact Or.inl h.2

theorem creates_enterAlone (n m : Nat) :
    EnterAlone (List.replicate n (COp.create 0) ++ [.enter] ++ List.replicate m (.create 0)) :=
  enterAlone_of_noFork fun _ h pid => by rcases mem_creates_enter h with rfl | rfl <;> nofun

theorem creates_noUnlink (n m : Nat) :
    NoUnlinkC (List.replicate n (COp.create 0) ++ [.enter] ++ List.replicate m (.create 0)) :=
  noUnlink_of_forall fun _ h p => by rcases mem_creates_enter h with rfl | rfl <;> nofun

theorem created_before_enter_removed (mp : Bool) (n m : Nat) :
    ∃ s', exitCtx mp (runC mp Pool.new
        (List.replicate n (.create 0) ++ [.enter] ++ List.replicate m (.create 0))) = .ok s' ∧
      s'.fs = [] ∧ s'.listOf 0 = some [] :=
  nothing_left_exit_ctx mp _ (creates_enterAlone n m)

theorem enterFresh_forgets :
    let s1 := enterFresh true (runC true Pool.new [.create 0])
    s1.listOf 0 = some [] ∧ s1.fs = [0] ∧
      ∃ s', s1.flush 0 = .ok s' ∧ s'.fs = [0] ∧ s'.listOf 0 = some [] := by
  refine ⟨by decide, by decide, _, rfl, by decide, by decide⟩

theorem enter_with_child_splits :
    let s := runC true Pool.new [.fork 0, .enter, .create 1]
    s.listOf 0 = some [] ∧ s.listOf 1 = some [0] ∧ ∃ s', exitCtx true s = .ok s' ∧ s'.fs = [0] := by
  refine ⟨by decide, by decide, _, rfl, by decide⟩

theorem enterAlone_ofOp (ops : List Op) : EnterAlone (ops.map COp.ofOp) := by
  have hno : noCtx (ops.map COp.ofOp) = true := by
    induction ops with
    | nil => rfl
    | cons op ops ih => cases op <;> exact ih
  have : ∀ ops : List COp, noCtx ops = true → enterAlone ops = true := by
    intro ops
    induction ops with
    | nil => exact fun _ => rfl
    | cons op ops ih =>
      intro h
      cases op with
      | fork pid => exact h
      | enter => cases h
      | exit => cases h
      | _ => exact ih h
  exact this _ hno

end WindVerif.TmpPoolCtx
