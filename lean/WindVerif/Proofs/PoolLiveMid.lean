import WindVerif.Proofs.PoolLiveConsumer
import WindVerif.Proofs.PoolLifeMid
/-! Liveness of the pool model (C02): the invariant `MidI` about the mid-call `until_all_ready()` (the worker waited for
exists; flow control is engaged only in an ordered call) holds initially and along every step. -/
namespace WindVerif.Pool

variable {s s' : St}

theorem init_not_mid (cfg : Cfg) (i wid : Nat) : (init cfg).cpc ≠ .midReady i wid := by
  unfold init
  dsimp only
  split
  · split <;> (intro h; cases h)
  · intro h; cases h

theorem MidI_init (cfg : Cfg) : MidI (init cfg) :=
  ⟨fun i wid h => absurd h (init_not_mid cfg i wid), fun i wid h => absurd h (init_not_mid cfg i wid)⟩

theorem MidI_stepC (hS : SafeInv s) (hV : LiveInv s) (hM : MidI s) (hw : WellCfg s.cfg) (h : stepC s = some s') :
    MidI s' := by
  constructor
  · intro i wid hm
    obtain ⟨h1, h2, _⟩ := stepC_mid h hm
    obtain ⟨w, hwm, hwid⟩ := hV.pr.procsEx wid (List.mem_of_getElem? h1)
    exact ⟨w, by rw [h2.workers]; exact hwm, hwid⟩
  · intro i wid hm hfr
    obtain ⟨_, h2, h3⟩ := stepC_mid h hm
    rw [h2.fRun] at hfr
    rw [h2.cur]
    rcases h3 with ⟨_, hpc, _⟩ | ⟨j, w0, _, hpc⟩
    · have hloop : loopPc s.cpc = true ∧ flowChk s.cpc = false ∧ preStart s = false ∧ exitPhasePc s.cpc = false := by
        rcases hpc with hpc | hpc <;> simp [hpc, loopPc, flowChk, preStart, exitPhasePc]
      obtain ⟨call, hcall⟩ := Option.isSome_iff_exists.1 (cur_isSome_of hS hloop.2.2.1 hloop.2.2.2)
      refine ⟨call, hcall, ?_⟩
      cases ho : call.ordered
      · have := fRun_of_unordered hS hV hw hloop.1 hloop.2.1 hcall ho
        rw [hfr] at this; cases this
      · rfl
    · exact hM.flow j w0 hpc hfr

theorem MidI_step {t : Tid} (hf : NoFaults s.cfg) (hw : WellCfg s.cfg) (hS : SafeInv s) (hL : LInv s) (hV : LiveInv s)
    (hM : MidI s) (h : step s t = some s') : MidI s' := by
  cases t with
  | c => exact MidI_stepC hS hV hM hw h
  | f =>
    obtain ⟨e1, e2, e3, e4⟩ := stepF_frameM h
    exact ⟨by rw [e1, e2]; exact hM.ex, by rw [e1, e3, e4]; exact hM.flow⟩
  | r =>
    obtain ⟨e1, e3, e4, hmono⟩ := stepR_frameM hL h
    refine ⟨?_, by rw [e1, e3, e4]; exact hM.flow⟩
    rw [e1]
    intro i wid hpc
    obtain ⟨x, hx, hxw⟩ := hM.ex i wid hpc
    obtain ⟨y, hy, hyw, _⟩ := hmono x hx
    exact ⟨y, hy, hyw.trans hxw⟩
  | w k =>
    obtain ⟨w, w', hst⟩ := stepW_cases hf hw hL h
    refine ⟨?_, by rw [hst.same.cpc, hst.same.fRun, hst.same.cur]; exact hM.flow⟩
    rw [hst.same.cpc]
    intro i wid hpc
    obtain ⟨x, hx, hxw⟩ := hM.ex i wid hpc
    obtain ⟨y, hy, hyw⟩ := hst.succ hx
    exact ⟨y, hy, hyw.trans hxw⟩

end WindVerif.Pool
