import WindVerif.Spec.CacheOps
/-! Generic lemmas: a simulation of the three primitives transports every mixin and every history. -/
namespace WindVerif.Cache

variable {σ τ : Type} {P : Prim σ} {Q : Prim τ} {R : σ → τ → Prop}

theorem RelRes.inv {α : Type} {s : σ} {t : τ} {a : Except Err (σ × α)} {b : Except Err (τ × α)}
    (h : RelRes R s t a b) :
    (∃ s' t' v, a = .ok (s', v) ∧ b = .ok (t', v) ∧ R s' t') ∨ (∃ e, a = .error e ∧ b = .error e ∧ R s t) :=
  match a, b, h with
  | .ok (s', x), .ok (t', _), ⟨h1, h2⟩ => .inl ⟨s', t', x, rfl, h2 ▸ rfl, h1⟩
  | .error e, .error _, ⟨h1, h2⟩ => .inr ⟨e, rfl, h1 ▸ rfl, h2⟩
  | .ok _, .error _, h => h.elim
  | .error _, .ok _, h => h.elim

theorem RelSt.inv {s : σ} {t : τ} {a : Except Err σ} {b : Except Err τ}
    (h : RelSt R s t a b) :
    (∃ s' t', a = .ok s' ∧ b = .ok t' ∧ R s' t') ∨ (∃ e, a = .error e ∧ b = .error e ∧ R s t) :=
  match a, b, h with
  | .ok s', .ok t', h => .inl ⟨s', t', rfl, rfl, h⟩
  | .error e, .error _, ⟨h1, h2⟩ => .inr ⟨e, rfl, h1 ▸ rfl, h2⟩
  | .ok _, .error _, h => h.elim
  | .error _, .ok _, h => h.elim

theorem RelRes.ok {α : Type} {s : σ} {t : τ} {s' : σ} {t' : τ} (v : α) (h : R s' t') :
    RelRes R s t (.ok (s', v)) (.ok (t', v)) := ⟨h, rfl⟩

theorem RelRes.err {α : Type} {s : σ} {t : τ} (e : Err) (h : R s t) :
    RelRes (α := α) R s t (.error e) (.error e) := ⟨rfl, h⟩

theorem RelSt.err {s : σ} {t : τ} (e : Err) (h : R s t) :
    RelSt R s t (.error e) (.error e) := ⟨rfl, h⟩

theorem contains_refine (h : Sim P Q R) (s : σ) (t : τ) (k : Key) (hr : R s t) :
    RelRes R s t (contains P s k) (contains Q t k) := by
  rcases (h.get s t k hr).inv with ⟨s', t', v, hp, hq, hr'⟩ | ⟨e, hp, hq, _⟩
  · simp only [contains, hp, hq]
    exact RelRes.ok _ hr'
  · cases e
    · simp only [contains, hp, hq]
      exact RelRes.ok _ hr
    · simp only [contains, hp, hq]
      exact RelRes.err _ hr
    · simp only [contains, hp, hq]
      exact RelRes.err _ hr

theorem getD_refine (h : Sim P Q R) (s : σ) (t : τ) (k : Key) (hr : R s t) :
    RelRes R s t (getD P s k) (getD Q t k) := by
  rcases (h.get s t k hr).inv with ⟨s', t', v, hp, hq, hr'⟩ | ⟨e, hp, hq, _⟩
  · simp only [getD, hp, hq]
    exact RelRes.ok _ hr'
  · cases e
    · simp only [getD, hp, hq]
      exact RelRes.ok _ hr
    · simp only [getD, hp, hq]
      exact RelRes.err _ hr
    · simp only [getD, hp, hq]
      exact RelRes.err _ hr

theorem itemsFrom_refine (h : Sim P Q R) (ks : List Key) (s : σ) (t : τ) (hr : R s t) :
    RelRes R s t (itemsFrom P s ks) (itemsFrom Q t ks) := by
  induction ks generalizing s t with
  | nil => exact RelRes.ok _ hr
  | cons k ks ih =>
    rcases (h.get s t k hr).inv with ⟨s', t', v, hp, hq, hr'⟩ | ⟨e, hp, hq, _⟩
    · rcases (ih s' t' hr').inv with ⟨s'', t'', r, hp', hq', hr''⟩ | ⟨e, hp', hq', _⟩
      · simp only [itemsFrom, hp, hq, hp', hq']
        exact RelRes.ok _ hr''
      · simp only [itemsFrom, hp, hq, hp', hq']
        exact RelRes.err _ hr
    · simp only [itemsFrom, hp, hq]
      exact RelRes.err _ hr

theorem items_refine (h : Sim P Q R) (s : σ) (t : τ) (hr : R s t) :
    RelRes R s t (items P s) (items Q t) := by
  unfold items
  rw [h.keys s t hr]
  exact itemsFrom_refine h _ s t hr

theorem pop_refine (h : Sim P Q R) (s : σ) (t : τ) (k : Key) (hr : R s t) :
    RelRes R s t (pop P s k) (pop Q t k) := by
  rcases (h.get s t k hr).inv with ⟨s', t', v, hp, hq, hr'⟩ | ⟨e, hp, hq, _⟩
  · rcases (h.del s' t' k hr').inv with ⟨s'', t'', hp', hq', hr''⟩ | ⟨e, hp', hq', _⟩
    · simp only [pop, hp, hq, hp', hq']
      exact RelRes.ok _ hr''
    · simp only [pop, hp, hq, hp', hq']
      exact RelRes.err _ hr
  · simp only [pop, hp, hq]
    exact RelRes.err _ hr

theorem popitem_refine (h : Sim P Q R) (s : σ) (t : τ) (hr : R s t) :
    RelRes R s t (popitem P s) (popitem Q t) := by
  unfold popitem
  rw [h.keys s t hr]
  cases Q.keys t with
  | nil => exact RelRes.err _ hr
  | cons k ks =>
    rcases (pop_refine h s t k hr).inv with ⟨s', t', v, hp, hq, hr'⟩ | ⟨e, hp, hq, _⟩
    · simp only [hp, hq]
      exact RelRes.ok _ hr'
    · simp only [hp, hq]
      exact RelRes.err _ hr

theorem clearLoop_refine (h : Sim P Q R) (fuel : Nat) (s : σ) (t : τ) (hr : R s t) :
    RelSt R s t (clearLoop P s fuel) (clearLoop Q t fuel) := by
  induction fuel generalizing s t with
  | zero => exact hr
  | succ fuel ih =>
    unfold clearLoop
    rw [h.keys s t hr]
    cases Q.keys t with
    | nil => exact hr
    | cons k ks =>
      rcases (popitem_refine h s t hr).inv with ⟨s', t', v, hp, hq, hr'⟩ | ⟨e, hp, hq, _⟩
      · simp only [hp, hq]
        rcases (ih s' t' hr').inv with ⟨s'', t'', hp', hq', hr''⟩ | ⟨e, hp', hq', _⟩
        · rw [hp', hq']
          exact hr''
        · rw [hp', hq']
          exact RelSt.err _ hr
      · simp only [hp, hq]
        exact RelSt.err _ hr

theorem clear_refine (h : Sim P Q R) (s : σ) (t : τ) (hr : R s t) :
    RelSt R s t (clear P s) (clear Q t) := by
  unfold clear
  rw [h.len s t hr]
  exact clearLoop_refine h _ s t hr

theorem update_refine (h : Sim P Q R) (ps : List (Key × Val)) (s : σ) (t : τ) (hr : R s t) :
    RelSt R s t (update P s ps) (update Q t ps) := by
  induction ps generalizing s t with
  | nil => exact hr
  | cons p ps ih =>
    obtain ⟨k, v⟩ := p
    rcases (h.set s t k v hr).inv with ⟨s', t', hp, hq, hr'⟩ | ⟨e, hp, hq, _⟩
    · simp only [update, hp, hq]
      rcases (ih s' t' hr').inv with ⟨s'', t'', hp', hq', hr''⟩ | ⟨e, hp', hq', _⟩
      · rw [hp', hq']
        exact hr''
      · rw [hp', hq']
        exact RelSt.err _ hr
    · simp only [update, hp, hq]
      exact RelSt.err _ hr

theorem setdefault_refine (h : Sim P Q R) (s : σ) (t : τ) (k : Key) (v : Val) (hr : R s t) :
    RelRes R s t (setdefault P s k v) (setdefault Q t k v) := by
  rcases (h.get s t k hr).inv with ⟨s', t', w, hp, hq, hr'⟩ | ⟨e, hp, hq, _⟩
  · simp only [setdefault, hp, hq]
    exact RelRes.ok _ hr'
  · cases e
    · rcases (h.set s t k v hr).inv with ⟨s', t', hp', hq', hr'⟩ | ⟨e, hp', hq', _⟩
      · simp only [setdefault, hp, hq, hp', hq']
        exact RelRes.ok _ hr'
      · simp only [setdefault, hp, hq, hp', hq']
        exact RelRes.err _ hr
    · simp only [setdefault, hp, hq]
      exact RelRes.err _ hr
    · simp only [setdefault, hp, hq]
      exact RelRes.err _ hr

theorem eqDict_refine (h : Sim P Q R) (s : σ) (t : τ) (o : List (Key × Val)) (hr : R s t) :
    RelRes R s t (eqDict P s o) (eqDict Q t o) := by
  rcases (items_refine h s t hr).inv with ⟨s', t', its, hp, hq, hr'⟩ | ⟨e, hp, hq, _⟩
  · simp only [eqDict, hp, hq]
    exact RelRes.ok _ hr'
  · simp only [eqDict, hp, hq]
    exact RelRes.err _ hr

theorem mixins_refine (h : Sim P Q R) : MixinSim P Q R where
  contains := fun s t k hr => contains_refine h s t k hr
  getD := fun s t k hr => getD_refine h s t k hr
  items := fun s t hr => items_refine h s t hr
  pop := fun s t k hr => pop_refine h s t k hr
  popitem := fun s t hr => popitem_refine h s t hr
  clear := fun s t hr => clear_refine h s t hr
  update := fun s t ps hr => update_refine h ps s t hr
  setdefault := fun s t k v hr => setdefault_refine h s t k v hr
  eqDict := fun s t o hr => eqDict_refine h s t o hr

theorem stepOp_refines (h : Sim P Q R) (s : σ) (t : τ) (hr : R s t) (op : COp) :
    (stepOp P s op).2 = (stepOp Q t op).2 ∧ R (stepOp P s op).1 (stepOp Q t op).1 := by
  have m := mixins_refine h
  cases op with
  | set k v =>
    rcases (h.set s t k v hr).inv with ⟨s', t', hp, hq, hr'⟩ | ⟨e, hp, hq, hr'⟩ <;>
      simp only [stepOp, hp, hq] <;> exact ⟨trivial, hr'⟩
  | get k =>
    rcases (h.get s t k hr).inv with ⟨s', t', v, hp, hq, hr'⟩ | ⟨e, hp, hq, hr'⟩ <;>
      simp only [stepOp, hp, hq] <;> exact ⟨trivial, hr'⟩
  | del k =>
    rcases (h.del s t k hr).inv with ⟨s', t', hp, hq, hr'⟩ | ⟨e, hp, hq, hr'⟩ <;>
      simp only [stepOp, hp, hq] <;> exact ⟨trivial, hr'⟩
  | has k =>
    rcases (m.contains s t k hr).inv with ⟨s', t', v, hp, hq, hr'⟩ | ⟨e, hp, hq, hr'⟩ <;>
      simp only [stepOp, hp, hq] <;> exact ⟨trivial, hr'⟩
  | len => exact ⟨by simp only [stepOp, h.len s t hr], hr⟩
  | keys => exact ⟨by simp only [stepOp, h.keys s t hr], hr⟩
  | values =>
    rcases (m.items s t hr).inv with ⟨s', t', v, hp, hq, hr'⟩ | ⟨e, hp, hq, hr'⟩ <;>
      simp only [stepOp, hp, hq] <;> exact ⟨trivial, hr'⟩
  | items =>
    rcases (m.items s t hr).inv with ⟨s', t', v, hp, hq, hr'⟩ | ⟨e, hp, hq, hr'⟩ <;>
      simp only [stepOp, hp, hq] <;> exact ⟨trivial, hr'⟩
  | getd k =>
    rcases (m.getD s t k hr).inv with ⟨s', t', v, hp, hq, hr'⟩ | ⟨e, hp, hq, hr'⟩
    · cases v <;> simp only [stepOp, hp, hq] <;> exact ⟨trivial, hr'⟩
    · simp only [stepOp, hp, hq]; exact ⟨trivial, hr'⟩
  | pop k =>
    rcases (m.pop s t k hr).inv with ⟨s', t', v, hp, hq, hr'⟩ | ⟨e, hp, hq, hr'⟩ <;>
      simp only [stepOp, hp, hq] <;> exact ⟨trivial, hr'⟩
  | popitem =>
    rcases (m.popitem s t hr).inv with ⟨s', t', ⟨k, v⟩, hp, hq, hr'⟩ | ⟨e, hp, hq, hr'⟩ <;>
      simp only [stepOp, hp, hq] <;> exact ⟨trivial, hr'⟩
  | clear =>
    rcases (m.clear s t hr).inv with ⟨s', t', hp, hq, hr'⟩ | ⟨e, hp, hq, hr'⟩ <;>
      simp only [stepOp, hp, hq] <;> exact ⟨trivial, hr'⟩
  | update ps =>
    rcases (m.update s t ps hr).inv with ⟨s', t', hp, hq, hr'⟩ | ⟨e, hp, hq, hr'⟩ <;>
      simp only [stepOp, hp, hq] <;> exact ⟨trivial, hr'⟩
  | setdefault k v =>
    rcases (m.setdefault s t k v hr).inv with ⟨s', t', w, hp, hq, hr'⟩ | ⟨e, hp, hq, hr'⟩ <;>
      simp only [stepOp, hp, hq] <;> exact ⟨trivial, hr'⟩
  | eq other =>
    rcases (m.eqDict s t other hr).inv with ⟨s', t', w, hp, hq, hr'⟩ | ⟨e, hp, hq, hr'⟩ <;>
      simp only [stepOp, hp, hq] <;> exact ⟨trivial, hr'⟩

theorem run_refines (h : Sim P Q R) (s : σ) (t : τ) (hr : R s t) (ops : List COp) :
    (runOps P s ops).2 = (runOps Q t ops).2 ∧ R (runOps P s ops).1 (runOps Q t ops).1 := by
  induction ops generalizing s t with
  | nil => exact ⟨rfl, hr⟩
  | cons op ops ih =>
    obtain ⟨ho, hr'⟩ := stepOp_refines h s t hr op
    obtain ⟨hos, hr''⟩ := ih _ _ hr'
    simp only [runOps]
    exact ⟨by rw [ho, hos], hr''⟩

end WindVerif.Cache
