import WindVerif.Model.TmpPoolRefuse
import WindVerif.Proofs.TmpPool
import WindVerif.Proofs.ListFacts
/-! Theorems about `TmpPool` when removals are refused or interrupted (C20, model `Model/TmpPoolRefuse.lean`). -/
namespace WindVerif.TmpPoolRefuse
open WindVerif.TmpPool

def InvR (s : PoolR) : Prop := Inv s.pool

theorem flushWalk_spec {prot l fs fs' : List Path} {b : Bool} (h : flushWalk prot fs l = (fs', b)) :
    ∃ pre, fs' = fs.filter (fun x => !pre.contains x) ∧ (∀ x ∈ pre, ¬ (x ∈ prot ∧ x ∈ fs)) ∧ (b = true → pre = l) ∧
      (b = false → ∃ q post, l = pre ++ q :: post ∧ q ∈ prot ∧ q ∈ fs ∧ q ∈ fs') := by
  induction l generalizing fs with
  | nil =>
    cases h
    exact ⟨[], (filter_nil_contains _).symm, nofun, fun _ => rfl, nofun⟩
  | cons p r ih =>
    by_cases hc : p ∈ prot ∧ p ∈ fs
    · have : flushWalk prot fs (p :: r) = (fs, false) := by simp [flushWalk, hc.1, hc.2]
      cases this.symm.trans h
      exact ⟨[], (filter_nil_contains _).symm, nofun, nofun, fun _ => ⟨p, r, rfl, hc.1, hc.2, hc.2⟩⟩
    · have : flushWalk prot fs (p :: r) = flushWalk prot (fs.filter (· ≠ p)) r := by
        have : (prot.contains p && fs.contains p) = false := by
          rw [Bool.eq_false_iff]
          simpa using hc
        simp only [flushWalk, this, Bool.false_eq_true, if_false]
      obtain ⟨pre, h1, h2, h3, h4⟩ := ih (this.symm.trans h)
      refine ⟨p :: pre, h1.trans (filter_ne_filter fs p pre), ?_, fun hb => congrArg _ (h3 hb), ?_⟩
      · intro x hx hh
        by_cases hxp : x = p
        · exact hc (hxp ▸ hh)
        · exact h2 x ((List.mem_cons.mp hx).resolve_left hxp) ⟨hh.1, List.mem_filter.mpr ⟨hh.2, decide_eq_true hxp⟩⟩
      · intro hb
        obtain ⟨q, post, hl, hq1, hq2, hq3⟩ := h4 hb
        exact ⟨q, post, congrArg _ hl, hq1, (List.mem_filter.mp hq2).1, hq3⟩

theorem refuses_iff (s : PoolR) (p : Path) : s.refuses p = true ↔ p ∈ s.prot ∧ p ∈ s.pool.fs := by
  simp [PoolR.refuses]

theorem removeR_refused_iff (s : PoolR) (pid : Nat) (p : Path) :
    (removeR s pid p).2 = .refused ↔ s.pool.listOf pid ≠ none ∧ p ∈ s.prot ∧ p ∈ s.pool.fs := by
  rw [← refuses_iff]
  cases hl : s.pool.listOf pid with
  | none => simp [removeR, hl]
  | some l =>
    simp only [removeR, hl]
    by_cases hr : s.refuses p = true
    · simp [hr]
    · by_cases hc : l.contains p = true
      · simp only [hr, hc, Bool.false_eq_true, if_false, if_true]; simp
      · simp only [hr, hc, Bool.false_eq_true, if_false]; simp

theorem refused_remove_keeps (s : PoolR) (pid : Nat) (p : Path) (h : (removeR s pid p).2 = .refused) :
    (removeR s pid p).1 = s ∧ p ∈ s.prot ∧ p ∈ s.pool.fs := by
  obtain ⟨hl, hr⟩ := (removeR_refused_iff s pid p).mp h
  refine ⟨?_, hr⟩
  cases hl' : s.pool.listOf pid with
  | none => exact absurd hl' hl
  | some l => simp [removeR, hl', (refuses_iff s p).mpr hr]

theorem removeR_not_refused (s : PoolR) (pid : Nat) (p : Path) (h : ¬ (p ∈ s.prot ∧ p ∈ s.pool.fs)) :
    removeR s pid p =
      match s.pool.remove pid p with
      | .ok s' => ({ s with pool := s' }, .ok)
      | .error .valueError => ({ s with pool := s.pool.unlink p }, .valueError)
      | .error .badProcess => (s, .badProcess) := by
  have hr : s.refuses p = false := by
    rw [← refuses_iff] at h; simpa using h
  cases hl : s.pool.listOf pid with
  | none => simp only [removeR, Pool.remove, hl]
  | some l =>
    simp only [removeR, hl]
    by_cases hc : l.contains p = true
    · simp only [hr, Bool.false_eq_true, if_false, hc, if_true, Pool.remove, hl]
    · simp only [hr, Bool.false_eq_true, if_false, hc, Pool.remove, hl, Pool.unlink]

theorem flushR_cases (s : PoolR) (pid : Nat) :
    (s.pool.listOf pid = none ∧ flushR s pid = (s, .badProcess)) ∨
    (∃ l, s.pool.listOf pid = some l ∧ (∀ x ∈ l, ¬ (x ∈ s.prot ∧ x ∈ s.pool.fs)) ∧
      flushR s pid =
        ({ s with pool := ({ s.pool with fs := s.pool.fs.filter (fun x => !l.contains x) } : Pool).setList pid [] }, .ok)) ∨
    (∃ pre q post, s.pool.listOf pid = some (pre ++ q :: post) ∧ q ∈ s.prot ∧ q ∈ s.pool.fs ∧
      q ∈ s.pool.fs.filter (fun x => !pre.contains x) ∧ (∀ x ∈ pre, ¬ (x ∈ s.prot ∧ x ∈ s.pool.fs)) ∧
      flushR s pid = ({ s with pool := { s.pool with fs := s.pool.fs.filter (fun x => !pre.contains x) } }, .refused)) := by
  cases hl : s.pool.listOf pid with
  | none => exact Or.inl ⟨rfl, by simp only [flushR, hl]⟩
  | some l =>
    cases hw : flushWalk s.prot s.pool.fs l with
    | mk fs' b =>
      obtain ⟨pre, rfl, hpre, ht, hf⟩ := flushWalk_spec hw
      cases b with
      | true =>
        cases ht rfl
        exact Or.inr (Or.inl ⟨l, rfl, hpre, by simp only [flushR, hl, hw]⟩)
      | false =>
        obtain ⟨q, post, rfl, h1, h2, h3⟩ := hf rfl
        exact Or.inr (Or.inr ⟨pre, q, post, rfl, h1, h2, h3, hpre, by simp only [flushR, hl, hw]⟩)

theorem flushR_not_refused (s : PoolR) (pid : Nat)
    (h : ∀ l, s.pool.listOf pid = some l → ∀ x ∈ l, ¬ (x ∈ s.prot ∧ x ∈ s.pool.fs)) :
    flushR s pid =
      match s.pool.flush pid with
      | .ok s' => ({ s with pool := s' }, .ok)
      | .error _ => (s, .badProcess) := by
  rcases flushR_cases s pid with ⟨hl, he⟩ | ⟨l, hl, -, he⟩ | ⟨pre, q, post, hl, h1, h2, -⟩
  · simp only [he, Pool.flush, hl]
  · simp only [he, Pool.flush, hl]
  · exact absurd ⟨h1, h2⟩ (h _ hl q (List.mem_append_right _ List.mem_cons_self))

theorem flushR_noprot (s : PoolR) (pid : Nat) (h : s.prot = []) :
    flushR s pid = match s.pool.flush pid with | .ok s' => ({ s with pool := s' }, .ok) | .error _ => (s, .badProcess) :=
  flushR_not_refused s pid (by simp [h])

theorem removeR_noprot (s : PoolR) (pid : Nat) (p : Path) (h : s.prot = []) :
    removeR s pid p =
      match s.pool.remove pid p with
      | .ok s' => ({ s with pool := s' }, .ok)
      | .error .valueError => ({ s with pool := s.pool.unlink p }, .valueError)
      | .error .badProcess => (s, .badProcess) :=
  removeR_not_refused s pid p (by simp [h])

theorem flush_refused_keeps_list (s : PoolR) (pid : Nat) (h : (flushR s pid).2 = .refused) :
    (flushR s pid).1.pool.heap = s.pool.heap ∧ (flushR s pid).1.pool.refs = s.pool.refs ∧
    (flushR s pid).1.pool.fresh = s.pool.fresh ∧ (flushR s pid).1.prot = s.prot ∧
    (∀ pid', (flushR s pid).1.pool.listOf pid' = s.pool.listOf pid') ∧
    ∃ pre q post, s.pool.listOf pid = some (pre ++ q :: post) ∧ q ∈ s.prot ∧ q ∈ s.pool.fs ∧
      q ∈ (flushR s pid).1.pool.fs ∧ (∀ x ∈ pre, ¬ (x ∈ s.prot ∧ x ∈ s.pool.fs)) ∧
      (flushR s pid).1.pool.fs = s.pool.fs.filter (fun x => !pre.contains x) := by
  rcases flushR_cases s pid with ⟨-, he⟩ | ⟨_, -, -, he⟩ | ⟨pre, q, post, hl, h1, h2, h3, h4, he⟩
  · cases he ▸ h
  · cases he ▸ h
  · rw [he]
    exact ⟨rfl, rfl, rfl, rfl, fun _ => rfl, pre, q, post, hl, h1, h2, h3, h4, rfl⟩

/-- on the pool a step does nothing, is an operation of `Proofs/TmpPool.lean`, or makes files disappear from disk (a refused
`flush()`): `Inv` is kept by each of the three, so the refusals need no invariant of their own -/
theorem applyR_pool (s : PoolR) (op : ROp) :
    (applyR s op).pool = s.pool ∨ (∃ o, (applyR s op).pool = applyOp s.pool o) ∨
      ∃ f : Path → Bool, (applyR s op).pool = { s.pool with fs := s.pool.fs.filter f } := by
  cases op with
  | create pid =>
    refine Or.inr (Or.inl ⟨.create pid, ?_⟩)
    simp only [applyR, createR, applyOp]
    cases s.pool.create pid with
    | ok r => rfl
    | error e => cases e <;> rfl
  | removeR pid p =>
    by_cases h : p ∈ s.prot ∧ p ∈ s.pool.fs
    · refine Or.inl (congrArg PoolR.pool ?_)
      cases hl : s.pool.listOf pid with
      | none => simp only [applyR, removeR, hl]
      | some l => simp only [applyR, removeR, hl, (refuses_iff s p).mpr h, if_true]
    · refine Or.inr (Or.inl ⟨.remove pid p, ?_⟩)
      simp only [applyR, removeR_not_refused s pid p h, applyOp]
      cases s.pool.remove pid p with
      | ok s' => rfl
      | error e => cases e <;> rfl
  | flushR pid =>
    simp only [applyR]
    rcases flushR_cases s pid with ⟨-, he⟩ | ⟨l, hl, -, he⟩ | ⟨pre, _, _, -, -, -, -, -, he⟩
    · exact Or.inl (by rw [he])
    · exact Or.inr (Or.inl ⟨.flush pid, by simp only [he, applyOp, Pool.flush, hl]⟩)
    · exact Or.inr (Or.inr ⟨_, by rw [he]⟩)
  | fork pid =>
    refine Or.inr (Or.inl ⟨.fork pid, ?_⟩)
    simp only [applyR, forkR, applyOp]
    cases s.pool.fork pid with
    | ok r => rfl
    | error e => cases e <;> rfl
  | unlink p => exact Or.inr (Or.inl ⟨.unlink p, rfl⟩)
  | protect p => exact Or.inl rfl
  | unprotect p => exact Or.inl rfl
  | unprotectAll => exact Or.inl rfl

theorem invR_new : InvR PoolR.new := inv_new

theorem invR_step (s : PoolR) (op : ROp) (h : InvR s) : InvR (applyR s op) := by
  unfold InvR at h ⊢
  rcases applyR_pool s op with he | ⟨o, he⟩ | ⟨f, he⟩ <;> rw [he]
  · exact h
  · exact inv_step _ o h
  · exact inv_filter_fs h f

theorem invR_run_from (ops : List ROp) (s : PoolR) (h : InvR s) : InvR (runRFrom s ops) := by
  induction ops generalizing s with
  | nil => exact h
  | cons op ops ih => exact ih _ (invR_step s op h)

theorem invR_run (ops : List ROp) : InvR (runR ops) := invR_run_from ops _ invR_new

theorem existing_listed_of_inv {s : PoolR} (h : InvR s) :
    ∃ l, s.pool.listOf 0 = some l ∧ (∀ pid, pid < s.pool.refs.length → s.pool.listOf pid = some l) ∧
      ∀ p ∈ s.pool.fs, p ∈ l := by
  obtain ⟨l, -, hs⟩ := Inv.shape h
  exact ⟨l, hs.listOf_zero, fun _ hp => hs.listOf hp, hs.listed⟩

theorem existing_listed_R (ops : List ROp) :
    ∃ l, (runR ops).pool.listOf 0 = some l ∧
      (∀ pid, pid < (runR ops).pool.refs.length → (runR ops).pool.listOf pid = some l) ∧
      ∀ p ∈ (runR ops).pool.fs, p ∈ l :=
  existing_listed_of_inv (invR_run ops)

theorem flushR_nothing_left {s : PoolR} (h : InvR s) {pid : Nat} (hp : pid < s.pool.refs.length)
    (hprot : ∀ p ∈ s.pool.fs, p ∉ s.prot) :
    ∃ s', flushR s pid = (s', .ok) ∧ s'.pool.fs = [] ∧ s'.pool.listOf 0 = some [] ∧ s'.prot = s.prot := by
  obtain ⟨s', h1, h2, h3⟩ := flush_nothing_left h hp
  refine ⟨{ s with pool := s' }, ?_, h2, h3, rfl⟩
  rw [flushR_not_refused s pid (fun l _ x _ hx => hprot x hx.2 hx.1), h1]

theorem nothing_left_after_unprotect_any (ops : List ROp) (pid : Nat) (hp : pid < (runR ops).pool.refs.length) :
    ∃ s', flushR (unprotectAll (runR ops)) pid = (s', .ok) ∧ s'.pool.fs = [] ∧ s'.pool.listOf 0 = some [] := by
  obtain ⟨s', h1, h2, h3, -⟩ := flushR_nothing_left (s := unprotectAll (runR ops)) (invR_run ops) hp (fun _ _ => nofun)
  exact ⟨s', h1, h2, h3⟩

theorem nothing_left_after_unprotect (ops : List ROp) :
    ∃ s', flushR (unprotectAll (runR ops)) 0 = (s', .ok) ∧ s'.pool.fs = [] ∧ s'.pool.listOf 0 = some [] :=
  nothing_left_after_unprotect_any ops 0 (zero_lt_refs (invR_run ops))

theorem unlist_first_refused_forgets {s : PoolR} (h : InvR s) {pid : Nat} (hp : pid < s.pool.refs.length) (p : Path)
    (hprot : p ∈ s.prot) (hfs : p ∈ s.pool.fs) :
    (removeUnlistFirst s pid p).2 = .refused ∧ p ∈ (removeUnlistFirst s pid p).1.pool.fs ∧
      ∀ pid' l', (removeUnlistFirst s pid p).1.pool.listOf pid' = some l' → p ∉ l' := by
  obtain ⟨l, -, hs⟩ := Inv.shape h
  have hin : l.contains p = true := List.contains_iff_mem.mpr (hs.listed p hfs)
  have hr : s.refuses p = true := (refuses_iff s p).mpr ⟨hprot, hfs⟩
  have he : removeUnlistFirst s pid p =
      ({ s with pool := { s.pool with heap := s.pool.heap.set 0 (l.erase p) } }, .refused) := by
    simp only [removeUnlistFirst, hs.listOf hp, hin, hr, if_true, Pool.setList, hs.refs_get hp]
  rw [he]
  refine ⟨rfl, hfs, ?_⟩
  intro pid' l' hl'
  -- every process references object 0, which now holds the list without `p`
  by_cases hp' : pid' < s.pool.refs.length
  · simp only [Pool.listOf, hs.refs_get hp', List.getElem?_set_self hs.rlt] at hl'
    cases hl'
    exact fun hm => (hs.nodup.mem_erase_iff.mp hm).1 rfl
  · simp only [Pool.listOf, refs_none hp'] at hl'
    cases hl'

theorem unlist_first_forgets :
    let s1 := runR [.create 0, .protect 0]
    let s2 := removeUnlistFirst s1 0 0
    s2.2 = .refused ∧ s2.1.pool.fs = [0] ∧ s2.1.pool.listOf 0 = some [] ∧
    (flushR (unprotectAll s2.1) 0).2 = .ok ∧ (flushR (unprotectAll s2.1) 0).1.pool.fs = [0] ∧
    let t2 := removeR s1 0 0
    t2.2 = .refused ∧ t2.1.pool.fs = [0] ∧ t2.1.pool.listOf 0 = some [0] ∧
    (flushR (unprotectAll t2.1) 0).2 = .ok ∧ (flushR (unprotectAll t2.1) 0).1.pool.fs = [] := by
  decide

end WindVerif.TmpPoolRefuse
