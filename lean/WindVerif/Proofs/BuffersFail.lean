import WindVerif.Model.BuffersFail
import WindVerif.Proofs.Buffers
/-! `PrintBuffer` with an output stream that can fail (C15): whatever write fails, `GInv` is kept, so no value is lost; the output
stays in serial order until a `flush`; with a stream that never fails the model is `PBuf` of `Model/Buffers.lean`. -/
namespace WindVerif.Buffers

/-- The invariant of a `PrintBuffer` whose stream may fail: `GInv` for some list `outS` of written serials (it mentions
neither `waiting_for` nor the attempt counter); as long as `ordered` holds (no `flush` so far) these are
`0 … waiting_for-1` in order. -/
def FInv (ordered : Prop) (f : Nat → Nat) (taken : List Nat) (s : PBuf) : Prop :=
  ∃ outS, GInv f taken outS s.buffer s.out ∧ (ordered → outS = List.range s.wf)

theorem FInv.mono {p q : Prop} {f : Nat → Nat} {taken : List Nat} {s : PBuf} (h : FInv p f taken s) (hqp : q → p) :
    FInv q f taken s :=
  h.imp fun _ ho => ⟨ho.1, fun hq => ho.2 (hqp hq)⟩

theorem write_eq {ok : Nat → Bool} {s s1 : PBufF} {x : Nat} {b : Bool} (h : s.write ok x = (s1, b)) :
    ok s.att = b ∧ s1 = { s with out := if b then s.out ++ [x] else s.out, att := s.att + 1 } := by
  unfold PBufF.write at h
  split at h <;> cases h
  · exact ⟨‹_›, rfl⟩
  · exact ⟨Bool.not_eq_true _ ▸ ‹_›, rfl⟩

theorem chaseF_inv {ok : Nat → Bool} {p : Prop} {f : Nat → Nat} {taken : List Nat} (fuel : Nat) (s : PBufF)
    (h : FInv p f taken s.toPBuf) : FInv p f taken (PBufF.chaseF ok fuel s).1.toPBuf := by
  fun_induction PBufF.chaseF ok fuel s with
  | case1 | case2 => exact h
  | case3 _ _ _ _ _ hw => cases (write_eq hw).2; exact h
  | case4 _ s x hx _ hw ih =>
    cases (write_eq hw).2
    obtain ⟨outS, hg, ho⟩ := h
    exact ih ⟨outS ++ [s.wf], hg.move (sGet_some_mem hx), fun hp => by rw [ho hp]; exact List.range_succ.symm⟩

/-- the fuel given by `printF` suffices: when the loop ends without an exception its condition is false -/
theorem chaseF_fuel {ok : Nat → Bool} (fuel : Nat) (s : PBufF) (hf : s.buffer.length < fuel)
    (hr : (PBufF.chaseF ok fuel s).2 = .ok ()) :
    sGet (PBufF.chaseF ok fuel s).1.buffer (PBufF.chaseF ok fuel s).1.wf = none := by
  fun_induction PBufF.chaseF ok fuel s with
  | case1 => omega
  | case2 _ _ hx => exact hx
  | case3 => cases hr
  | case4 _ s x hx _ hw ih =>
    cases (write_eq hw).2
    have := sDel_length_lt hx
    exact ih (by simp only; omega) hr

theorem printF_refused {ok : Nat → Bool} {s : PBufF} {sn : Nat} (x : Nat) (h : refuses ok s sn = true) :
    s.printF ok sn x = ({ s with att := s.att + 1 }, .error ()) := by
  simp only [refuses, Bool.and_eq_true, beq_iff_eq, Bool.not_eq_true'] at h
  simp [PBufF.printF, PBufF.write, h.1, h.2]

theorem printF_store {ok : Nat → Bool} {s : PBufF} {sn : Nat} (x : Nat) (h : sn ≠ s.wf) :
    s.printF ok sn x = ({ s with buffer := sSet s.buffer sn x }, .ok false) := by
  simp [PBufF.printF, h]

theorem printF_own {ok : Nat → Bool} {s : PBufF} {sn : Nat} (x : Nat) (hsn : sn = s.wf) (hok : ok s.att = true) :
    s.printF ok sn x =
      (let r := PBufF.chaseF ok (s.buffer.length + 1) ⟨⟨s.buffer, s.wf + 1, s.out ++ [x]⟩, s.att + 1⟩
       (r.1, r.2.map fun _ => true)) := by
  simp only [PBufF.printF, PBufF.write, hsn, hok, if_true]
  rcases PBufF.chaseF ok (s.buffer.length + 1) ⟨⟨s.buffer, s.wf + 1, s.out ++ [x]⟩, s.att + 1⟩ with ⟨s2, (_ | _)⟩ <;> rfl

theorem printF_inv {ok : Nat → Bool} {p : Prop} {f : Nat → Nat} {taken : List Nat} {s : PBufF} {sn : Nat}
    (h : FInv p f taken s.toPBuf) (hsn : sn ∉ taken) (hr : refuses ok s sn = false) :
    FInv p f (taken ++ [sn]) (s.printF ok sn (f sn)).1.toPBuf := by
  obtain ⟨outS, hg, ho⟩ := h
  by_cases hw : sn = s.wf
  · rw [printF_own (f sn) hw (by simpa [refuses, hw] using hr)]
    exact chaseF_inv _ _ ⟨outS ++ [sn], hg.own hsn, fun hp => by rw [ho hp, hw]; exact List.range_succ.symm⟩
  · rw [printF_store _ hw]
    exact ⟨outS, hg.store hsn, ho⟩

theorem flushLoop_inv {ok : Nat → Bool} {f : Nat → Nat} {taken : List Nat} (l : Store) (s : PBufF) (last : Int)
    (outS : List Nat) (h : GInv f taken outS s.buffer s.out) (hp : l.Perm s.buffer) :
    let r := PBufF.flushLoop ok l s last
    ∃ outS', GInv f taken outS' r.1.buffer r.1.out ∧ (r.2.2 = true → r.1.buffer = [] ∧ outS' = outS ++ keys l) := by
  fun_induction PBufF.flushLoop ok l s last generalizing outS with
  | case1 => exact ⟨outS, h, fun _ => ⟨hp.symm.eq_nil, (List.append_nil _).symm⟩⟩
  | case2 _ _ _ _ _ _ hw => cases (write_eq hw).2; exact ⟨outS, h, nofun⟩
  | case3 k v r s _ _ hw ih =>
    cases (write_eq hw).2
    obtain ⟨outS', hinv, hfin⟩ := ih (outS ++ [k]) (h.move (hp.mem_iff.1 List.mem_cons_self))
      (perm_sDel_tail hp h.keys_nd)
    exact ⟨outS', hinv, fun hr => ⟨(hfin hr).1, by rw [(hfin hr).2, List.append_assoc]; rfl⟩⟩

theorem flushLoop_all_ok {ok : Nat → Bool} (l : Store) (s : PBufF) (last : Int)
    (hok : ∀ n, s.att ≤ n → ok n = true) : (PBufF.flushLoop ok l s last).2.2 = true := by
  fun_induction PBufF.flushLoop ok l s last with
  | case1 => rfl
  | case2 _ _ _ _ _ _ hw => exact (write_eq hw).1.symm.trans (hok _ (Nat.le_refl _))
  | case3 _ _ _ _ _ _ hw ih => cases (write_eq hw).2; exact ih fun n hn => hok n (Nat.le_of_succ_le hn)

/-- `r.2.1` is the Python variable `serial_number`: after a loop that ran to its end the last key, or still its initial
value. -/
theorem flushLoop_done {ok : Nat → Bool} (l : Store) (s : PBufF) (last : Int)
    (hr : (PBufF.flushLoop ok l s last).2.2 = true) :
    let r := PBufF.flushLoop ok l s last
    r.1.out = s.out ++ l.map (·.2) ∧
    (∀ q, q ∈ r.1.buffer ↔ (q ∈ s.buffer ∧ q.1 ∉ keys l)) ∧
    r.2.1 = (match l.getLast? with | none => last | some p => (p.1 : Int)) := by
  fun_induction PBufF.flushLoop ok l s last with
  | case1 => exact ⟨(List.append_nil _).symm, fun q => by simp [keys], rfl⟩
  | case2 => cases hr
  | case3 k v r s _ _ hw ih =>
    cases (write_eq hw).2
    obtain ⟨h1, h2, h3⟩ := ih hr
    refine ⟨by rw [h1]; simp, fun q => ?_, ?_⟩
    · rw [h2]
      simp only [sDel, List.mem_filter, decide_eq_true_eq, keys, List.map_cons, List.mem_cons, not_or, and_assoc]
    · rw [h3, List.getLast?_cons]
      cases r.getLast? <;> rfl

theorem flushF_loop (ok : Nat → Bool) (s : PBufF) :
    let r := PBufF.flushLoop ok (sortedEntries s.buffer) s ((s.wf : Int) - 1)
    (s.flushF ok).1.buffer = r.1.buffer ∧ (s.flushF ok).1.out = r.1.out ∧
    ((s.flushF ok).2 = .ok () ↔ r.2.2 = true) ∧ (r.2.2 = true → (s.flushF ok).1.wf = (r.2.1 + 1).toNat) := by
  unfold PBufF.flushF sortedEntries
  dsimp only
  split <;> simp [*]

theorem flushF_inv {ok : Nat → Bool} {f : Nat → Nat} {taken outS : List Nat} {s : PBufF}
    (h : GInv f taken outS s.buffer s.out) :
    ∃ outS', GInv f taken outS' (s.flushF ok).1.buffer (s.flushF ok).1.out ∧
      ((s.flushF ok).2 = .ok () →
        (s.flushF ok).1.buffer = [] ∧
        outS' = outS ++ keys (sortedEntries s.buffer)) := by
  obtain ⟨e1, e2, e3, -⟩ := flushF_loop ok s
  rw [e1, e2, e3]
  exact flushLoop_inv _ s _ outS h (sorted_spec s.buffer h.keys_nd).1

/-- Recovery: when the stream works from now on, `flush` does not raise, empties the buffer, and the output then contains
the value of every serial taken exactly once (`outS`: the serials in output order; what had been written stays in front);
without an earlier `flush` the output is in ascending serial order. -/
theorem flushF_recovers {ok : Nat → Bool} {p : Prop} {f : Nat → Nat} {taken : List Nat} {s : PBufF}
    (h : FInv p f taken s.toPBuf) (hok : ∀ n, s.att ≤ n → ok n = true) :
    let r := s.flushF ok
    r.2 = .ok () ∧ r.1.buffer = [] ∧
    ∃ outS : List Nat, r.1.out = outS.map f ∧ outS.Perm taken ∧ taken.Nodup ∧
      (∃ rest, r.1.out = s.out ++ rest) ∧
      (p → outS.Pairwise (· < ·)) := by
  obtain ⟨outS, h, ho⟩ := h
  have hres : (s.flushF ok).2 = .ok () := (flushF_loop ok s).2.2.1.2 (flushLoop_all_ok _ s _ hok)
  obtain ⟨outS', h', hfin⟩ := flushF_inv (ok := ok) h
  obtain ⟨hb, rfl⟩ := hfin hres
  obtain ⟨hperm, hlt⟩ := sorted_spec s.buffer h.keys_nd
  refine ⟨hres, hb, _, h'.out_eq, ?_, h.nd, ⟨_, by rw [h'.out_eq, h.out_eq, List.map_append]⟩, fun hp => ?_⟩
  · have := h'.perm
    rw [hb] at this
    simpa [keys] using this.symm
  · -- the stored serials are not below `waiting_for`
    cases ho hp
    refine List.pairwise_append.2 ⟨List.pairwise_lt_range, hlt, fun a ha b hb' => ?_⟩
    exact Nat.lt_of_lt_of_le (List.mem_range.1 ha) (h.key_ge ((hperm.map Prod.fst).mem_iff.1 hb'))

instance decFresh (ok : Nat → Bool) (f : Nat → Nat) : (g : GSt) → (evs : List EvF) → Decidable (Fresh ok f g evs)
  | _, [] => isTrue trivial
  | g, .print sn :: r =>
    have := decFresh ok f (stepG ok f g (.print sn)) r
    inferInstanceAs (Decidable (sn ∉ g.taken ∧ Fresh ok f (stepG ok f g (.print sn)) r))
  | g, .flush :: r => decFresh ok f (stepG ok f g .flush) r

instance (evs : List EvF) : Decidable (noFlush evs) := inferInstanceAs (Decidable (∀ e ∈ evs, e ≠ EvF.flush))

theorem runG_cons (ok : Nat → Bool) (f : Nat → Nat) (g : GSt) (e : EvF) (r : List EvF) :
    runG ok f g (e :: r) = runG ok f (stepG ok f g e) r := rfl

theorem runG_append (ok : Nat → Bool) (f : Nat → Nat) (g : GSt) (e1 e2 : List EvF) :
    runG ok f g (e1 ++ e2) = runG ok f (runG ok f g e1) e2 := by
  simp [runG, List.foldl_append]

theorem stepG_print_refused {ok : Nat → Bool} {f : Nat → Nat} {g : GSt} {sn : Nat} (h : refuses ok g.st sn = true) :
    stepG ok f g (.print sn) = ⟨{ g.st with att := g.st.att + 1 }, g.taken, g.refused ++ [sn]⟩ := by
  simp only [stepG, h, if_true, printF_refused (f sn) h]

theorem stepG_print_taken {ok : Nat → Bool} {f : Nat → Nat} {g : GSt} {sn : Nat} (h : refuses ok g.st sn = false) :
    stepG ok f g (.print sn) = ⟨(g.st.printF ok sn (f sn)).1, g.taken ++ [sn], g.refused⟩ := by
  simp [stepG, h]

/-- only `flush` may end the ascending order of the output -/
theorem stepG_inv {ok : Nat → Bool} {p : Prop} {f : Nat → Nat} {g : GSt} (h : FInv p f g.taken g.st.toPBuf) (e : EvF)
    (hfresh : ∀ sn, e = .print sn → sn ∉ g.taken) :
    FInv (p ∧ e ≠ .flush) f (stepG ok f g e).taken (stepG ok f g e).st.toPBuf := by
  have h' : FInv (p ∧ e ≠ .flush) f g.taken g.st.toPBuf := h.mono And.left
  cases e with
  | print sn =>
    cases hr : refuses ok g.st sn
    · rw [stepG_print_taken hr]
      exact printF_inv h' (hfresh sn rfl) hr
    · rw [stepG_print_refused hr]
      exact h'
  | flush =>
    obtain ⟨outS, hg, -⟩ := h
    obtain ⟨outS', hg', -⟩ := flushF_inv (ok := ok) hg
    exact ⟨outS', hg', fun hp => absurd rfl hp.2⟩

theorem runG_inv {ok : Nat → Bool} {p : Prop} {f : Nat → Nat} (evs : List EvF) (g : GSt)
    (h : FInv p f g.taken g.st.toPBuf) (hf : Fresh ok f g evs) :
    FInv (p ∧ noFlush evs) f (runG ok f g evs).taken (runG ok f g evs).st.toPBuf := by
  induction evs generalizing g p with
  | nil => exact h.mono And.left
  | cons e r ih =>
    have hfr : (∀ sn, e = .print sn → sn ∉ g.taken) ∧ Fresh ok f (stepG ok f g e) r := by
      cases e with
      | print sn => exact ⟨fun sn' e' => by cases e'; exact hf.1, hf.2⟩
      | flush => exact ⟨nofun, hf⟩
    exact (ih _ (stepG_inv (ok := ok) h e hfr.1) hfr.2).mono fun hp =>
      ⟨⟨hp.1, hp.2 e List.mem_cons_self⟩, fun e' he' => hp.2 e' (List.mem_cons_of_mem _ he')⟩

theorem taken_refused_perm {ok : Nat → Bool} {f : Nat → Nat} (evs : List EvF) (g : GSt) :
    ((runG ok f g evs).taken ++ (runG ok f g evs).refused).Perm (g.taken ++ g.refused ++ printed evs) := by
  induction evs generalizing g with
  | nil => simp [runG, printed]
  | cons e r ih =>
    rw [runG_cons]
    refine (ih _).trans ?_
    cases e with
    | print sn =>
      cases hr : refuses ok g.st sn
      · rw [stepG_print_taken hr]
        simp only [printed, List.append_assoc, List.singleton_append]
        exact List.Perm.append_left _ List.perm_middle.symm
      · rw [stepG_print_refused hr]
        simp [printed]
    | flush => simp [stepG, printed]

/-- unique serial numbers (the docstring's demand) make every `print` call fresh -/
theorem fresh_of_nodup_aux {ok : Nat → Bool} {f : Nat → Nat} (evs : List EvF) (g : GSt)
    (hd : ∀ i ∈ g.taken ++ g.refused, i ∉ printed evs) (hnd : (printed evs).Nodup) : Fresh ok f g evs := by
  induction evs generalizing g with
  | nil => trivial
  | cons e r ih =>
    -- the serials taken or refused after the call are those before it and the call's own
    have hp := fun i => (taken_refused_perm (ok := ok) (f := f) [e] g).mem_iff (a := i)
    cases e with
    | print sn =>
      simp only [printed, List.nodup_cons] at hnd
      refine ⟨fun hm => hd sn (List.mem_append_left _ hm) (by simp [printed]), ih _ (fun i hi => ?_) hnd.2⟩
      rcases List.mem_append.1 ((hp i).1 hi) with h | h
      · exact fun hm => hd i h (by simp [printed, hm])
      · exact List.mem_singleton.1 h ▸ hnd.1
    | flush =>
      exact ih _ (fun i hi => by simpa [printed] using hd i (by simpa [printed] using (hp i).1 hi))
        (by simpa [printed] using hnd)

theorem fresh_of_nodup (ok : Nat → Bool) (f : Nat → Nat) (evs : List EvF) (hnd : (printed evs).Nodup) :
    Fresh ok f GSt.init evs :=
  fresh_of_nodup_aux evs GSt.init (fun _ hi => nomatch hi) hnd

/-- Nothing is lost, in the general form: no `print` call for a serial whose value has already been taken (calling again
after a refusal is allowed), any failure oracle, `flush` calls anywhere.  The serials taken are exactly the written ones and
the stored ones, each once (`GInv`), in order while there was no `flush`; every `print` call has either taken its value or
refused it (raised at its first write, state unchanged — `printF_refused`). -/
theorem runG_init_inv (ok : Nat → Bool) (f : Nat → Nat) (evs : List EvF) (hf : Fresh ok f GSt.init evs) :
    let g := runG ok f GSt.init evs
    FInv (noFlush evs) f g.taken g.st.toPBuf ∧ (g.taken ++ g.refused).Perm (printed evs) :=
  ⟨(runG_inv (p := True) evs GSt.init ⟨[], GInv.empty f, fun _ => rfl⟩ hf).mono fun hp => ⟨trivial, hp⟩,
    by simpa [GSt.init] using taken_refused_perm (ok := ok) (f := f) evs GSt.init⟩

/-- a serial fed once is in exactly one of three places: written, stored, refused -/
theorem three_places {outS ks taken refused all : List Nat} (h1 : taken.Perm (outS ++ ks))
    (h2 : (taken ++ refused).Perm all) (hnd : all.Nodup) :
    (outS ++ ks ++ refused).Perm all ∧
    (∀ i, i ∈ all → outS.count i + ks.count i + refused.count i = 1) ∧
    (∀ i, i ∈ refused → i ∉ taken) := by
  have hp : (outS ++ ks ++ refused).Perm all := (List.Perm.append_right _ h1.symm).trans h2
  refine ⟨hp, fun i hi => ?_, fun i hr ht => (List.nodup_append.1 (h2.symm.nodup hnd)).2.2 i ht i hr rfl⟩
  have hc := hp.count_eq i
  rw [List.count_append, List.count_append] at hc
  have := List.nodup_iff_count.1 hnd i
  have := List.count_pos_iff.2 hi
  omega

theorem chaseF_allOk (fuel : Nat) (s : PBufF) :
    (PBufF.chaseF (fun _ => true) fuel s).1.toPBuf = PBuf.chase fuel s.toPBuf ∧
    (PBufF.chaseF (fun _ => true) fuel s).2 = .ok () := by
  fun_induction PBufF.chaseF (fun _ => true) fuel s with
  | case1 => exact ⟨rfl, rfl⟩
  | case2 _ _ hx => simp [PBuf.chase, hx]
  | case3 _ _ _ _ _ hw => cases (write_eq hw).1
  | case4 _ _ _ hx _ hw ih =>
    cases (write_eq hw).2
    simp only [PBuf.chase, hx]
    exact ih

theorem printF_allOk (s : PBufF) (sn x : Nat) :
    (s.printF (fun _ => true) sn x).1.toPBuf = (s.toPBuf.print sn x).1 ∧
    (s.printF (fun _ => true) sn x).2 = .ok (s.toPBuf.print sn x).2 := by
  by_cases hw : sn = s.wf
  · subst hw
    obtain ⟨c1, c2⟩ := chaseF_allOk (s.buffer.length + 1) ⟨⟨s.buffer, s.wf + 1, s.out ++ [x]⟩, s.att + 1⟩
    simp [printF_own (ok := fun _ => true) x rfl rfl, c1, c2, PBuf.print, Except.map]
  · rw [printF_store x hw]
    simp [PBuf.print, hw]

theorem flushF_allOk (s : PBufF) :
    (s.flushF (fun _ => true)).1.toPBuf = s.toPBuf.flush ∧ (s.flushF (fun _ => true)).2 = .ok () := by
  have hperm : (sortedEntries s.buffer).Perm s.buffer := List.mergeSort_perm s.buffer _
  have hflag := flushLoop_all_ok (ok := fun _ => true) (sortedEntries s.buffer) s
    ((s.wf : Int) - 1) (fun _ _ => rfl)
  obtain ⟨e1, e2, e3, e4⟩ := flushF_loop (fun _ => true) s
  obtain ⟨hout, hmem, hlast⟩ := flushLoop_done _ s _ hflag
  refine ⟨?_, e3.2 hflag⟩
  have hfl := s.toPBuf.flush_eq
  have hto : (s.flushF (fun _ => true)).1.toPBuf =
      ⟨(s.flushF (fun _ => true)).1.buffer, (s.flushF (fun _ => true)).1.wf, (s.flushF (fun _ => true)).1.out⟩ := rfl
  rw [hto, e1, e2, e4 hflag, hout, hlast, hfl]
  generalize sortedEntries s.buffer = sorted at *
  -- every entry of the buffer is in `sorted`, so its key has been deleted
  have hempty : (PBufF.flushLoop (fun _ => true) sorted s ((s.wf : Int) - 1)).1.buffer = [] :=
    List.eq_nil_iff_forall_not_mem.2 fun q hq =>
      ((hmem q).1 hq).2 (List.mem_map_of_mem (hperm.mem_iff.2 ((hmem q).1 hq).1))
  rw [hempty]
  cases hg : sorted.getLast? with
  | none =>
    cases List.getLast?_eq_none_iff.1 hg
    obtain ⟨⟨b, w, o⟩, a⟩ := s
    cases (hperm.symm.eq_nil : b = [])
    simp
  | some p => simp

/-- the histories of `printbuffer_in_order` are the special case -/
theorem runG_allOk (f : Nat → Nat) (sns : List Nat) (g : GSt) :
    (runG (fun _ => true) f g (sns.map .print)).st.toPBuf = runP f g.st.toPBuf sns ∧
    (runG (fun _ => true) f g (sns.map .print)).taken = g.taken ++ sns := by
  induction sns generalizing g with
  | nil => exact ⟨rfl, (List.append_nil _).symm⟩
  | cons sn r ih =>
    rw [List.map_cons, runG_cons, stepG_print_taken (by simp [refuses])]
    obtain ⟨h1, h2⟩ := ih ⟨(g.st.printF (fun _ => true) sn (f sn)).1, g.taken ++ [sn], g.refused⟩
    exact ⟨by rw [h1, runP, (printF_allOk g.st sn (f sn)).1], by rw [h2, List.append_assoc]; rfl⟩

end WindVerif.Buffers
