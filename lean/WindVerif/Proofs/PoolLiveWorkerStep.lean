import WindVerif.Proofs.PoolLiveInv
/-! Liveness of the pool model (C02): what a worker step does, in a form all preservation proofs share. -/
namespace WindVerif.Pool

/-- fields a worker step never touches -/
structure WSame (s s' : St) : Prop where
  cfg : s'.cfg = s.cfg
  cpc : s'.cpc = s.cpc
  procs : s'.procs = s.procs
  rpc : s'.rpc = s.rpc
  rAlive : s'.rAlive = s.rAlive
  widCounter : s'.widCounter = s.widCounter
  sending : s'.sending = s.sending
  dataCnt : s'.dataCnt = s.dataCnt
  fRun : s'.fRun = s.fRun
  fStop : s'.fStop = s.fStop
  cur : s'.cur = s.cur
  callsLeft : s'.callsLeft = s.callsLeft
  callNo : s'.callNo = s.callNo
  finished : s'.finished = s.finished
  batch : s'.batch = s.batch
  woken : s'.woken = s.woken
  buffer : s'.buffer = s.buffer
  wf : s'.wf = s.wf
  out : s'.out = s.out
  fpc : s'.fpc = s.fpc
  fNext : s'.fNext = s.fNext
  fTotal : s'.fTotal = s.fTotal
  fAlive : s'.fAlive = s.fAlive
  fRead : s'.fRead = s.fRead

/-- the kinds of worker steps (no faults; quota ≥ 1): `w` before, `w'` after -/
inductive WKind (s s' : St) (w w' : Worker) : Prop
  | bfClear (hpc : w.pc = .bfClear) (hpc' : w'.pc = .bfSet) (hh : w'.held = w.held) (hfl : w'.full = w.full)
      (hbf : w'.bf = false) (hwq : s'.workQ = s.workQ) (hrq : s'.resQ = s.resQ) (hpq : s'.replQ = s.replQ)
      (hlk : s'.lock = s.lock)
  | bfSet (hpc : w.pc = .bfSet) (hpc' : w'.pc = .get) (hh : w'.held = w.held) (hfl : w'.full = w.full)
      (hbf : w'.bf = true) (hwq : s'.workQ = s.workQ) (hrq : s'.resQ = s.resQ) (hpq : s'.replQ = s.replQ)
      (hlk : s'.lock = s.lock)
  | getNone (hpc : w.pc = .get) (hpc' : w'.pc = .ending) (hh : w'.held = none) (hfl : w'.full = w.full)
      (hbf : w'.bf = w.bf) (hwq : s.workQ = none :: s'.workQ) (hrq : s'.resQ = s.resQ) (hpq : s'.replQ = s.replQ)
      (hlk : s'.lock = s.lock)
  | getSome (i : Nat) (hpc : w.pc = .get) (hpc' : w'.pc = .lockAcq) (hh : w'.held = some i) (hfl : w'.full = w.full)
      (hbf : w'.bf = w.bf) (hwq : s.workQ = some i :: s'.workQ) (hrq : s'.resQ = s.resQ) (hpq : s'.replQ = s.replQ)
      (hlk : s'.lock = s.lock)
  | lockAcq (hpc : w.pc = .lockAcq) (hpc' : w'.pc = .putNowait) (hh : w'.held = w.held) (hfl : w'.full = w.full)
      (hbf : w'.bf = w.bf) (hwq : s'.workQ = s.workQ) (hrq : s'.resQ = s.resQ) (hpq : s'.replQ = s.replQ)
      (hlk : s.lock = none) (hlk' : s'.lock = some (.w w.wid))
  | putFull (i : Nat) (hpc : w.pc = .putNowait) (hpc' : w'.pc = .lockRel) (hheld : w.held = some i) (hh : w'.held = w.held)
      (hfl : w'.full = true) (hbf : w'.bf = w.bf) (hcap : capFull s.cfg.resCap s.resQ = true)
      (hwq : s'.workQ = s.workQ) (hrq : s'.resQ = s.resQ) (hpq : s'.replQ = s.replQ) (hlk : s'.lock = s.lock)
  | putOk (i : Nat) (hpc : w.pc = .putNowait) (hpc' : w'.pc = .lockRel) (hheld : w.held = some i) (hh : w'.held = none)
      (hfl : w'.full = false) (hbf : w'.bf = w.bf) (hcap : capFull s.cfg.resCap s.resQ = false)
      (hwq : s'.workQ = s.workQ) (hrq : s'.resQ = s.resQ ++ [some i]) (hpq : s'.replQ = s.replQ) (hlk : s'.lock = s.lock)
  | relFull (hpc : w.pc = .lockRel) (hfull : w.full = true) (hpc' : w'.pc = .putBlock) (hh : w'.held = w.held)
      (hfl : w'.full = w.full) (hbf : w'.bf = w.bf) (hwq : s'.workQ = s.workQ) (hrq : s'.resQ = s.resQ)
      (hpq : s'.replQ = s.replQ) (hlk' : s'.lock = none)
  | relOk (hpc : w.pc = .lockRel) (hfull : w.full = false)
      (hpc' : w'.pc = .get ∨ (w'.pc = .retire ∧ s.cfg.factory = true)) (hh : w'.held = w.held)
      (hfl : w'.full = w.full) (hbf : w'.bf = w.bf) (hwq : s'.workQ = s.workQ) (hrq : s'.resQ = s.resQ)
      (hpq : s'.replQ = s.replQ) (hlk' : s'.lock = none)
  | putBlock (i : Nat) (hpc : w.pc = .putBlock) (hheld : w.held = some i)
      (hpc' : w'.pc = .get ∨ (w'.pc = .retire ∧ s.cfg.factory = true)) (hh : w'.held = none)
      (hfl : w'.full = false) (hbf : w'.bf = w.bf) (hcap : capFull s.cfg.resCap s.resQ = false)
      (hwq : s'.workQ = s.workQ) (hrq : s'.resQ = s.resQ ++ [some i]) (hpq : s'.replQ = s.replQ) (hlk : s'.lock = s.lock)
  -- the wid is posted, `end()` is still to run
  | retireT (hpc : w.pc = .retire) (hpc' : w'.pc = .ending) (hh : w'.held = none) (hfl : w'.full = w.full)
      (hbf : w'.bf = w.bf) (hwq : s'.workQ = s.workQ) (hrq : s'.resQ = s.resQ) (hpq : s'.replQ = s.replQ ++ [some w.wid])
      (hlk : s'.lock = s.lock)
  -- `end()` and the exit of a worker that has taken a stop order / posted its wid
  | ending (hpc : w.pc = .ending) (hpc' : w'.pc = .exited) (hh : w'.held = none) (hfl : w'.full = w.full)
      (hbf : w'.bf = w.bf) (hwq : s'.workQ = s.workQ) (hrq : s'.resQ = s.resQ) (hpq : s'.replQ = s.replQ)
      (hlk : s'.lock = s.lock)

structure WStep (s s' : St) (wid : Nat) (w w' : Worker) : Prop where
  get : getWorker s wid = some w
  mem : w ∈ s.workers
  wid : w.wid = wid
  wid' : w'.wid = w.wid
  workers : s'.workers = upd w.wid w' s.workers
  same : WSame s s'
  kind : WKind s s' w w'

theorem WSame_upd {s : St} {wq rq pq : List (Option Nat)} {l : Option Tid} {w' : Worker} :
    WSame s (setWorker { s with workQ := wq, resQ := rq, replQ := pq, lock := l } w') :=
  ⟨rfl, rfl, rfl, rfl, rfl, rfl, rfl, rfl, rfl, rfl, rfl, rfl, rfl, rfl, rfl, rfl, rfl, rfl, rfl, rfl, rfl, rfl, rfl, rfl⟩

theorem workerLoopTop_cases (f : Bool) (w : Worker) :
    ((workerLoopTop f w).pc = .get ∨ ((workerLoopTop f w).pc = .retire ∧ f = true) ∨
      ((workerLoopTop f w).pc = .ending ∧ f = false ∧ w.quota = some 0)) ∧
    ((workerLoopTop f w).pc ≠ .ending → (workerLoopTop f w).held = w.held) ∧
    (workerLoopTop f w).full = w.full ∧ (workerLoopTop f w).bf = w.bf ∧ (workerLoopTop f w).wid = w.wid := by
  unfold workerLoopTop workerEnding
  split
  · rename_i hq
    cases f <;> simp [hq]
  · simp

theorem WStep_mk {s : St} {wid : Nat} {w w' : Worker} {wq rq pq : List (Option Nat)} {l : Option Tid}
    (hg : getWorker s wid = some w) (hwid' : w'.wid = w.wid)
    (hk : WKind s (setWorker { s with workQ := wq, resQ := rq, replQ := pq, lock := l } w') w w') :
    ∃ v v', WStep s (setWorker { s with workQ := wq, resQ := rq, replQ := pq, lock := l } w') wid v v' :=
  ⟨w, w', hg, (getWorker_some hg).1, (getWorker_some hg).2, hwid', by rw [setWorker_workers, hwid'], WSame_upd, hk⟩

theorem stepW_cases {s s' : St} {wid : Nat} (hf : NoFaults s.cfg) (hwc : WellCfg s.cfg) (hL : LInv s)
    (h : stepW s wid = some s') : ∃ w w', WStep s s' wid w w' := by
  obtain ⟨w, hg, hC⟩ := stepW_cases' h
  obtain ⟨hwm, hwid⟩ := getWorker_some hg
  have hW := hL.wk w hwm
  -- the loop top never ends a worker of a plain pool, nor retires a worker that has done nothing
  have hplain : s.cfg.factory = false → w.quota = none := by
    intro hfac
    rw [hW.quota]
    cases hq : s.cfg.quota with
    | none => rfl
    | some q => have := (hwc.2.2.1 q hq).2; rw [hfac] at this; cases this
  have hloop : ∀ w1 : Worker, (w1.quota = w.quota.map (· - 1)) →
      ((workerLoopTop s.cfg.factory w1).pc = .get ∨ ((workerLoopTop s.cfg.factory w1).pc = .retire ∧ s.cfg.factory = true)) ∧
      (workerLoopTop s.cfg.factory w1).held = w1.held ∧ (workerLoopTop s.cfg.factory w1).full = w1.full ∧
      (workerLoopTop s.cfg.factory w1).bf = w1.bf ∧ (workerLoopTop s.cfg.factory w1).wid = w1.wid := by
    intro w1 hq1
    obtain ⟨h1, h2, h3, h4, h5⟩ := workerLoopTop_cases s.cfg.factory w1
    have hpc' : (workerLoopTop s.cfg.factory w1).pc = .get ∨ ((workerLoopTop s.cfg.factory w1).pc = .retire ∧ s.cfg.factory = true) := by
      rcases h1 with h1 | h1 | ⟨_, hfac, hq⟩
      · exact Or.inl h1
      · exact Or.inr h1
      · exfalso; rw [hq1, hplain hfac] at hq; cases hq
    refine ⟨hpc', h2 ?_, h3, h4, h5⟩
    rcases hpc' with h | ⟨h, _⟩ <;> rw [h] <;> exact nofun
  cases hC with
  | beginFault _ hb => rw [hf.1] at hb; cases hb
  | itemFault _ _ hi => rw [hf.2] at hi; cases hi
  | begin hpc => exact WStep_mk hg rfl (.bfClear hpc rfl rfl rfl rfl rfl rfl rfl rfl)
  | bfSet hpc =>
    obtain ⟨h1, h2, h3, h4, h5⟩ := workerLoopTop_cases s.cfg.factory { w with bf := true }
    have hget : (workerLoopTop s.cfg.factory { w with bf := true }).pc = .get := by
      have hq0 : w.quota ≠ some 0 := by
        rw [hW.quota]
        have hd : w.done = 0 := by have := hW.cnt; simp only [hpc] at this; exact this.1
        cases hq : s.cfg.quota with
        | none => exact nofun
        | some q => have := (hwc.2.2.1 q hq).1; simp [hd]; omega
      unfold workerLoopTop
      split
      · rename_i hq; exact absurd hq hq0
      · rfl
    exact WStep_mk hg h5 (.bfSet hpc hget (h2 (by rw [hget]; exact nofun)) h3 h4 rfl rfl rfl rfl)
  | getStop hpc hq => exact WStep_mk hg rfl (.getNone hpc rfl rfl rfl rfl hq rfl rfl rfl)
  | @item i _ hpc hq => exact WStep_mk hg rfl (.getSome i hpc rfl rfl rfl rfl hq rfl rfl rfl)
  | lockAcq hpc hl =>
    exact WStep_mk hg rfl (.lockAcq hpc rfl rfl rfl rfl rfl rfl rfl (by simpa using hl) (by rw [hwid]; rfl))
  | @putFull i hpc hheld hcap => exact WStep_mk hg rfl (.putFull i hpc rfl hheld rfl rfl rfl hcap rfl rfl rfl rfl)
  | @putNowait i hpc hheld hcap =>
    exact WStep_mk hg rfl (.putOk i hpc rfl hheld rfl rfl rfl (by simpa using hcap) rfl rfl rfl rfl)
  | relFull hpc hfull => exact WStep_mk hg rfl (.relFull hpc hfull rfl rfl rfl rfl rfl rfl rfl rfl)
  | relDone hpc hfull =>
    obtain ⟨h1, h2, h3, h4, h5⟩ := hloop { w with done := w.done + 1, quota := w.quota.map (· - 1) } rfl
    exact WStep_mk hg h5 (.relOk hpc (by simpa using hfull) h1 h2 h3 h4 rfl rfl rfl rfl)
  | @putBlock i hpc hheld hcap =>
    obtain ⟨h1, h2, h3, h4, h5⟩ := hloop
      { w with full := false, held := none, done := w.done + 1, quota := w.quota.map (· - 1) } rfl
    exact WStep_mk hg h5 (.putBlock i hpc hheld h1 h2 h3 h4 (by simpa using hcap) rfl rfl rfl rfl)
  | retire hpc => exact WStep_mk hg rfl (.retireT hpc rfl rfl rfl rfl rfl rfl (by rw [hwid]; rfl) rfl)
  | ending hpc => exact WStep_mk hg rfl (.ending hpc rfl rfl rfl rfl rfl rfl rfl rfl)

theorem countP_upd {l : List Worker} (p : Worker → Bool) (hnd : (l.map (·.wid)).Nodup) {w w' : Worker} (hw : w ∈ l) :
    (upd w.wid w' l).countP p + (if p w then 1 else 0) = l.countP p + (if p w' then 1 else 0) := by
  induction l with
  | nil => cases hw
  | cons x r ih =>
    simp only [List.map_cons, List.nodup_cons, List.mem_map, not_exists, not_and] at hnd
    have hupd : upd w.wid w' (x :: r) = (if x.wid = w.wid then w' else x) :: upd w.wid w' r := rfl
    rcases List.mem_cons.1 hw with rfl | hw'
    · -- the head is the worker; the tail is untouched
      have htail : upd w.wid w' r = r := by
        unfold upd
        conv => rhs; rw [← List.map_id r]
        apply List.map_congr_left
        intro y hy
        have : y.wid ≠ w.wid := fun e => hnd.1 y hy e
        simp [this]
      rw [hupd, htail]
      simp only [if_true, List.countP_cons]
      omega
    · have hne : x.wid ≠ w.wid := fun e => hnd.1 w hw' e.symm
      rw [hupd, if_neg hne]
      simp only [List.countP_cons]
      have := ih hnd.2 hw'
      omega

theorem liveCnt_upd {s s' : St} {w w' : Worker} (hL : LInv s) (hw : w ∈ s.workers) (h : s'.workers = upd w.wid w' s.workers) :
    liveCnt s' + (if gone w.pc = true then 0 else 1) = liveCnt s + (if gone w'.pc = true then 0 else 1) := by
  unfold liveCnt; rw [h]
  have := countP_upd (fun x => !gone x.pc) hL.nodup (w' := w') hw
  cases h1 : gone w.pc <;> cases h2 : gone w'.pc <;> simp [h1, h2] at this ⊢ <;> omega

end WindVerif.Pool
