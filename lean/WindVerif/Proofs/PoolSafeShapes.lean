import WindVerif.Proofs.PoolSafeThreads
/-!
The shapes the steps of the consumer share: a move between pcs with the same control signature (`safe_move`), the start of
the next call (`toNextCall`), a batch of results (`afterResults`).
-/
namespace WindVerif.Pool
open List

/-- the bits of the signature the control part looks at -/
def ctlBits (g : CSig) : List Bool := [g.pre, g.post, g.exit, g.rd, g.rj, g.ws, g.wd, g.fs]

/-- the fields the invariant reads that a bookkeeping step of the consumer leaves alone -/
def sview (s : St) :=
  (s.cur, s.fpc, s.sending, s.dataCnt, s.fNext, s.fTotal, s.fRead, s.fAlive, s.fStop, s.finished, s.workers, s.buffer, s.wf,
    s.out, s.callNo, s.widCounter)

/-- The consumer moves to a pc with the same control signature; fields the invariant does not look at may change, queues
may change by wake-up tokens / stop orders.  The old pc is a variable, to be instantiated by the equation of the case at
hand, so that the conditions on the two pcs are closed by evaluation. -/
theorem safe_move {s s' : St} {pc : CPc} (h : SafeInv s) (hpc : s.cpc = pc) (e : sview s' = sview s)
    (hbits : ctlBits (csig s'.cpc) = ctlBits (csig pc))
    (hwq : chunksOf s'.workQ = chunksOf s.workQ) (hrq : chunksOf s'.resQ = chunksOf s.resQ) (hbt : s'.batch = s.batch)
    (hbe : (csig s'.cpc).be = true → (csig pc).be = false → s.batch = [])
    (hrs : ∀ nw, s'.rpc = .start nw → s.rpc = .start nw) (hen : (csig s'.cpc).en = true → s'.rpc = .idle) :
    SafeInv s' := by
  subst hpc
  rw [safe_iff] at h ⊢
  obtain ⟨hc, hd, ho, hw⟩ := h
  simp only [sview, Prod.mk.injEq] at e
  obtain ⟨e1, e2, e3, e4, e5, e6, e7, e8, e9, e10, e11, e12, e13, e14, e15, e16⟩ := e
  rw [e1, e2, e3, e4, e5, e6, e7, e8, e9, e10, e11, e12, e13, e14, e15, e16, hbt]
  simp only [ctlBits, cons.injEq, and_true] at hbits
  obtain ⟨b1, b2, b3, b4, b5, b6, b7, b8⟩ := hbits
  refine ⟨ctl_congr hc (sigOk_csig _) b1 b2 b3 b4 b5 b6 b7 b8, ?_, ho, wrk_rpc hw hrs hen⟩
  rw [b1, show flightL s'.workQ s.workers s'.resQ = flightL s.workQ s.workers s.resQ by unfold flightL; rw [hwq, hrq]]
  refine data_be hd fun b => ?_
  cases hb : (csig s.cpc).be
  · exact hbe b hb
  · exact hd.batchEmpty hb

theorem safe_pc {s : St} {pc : CPc} (h : SafeInv s) (hpc : s.cpc = pc) (pc' : CPc)
    (hbits : ctlBits (csig pc') = ctlBits (csig pc)) (hbe : (csig pc').be = true → (csig pc).be = false → s.batch = [])
    (hen : (csig pc').en = true → s.rpc = .idle) : SafeInv { s with cpc := pc' } :=
  safe_move h hpc rfl hbits rfl rfl rfl hbe (fun _ hr => hr) hen

theorem safe_toNextCall (s : St) (h : SafeInv s)
    (hq : (csig s.cpc).pre = true ∨ ((csig s.cpc).post = true ∧ s.fpc = .idle)) : SafeInv (toNextCall s) := by
  obtain ⟨hc, hd, ho, hw⟩ := (safe_iff s).1 h
  have hf : s.fpc = .idle := by
    rcases hq with hq | hq
    · exact hc.quiet (Or.inl hq)
    · exact hq.2
  have ha : s.fAlive = false := by rw [hc.alive, hf]; rfl
  have hquiet := data_quiet hd (by
    intro hcur
    rcases hq with hq | hq
    · rw [hq]; simp [sentV]
    · rw [sentV_run (hc.sigOk.postPre hq.1) hcur, hf]
      exact Nat.le_of_eq (hc.post hq.1).2.symm)
  have hw' : WrkV false s.rpc s.workers s.widCounter := wrk_rpc hw (fun _ hr => hr) nofun
  unfold toNextCall
  split
  · rename_i call rest hcl
    have hd' : DataV true (some call) 0 (flightL s.workQ s.workers s.resQ) [] [] 0 0 (curOutL s.out (s.callNo + 1)) := by
      rw [curOutL_of_lt s.out s.callNo (s.callNo + 1) ho (Nat.lt_succ_self _)]
      exact data_next_some hquiet.1
    have ho' : OutLe s.out (s.callNo + 1) := OutLe_mono _ _ _ ho (Nat.le_succ _)
    have hc' : CtlV (csig .rInitSet) (some call) s.fpc s.sending s.dataCnt s.fNext s.fTotal s.fRead s.fAlive s.fStop 0 :=
      ctl_idle (sigOk_csig _) (Or.inl rfl) nofun rfl rfl hf ha nofun nofun nofun
    simp only []
    split <;> exact (safe_iff _).2 ⟨hc', hd', ho', hw'⟩
  · have hd' : DataV true none (sentV false none s.fpc s.fNext s.fTotal) (flightL s.workQ s.workers s.resQ) s.batch
        s.buffer s.finished s.wf (curOutL s.out s.callNo) := by
      rw [hquiet.2.1, hquiet.2.2.1]
      exact data_next_none hquiet.1
    have hc' : CtlV (csig .done) none s.fpc s.sending s.dataCnt s.fNext s.fTotal s.fRead s.fAlive s.fStop s.finished :=
      ctl_idle (sigOk_csig _) (Or.inr rfl) (fun _ => Or.inr rfl) rfl rfl hf ha nofun nofun nofun
    simp only []
    split <;> exact (safe_iff _).2 ⟨hc', hd', ho, hw'⟩

/-- a `_get_results` has returned: the state is as the invariant says, except that the batch is not empty -/
theorem safe_afterResults (s : St) {pc : CPc} (hpc : s.cpc = pc) (hloop : ctlBits (csig pc) = ctlBits (csig .rdSending))
    (hc : CtlV (csig s.cpc) s.cur s.fpc s.sending s.dataCnt s.fNext s.fTotal s.fRead s.fAlive s.fStop s.finished)
    (hd : DataV false s.cur (sentV (csig s.cpc).pre s.cur s.fpc s.fNext s.fTotal) (flightL s.workQ s.workers s.resQ)
      s.batch s.buffer s.finished s.wf (curOutL s.out s.callNo))
    (ho : OutLe s.out s.callNo) (hw : WrkV (csig s.cpc).en s.rpc s.workers s.widCounter) :
    SafeInv (afterResults s) := by
  subst hpc
  simp only [ctlBits, cons.injEq, and_true] at hloop
  obtain ⟨e1, e2, e3, e4, e5, e6, e7, e8⟩ := hloop
  obtain ⟨call, hcall⟩ := Option.isSome_iff_exists.1 (ctl_in_call hc e1 e3)
  obtain ⟨buf', wf', em, hcb, hp, hord, hun⟩ := consumeBatch_spec s call hcall
  have hw' : WrkV false s.rpc s.workers s.widCounter := wrk_rpc hw (fun _ hr => hr) nofun
  have hc' : CtlV (csig .rdSending) s.cur s.fpc s.sending s.dataCnt s.fNext s.fTotal s.fRead s.fAlive s.fStop
      (s.finished + em.length) :=
    ctl_fin (ctl_congr hc (sigOk_csig _) e1.symm e2.symm e3.symm e4.symm e5.symm e6.symm e7.symm e8.symm) rfl
  have hd' : DataV true s.cur (sentV false s.cur s.fpc s.fNext s.fTotal) (flightL s.workQ s.workers s.resQ) [] buf'
      (s.finished + em.length) wf' (curOutL (s.out ++ em.map (fun j => (s.callNo, j))) s.callNo) := by
    rw [curOutL_append, curOutL_map_same]
    rw [e1] at hd
    exact data_consume hd hcall hp hord hun
  have ho' : OutLe (s.out ++ em.map (fun j => (s.callNo, j))) s.callNo := OutLe_append_map _ _ _ ho
  have key : ∀ pc', csig pc' = csig .rdSending → SafeInv { consumeBatch s with cpc := pc' } := by
    intro pc' hpc'
    rw [hcb, safe_iff]
    show CtlV (csig pc') _ _ _ _ _ _ _ _ _ _ ∧ DataV (csig pc').be _ (sentV (csig pc').pre _ _ _ _) _ _ _ _ _ _ ∧ _ ∧
      WrkV (csig pc').en _ _ _
    rw [hpc']
    exact ⟨hc', hd', ho', hw'⟩
  obtain ⟨c', heq, hcl⟩ := afterResults_pc s
  rw [heq]
  rcases hcl with h | h | h | ⟨wid, h⟩ <;> subst h <;> exact key _ rfl

theorem exitJoinFrom_sig (s : St) (fuel : Nat) : ∀ i, csig (exitJoinFrom s fuel i) = csig .done := by
  induction fuel with
  | zero => intro i; rfl
  | succ f ih =>
    intro i
    unfold exitJoinFrom
    split
    · rfl
    · split
      · exact ih _
      · rfl

end WindVerif.Pool
