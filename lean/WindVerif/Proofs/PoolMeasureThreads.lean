import WindVerif.Proofs.PoolMeasure
/-! Termination of the pool model (C02): the steps of the workers, the feeder and the replace thread decrease the measure. -/
namespace WindVerif.Pool

variable {s s' t : St}

theorem wWeight_none {w : Worker} (h : w.held = none) : wWeight w = wOff w.pc := by
  unfold wWeight; rw [h]; rfl

theorem wWeight_some {w : Worker} {i : Nat} (h : w.held = some i) : wWeight w = wOff w.pc + 20 := by
  unfold wWeight; rw [h]; rfl

theorem wWeight_lt {w w' : Worker} (hh : w'.held = w.held) (h : wOff w'.pc < wOff w.pc) : wWeight w' < wWeight w := by
  unfold wWeight; rw [hh]; exact Nat.add_lt_add_right h _

theorem wWeight_lt_none {w w' : Worker} (hh : w'.held = none) (h : wOff w'.pc < wOff w.pc) : wWeight w' < wWeight w := by
  rw [wWeight_none hh]; exact Nat.lt_of_lt_of_le h (Nat.le_add_right _ _)

theorem mQ_take_none (h1 : s'.resQ = s.resQ) (h2 : s.workQ = none :: s'.workQ) : mQ s = mQ s' := by
  unfold mQ; rw [h1, h2]; rfl

theorem mQ_take_some {i : Nat} (h1 : s'.resQ = s.resQ) (h2 : s.workQ = some i :: s'.workQ) : mQ s = mQ s' + 33 := by
  unfold mQ; rw [h1, h2, someCount_cons_some]; omega

theorem mQ_put {a : Option Nat} (h1 : s'.resQ = s.resQ ++ [a]) (h2 : s'.workQ = s.workQ) : mQ s' = mQ s + 20 := by
  unfold mQ; rw [h1, h2, List.length_append, List.length_singleton]; omega

theorem mQ_feed {k : Nat} (h1 : s'.resQ = s.resQ) (h2 : s'.workQ = s.workQ ++ [some k]) : mQ s' = mQ s + 33 := by
  unfold mQ; rw [h1, h2, someCount_append_some]; omega

/-- every kind of worker step lowers the weight of the worker together with what it leaves in the queues: a chunk taken
from the work queue (33) pays for its delivery and a possible retirement (14 + 20 - 2), the delivery (20 for the item on
the result queue) is paid by the chunk in hand, the wid posted to the replace queue (8) by the steps of `retire` -/
theorem WKind.weight_lt {w w' : Worker} (h : WKind s s' w w') (hr : s'.rpc = s.rpc) :
    wWeight w' + mR s' + mQ s' < wWeight w + mR s + mQ s := by
  have pure : s'.replQ = s.replQ → s'.resQ = s.resQ → s'.workQ = s.workQ → wWeight w' < wWeight w →
      wWeight w' + mR s' + mQ s' < wWeight w + mR s + mQ s := by
    intro e1 e2 e3 e4
    rw [mR_congr e1 hr, mQ_congr e2 e3]
    exact Nat.add_lt_add_right (Nat.add_lt_add_right e4 _) _
  wkcases h
  · exact pure hpq hrq hwq (wWeight_lt hh (by rw [hpc, hpc']; decide))
  · exact pure hpq hrq hwq (wWeight_lt hh (by rw [hpc, hpc']; decide))
  · rw [mR_congr hpq hr, mQ_take_none hrq hwq]
    exact Nat.add_lt_add_right (Nat.add_lt_add_right (wWeight_lt_none hh (by rw [hpc, hpc']; decide)) _) _
  · have e3 : wOff w.pc ≤ wWeight w := Nat.le_add_right _ _
    rw [hpc] at e3
    rw [mR_congr hpq hr, mQ_take_some hrq hwq, wWeight_some hh, hpc']
    simp only [wOff] at e3 ⊢; omega
  · exact pure hpq hrq hwq (wWeight_lt hh (by rw [hpc, hpc']; decide))
  · exact pure hpq hrq hwq (wWeight_lt hh (by rw [hpc, hpc']; decide))
  · rw [mR_congr hpq hr, mQ_put hrq hwq, wWeight_none hh, wWeight_some hheld, hpc, hpc']
    simp only [wOff]; omega
  · exact pure hpq hrq hwq (wWeight_lt hh (by rw [hpc, hpc']; decide))
  · refine pure hpq hrq hwq (wWeight_lt hh ?_)
    rcases hpc' with hp | ⟨hp, _⟩ <;> rw [hpc, hp] <;> decide
  · rw [mR_congr hpq hr, mQ_put hrq hwq, wWeight_none hh, wWeight_some hheld, hpc]
    rcases hpc' with hp | ⟨hp, _⟩ <;> rw [hp] <;> simp only [wOff] <;> omega
  · have e3 : wOff w.pc ≤ wWeight w := Nat.le_add_right _ _
    rw [hpc] at e3
    have e1 : mR s' = mR s + 8 := by
      unfold mR; rw [hpq, hr, someCount_append_some, noneCount_append_some]; omega
    rw [e1, mQ_congr hrq hwq, wWeight_none hh, hpc']
    simp only [wOff] at e3 ⊢; omega
  · exact pure hpq hrq hwq (wWeight_lt_none hh (by rw [hpc, hpc']; decide))

theorem meas_stepW {wid : Nat} (hf : NoFaults s.cfg) (hwc : WellCfg s.cfg) (hL : LInv s) (h : stepW s wid = some s') :
    meas s' < meas s := by
  obtain ⟨w, w', hst⟩ := stepW_cases hf hwc hL h
  have hs := hst.same
  have hmw := mW_upd hL hst.mem hst.workers
  have hk := hst.kind.weight_lt hs.rpc
  unfold meas
  rw [mC_congr hs.cpc hs.cur hs.callsLeft hs.batch hs.woken (congrArg _ hs.procs) hs.finished,
    mF_congr hs.fpc hs.fTotal hs.fNext hs.fAlive]
  omega

theorem mF_alive (h : s.fAlive = true) : mF s = fW s.fpc (s.fTotal - s.fNext) := by
  unfold mF; rw [h]; rfl

theorem meas_lt_FQ (h : mF t + mQ t < mF s + mQ s)
    (h1 : mC t = mC s := by exact mC_congr rfl rfl rfl rfl rfl rfl rfl) (h2 : mW t = mW s := by exact mW_congr rfl)
    (h3 : mR t = mR s := by exact mR_congr rfl rfl) : meas t < meas s := by
  unfold meas
  rw [h1, h2, h3]
  omega

theorem meas_lt_F (hal : s.fAlive = true) (hal' : t.fAlive = true)
    (h : fW t.fpc (t.fTotal - t.fNext) + mQ t < fW s.fpc (s.fTotal - s.fNext) + mQ s)
    (h1 : mC t = mC s := by exact mC_congr rfl rfl rfl rfl rfl rfl rfl) (h2 : mW t = mW s := by exact mW_congr rfl)
    (h3 : mR t = mR s := by exact mR_congr rfl rfl) : meas t < meas s :=
  meas_lt_FQ (by rw [mF_alive hal, mF_alive hal']; exact h) h1 h2 h3

theorem fW_put {r q q' : Nat} (h : 0 < r) (hq : q' = q + 33) : fW .rdCnt r + q' < fW .put r + q := by
  show 38 * (r - 1) + 26 + q' < 38 * r + 22 + q
  omega

theorem fW_next (T N : Nat) : fW .put (T - (N + 1)) < fW .runWait (T - N) := by
  show 38 * (T - (N + 1)) + 22 < 38 * (T - N - 1) + 23
  omega

theorem fW_leave (r r' : Nat) : fW .wrSending r' < fW .runWait r ∧ fW .wrSending r' < fW .stopIsSet r :=
  ⟨Nat.lt_of_lt_of_le (by decide : 22 < 23) (Nat.le_add_left ..), Nat.lt_of_lt_of_le (by decide : 22 < 24) (Nat.le_add_left ..)⟩

theorem meas_stepF (hS : SafeInv s) (h : stepF s = some s') : meas s' < meas s := by
  obtain ⟨hal, hc⟩ := stepF_cases h
  cases hc with
  | put hf _ =>
    -- the feeder at `put` has a chunk in its hands
    have hpre : preStart s = false := by
      cases hp : preStart s
      · rfl
      · have := hS.preIdle hp; rw [hf] at this; cases this
    have hcur : s.cur.isSome = true := by
      cases hc : s.cur with
      | none => have := hS.noCallF hc; rw [hf] at this; cases this
      | some c => rfl
    have hlt := (hS.cntPut hpre hcur (Or.inl hf)).2
    exact meas_lt_F hal hal (by rw [hf]; exact fW_put (Nat.sub_pos_of_lt hlt) (mQ_feed rfl rfl))
  | rdCnt hf | wrCnt hf | notStopped hf | wrSending hf =>
    exact meas_lt_F hal hal (by rw [hf]; exact Nat.add_lt_add_right (Nat.lt_succ_self _) _)
  | stopped hf => exact meas_lt_F hal hal (by rw [hf]; exact Nat.add_lt_add_right (fW_leave _ _).2 _)
  | next hf => exact meas_lt_F hal hal (by rw [hf]; exact Nat.add_lt_add_right (fW_next _ _) _)
  | last hf => exact meas_lt_F hal hal (by rw [hf]; exact Nat.add_lt_add_right (fW_leave _ _).1 _)
  | tokenFull hf =>
    refine meas_lt_FQ ?_
    rw [mF_alive hal, hf]
    exact Nat.add_lt_add_right (by decide : 0 < 21) _
  | token hf =>
    -- the wake-up token (20 on the result queue, if it fits) was paid for in advance
    have e : mQ { s with resQ := s.resQ ++ [none] } = mQ s + 20 := mQ_put rfl rfl
    refine meas_lt_FQ ?_
    rw [mF_alive hal, hf]
    show 0 + mQ { s with resQ := s.resQ ++ [none] } < _
    rw [e]; show 0 + (mQ s + 20) < 21 + mQ s; omega

theorem meas_lt_R (h : mW t + mR t < mW s + mR s)
    (h1 : mC t = mC s := by exact mC_congr rfl rfl rfl rfl rfl rfl rfl)
    (h2 : mF t = mF s := by exact mF_congr rfl rfl rfl rfl) (h3 : mQ t = mQ s := by exact mQ_congr rfl rfl) :
    meas t < meas s := by
  unfold meas
  rw [h1, h2, h3]
  omega

/-- taking an item from the replace queue: the stop token ends the thread, a wid (8) pays for the join and the start -/
theorem mR_get_lt {a : Option Nat} {r : List (Option Nat)} (hr : s.rpc = .get) (hq : s.replQ = a :: r) (e1 : t.replQ = r)
    (e2 : t.rpc = match a with | none => .idle | some wid => .join wid) : mR t < mR s := by
  unfold mR
  rw [hr, hq, e1, e2]
  cases a
  · rw [someCount_cons_none, noneCount_cons_none]; simp only [rOff]; omega
  · rw [someCount_cons_some, noneCount_cons_some]; simp only [rOff]; omega

/-- the join: the successor is created (not started: 5) -/
theorem mWR_join_lt {wid : Nat} (hr : s.rpc = .join wid) (e1 : t.workers = s.workers ++ [mkWorker s.cfg s.widCounter])
    (e2 : t.replQ = s.replQ) (e3 : t.rpc = .start s.widCounter) : mW t + mR t < mW s + mR s := by
  have e : mW t = mW s + 5 := by
    unfold mW; rw [e1, List.map_append, List.sum_append]; rfl
  unfold mR
  rw [e, e2, e3, hr]
  simp only [rOff]; omega

theorem mW_start {w : Worker} (hL : LInv s) (hw : w ∈ s.workers) (hpc : w.pc = .notStarted)
    (h : t.workers = upd w.wid { w with pc := .bfClear } s.workers) : mW t + 1 = mW s := by
  have hmw := mW_upd (w' := { w with pc := .bfClear }) hL hw h
  have e : wWeight { w with pc := .bfClear } + 1 = wWeight w := by
    unfold wWeight; rw [hpc]; exact Nat.add_right_comm ..
  omega

theorem mWR_start_lt {nw : Nat} {w : Worker} (hL : LInv s) (hwm : w ∈ s.workers) (hpc : w.pc = .notStarted)
    (hr : s.rpc = .start nw) (e1 : t.workers = upd w.wid { w with pc := .bfClear } s.workers) (e2 : t.replQ = s.replQ)
    (e3 : t.rpc = .get) : mW t + mR t < mW s + mR s := by
  have hmw := mW_start hL hwm hpc e1
  unfold mR
  rw [e2, e3, hr]
  simp only [rOff]; omega

theorem meas_stepR (hL : LInv s) (h : stepR s = some s') : meas s' < meas s := by
  obtain ⟨_, ⟨r, hr, hq, rfl⟩ | ⟨wid, r, hr, hq, rfl⟩ | ⟨wid, hr, _, rfl⟩ | ⟨nw, w, hr, hg, rfl⟩⟩ := stepR_cases h
  · exact meas_lt_R (Nat.add_lt_add_left (mR_get_lt hr hq rfl rfl) _)
  · exact meas_lt_R (Nat.add_lt_add_left (mR_get_lt hr hq rfl rfl) _)
  · exact meas_lt_R (mWR_join_lt hr rfl rfl rfl) (mC_congr rfl rfl rfl rfl rfl (List.length_map ..) rfl)
  · obtain ⟨hwm, hwid⟩ := getWorker_some hg
    exact meas_lt_R (mWR_start_lt hL hwm (hL.rStarting nw hr w hwm hwid) hr rfl rfl rfl)

end WindVerif.Pool
