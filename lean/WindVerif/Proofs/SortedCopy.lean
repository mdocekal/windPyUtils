import WindVerif.Proofs.Sorted
/-!
Copy-construction (`SortedSet(another SortedSet)`, `SortedMap(another SortedMap)`): the new object presents exactly the
content of the source, and it is a value of its own — in the model objects are values, so "changing one does not change the
other" is what the correspondence run checks on the real objects (a live source object is mutated behind the copy's back).
-/
namespace WindVerif.Sorted

theorem dedupAdj_of_strict (l : List Int) (h : Strict l) : dedupAdj l = l := by
  fun_induction dedupAdj l with
  | case1 => rfl
  | case2 x => rfl
  | case3 y r ih => exact absurd ((List.pairwise_cons.1 h).1 y List.mem_cons_self) (Int.lt_irrefl y)
  | case4 x y r hxy ih => rw [ih (List.pairwise_cons.1 h).2]

/-- `SortedSet(s)` for the content `s` of a sorted set is `s` again -/
theorem setInit_of_strict (s : List Int) (h : Strict s) : setInit s = s := by
  rw [setInit, List.mergeSort_of_pairwise (h.imp (fun hab => decide_eq_true (Int.le_of_lt hab))),
    dedupAdj_of_strict s h]

theorem dictOf_append_fresh (acc ps : List (Int × Nat))
    (hnd : ((acc ++ ps).map (·.1)).Nodup) : dictOf acc ps = acc ++ ps := by
  induction ps generalizing acc with
  | nil => rw [dictOf, List.append_nil]
  | cons p r ih =>
    rw [List.map_append, List.nodup_append] at hnd
    have hk : ¬ (acc.lookup p.1).isSome = true :=
      fun hs => hnd.2.2 p.1 (Cache.al_lookup_isSome_keys.1 hs) p.1 List.mem_cons_self rfl
    have : dictOf acc (p :: r) = dictOf (acc ++ [p]) r := by rw [dictOf_cons, dictPut, if_neg hk]
    rw [this, ih, List.append_assoc, List.singleton_append]
    rw [List.append_assoc, List.singleton_append, List.map_append, List.nodup_append]
    exact hnd

theorem mapItems_keys_nodup {m : SMap} (h : MapWf m) : ((mapItems m).map (·.1)).Nodup :=
  strict_nodup (mapItems_spec m h).2.2

theorem dictOf_mapItems {m : SMap} (h : MapWf m) : dictOf [] (mapItems m) = mapItems m :=
  dictOf_append_fresh [] _ (mapItems_keys_nodup h)

/-- `SortedMap(m)` for a well-formed map `m` is `m` again.  (A `Mapping` is not passed through `dict()`: its `keys()` and
`values()` are taken as they are; `dictOf` on items with distinct keys is the identity, `dictOf_mapItems`.) -/
theorem mapInit_items (m : SMap) (h : MapWf m) : mapInit (mapItems m) = m := by
  obtain ⟨hk, hv, hs⟩ := mapItems_spec m h
  have hsorted : (mapItems m).Pairwise (fun a b => decide (a.1 ≤ b.1) = true) :=
    List.pairwise_map.1 (hs.imp (fun hab => decide_eq_true (Int.le_of_lt hab)))
  rw [mapInit]
  simp only [dictOf_mapItems h, List.mergeSort_of_pairwise hsorted, hk, hv]

end WindVerif.Sorted
