import WindVerif.Model.ForkFile
import WindVerif.Proofs.ListFacts
/-! Theorems about the fork model of line / map files (C18); the last five are the property theorems, read in `Props/C18.lean`. -/
namespace WindVerif.ForkFile

def Reach (s : St) : Prop := ∃ acts rs, run init acts = some (s, rs)

def Owns (s : St) (i : Nat) : Prop :=
  ∃ p, s.procs[i]? = some p ∧ p.openedPid = some p.pid

def NotBy (i : Nat) : Act → Prop
  | .fork _ => True            -- anybody may fork, also process `i` itself
  | .seek j _ => j ≠ i
  | .read j => j ≠ i

structure Inv (s : St) : Prop where
  pidlt : ∀ (i : Nat) (p : Proc), s.procs[i]? = some p → p.pid < s.nextPid
  piddist : ∀ (i j : Nat) (p q : Proc), s.procs[i]? = some p → s.procs[j]? = some q → i ≠ j → p.pid ≠ q.pid
  hdl : ∀ (i : Nat) (p : Proc), s.procs[i]? = some p →
    ∃ d op, p.desc = some d ∧ d < s.offsets.length ∧ p.openedPid = some op ∧ op < s.nextPid
  own : ∀ (i j : Nat) (p q : Proc), s.procs[i]? = some p → s.procs[j]? = some q → i ≠ j →
    p.openedPid = some p.pid → q.openedPid = some q.pid → p.desc ≠ q.desc

/-!
`procs` changes in two ways: `reopen` replaces the object at an index, `fork` appends one.  Either way every object of the new
list is an old one at its old index or the new one `q` at index `k`. -/

theorem Inv.update {s t : St} (hI : Inv s) (k : Nat) (q : Proc)
    (hprocs : ∀ j r, t.procs[j]? = some r → (j = k ∧ r = q) ∨ (j ≠ k ∧ s.procs[j]? = some r))
    (hn : s.nextPid ≤ t.nextPid) (ho : s.offsets.length ≤ t.offsets.length)
    (hpid : q.pid < t.nextPid)
    (hdist : ∀ j r, s.procs[j]? = some r → j ≠ k → r.pid ≠ q.pid)
    (hhdl : ∃ d op, q.desc = some d ∧ d < t.offsets.length ∧ q.openedPid = some op ∧ op < t.nextPid)
    (hown : q.openedPid = some q.pid → ∀ j r, s.procs[j]? = some r → j ≠ k → r.openedPid = some r.pid → r.desc ≠ q.desc) :
    Inv t where
  pidlt := by
    intro j r hr
    rcases hprocs j r hr with ⟨-, rfl⟩ | ⟨-, hr⟩
    · exact hpid
    · exact Nat.lt_of_lt_of_le (hI.pidlt j r hr) hn
  piddist := by
    intro i j p r hp hr hij
    rcases hprocs i p hp with ⟨rfl, rfl⟩ | ⟨hi, hp⟩ <;> rcases hprocs j r hr with ⟨rfl, rfl⟩ | ⟨hj, hr⟩
    · exact absurd rfl hij
    · exact (hdist j r hr hj).symm
    · exact hdist i p hp hi
    · exact hI.piddist i j p r hp hr hij
  hdl := by
    intro j r hr
    rcases hprocs j r hr with ⟨-, rfl⟩ | ⟨-, hr⟩
    · exact hhdl
    · obtain ⟨d, op, h1, h2, h3, h4⟩ := hI.hdl j r hr
      exact ⟨d, op, h1, Nat.lt_of_lt_of_le h2 ho, h3, Nat.lt_of_lt_of_le h4 hn⟩
  own := by
    intro i j p r hp hr hij hpo hro
    rcases hprocs i p hp with ⟨rfl, rfl⟩ | ⟨hi, hp⟩ <;> rcases hprocs j r hr with ⟨rfl, rfl⟩ | ⟨hj, hr⟩
    · exact absurd rfl hij
    · exact (hown hpo j r hr hj hro).symm
    · exact hown hro i p hp hi hpo
    · exact hI.own i j p r hp hr hij hpo hro

theorem nolookup {α : Prop} {j : Nat} {r : Proc} (h : ([] : List Proc)[j]? = some r) : α := nomatch h

/-- `init` is the system without processes plus the one that opened the file -/
theorem inv_init : Inv init :=
  (⟨fun _ _ => nolookup, fun _ _ _ _ => nolookup, fun _ _ => nolookup, fun _ _ _ _ => nolookup⟩ : Inv ⟨[], [0], 1⟩).update 0 _
    (fun _ _ => getElem?_concat_some (l := [])) (Nat.le_refl _) (Nat.le_refl _) Nat.one_pos (fun _ _ => nolookup)
    ⟨0, 0, rfl, Nat.one_pos, rfl, Nat.one_pos⟩ (fun _ _ _ => nolookup)

theorem fork_inv (s : St) (hI : Inv s) (i : Nat) (p : Proc) (hp : s.procs[i]? = some p) :
    Inv { s with procs := s.procs ++ [{ p with pid := s.nextPid }], nextPid := s.nextPid + 1 } := by
  obtain ⟨d, op, hd, hdl, hop, hopl⟩ := hI.hdl i p hp
  refine hI.update s.procs.length { p with pid := s.nextPid } (fun j r => getElem?_concat_some) (Nat.le_succ _) (Nat.le_refl _)
    (Nat.lt_succ_self _) ?_ ⟨d, op, hd, hdl, hop, Nat.lt_succ_of_lt hopl⟩ ?_
  · intro j r hr _
    exact Nat.ne_of_lt (hI.pidlt j r hr)
  · -- the child's object records the pid of whoever opened the handle, which is not the child's new pid
    intro hc
    rw [hop] at hc
    exact absurd (Option.some.inj hc) (Nat.ne_of_lt hopl)

theorem reopen_own {s : St} {i : Nat} {p : Proc} (h : p.openedPid = some p.pid) : reopen s i p = (s, p) := by
  simp only [reopen, h, if_true]

structure Reopened (s : St) (i : Nat) (t : St) (q : Proc) : Prop where
  inv : Inv t
  hq : t.procs[i]? = some q
  own : q.openedPid = some q.pid
  desc : ∃ d, q.desc = some d ∧ d < t.offsets.length
  procs : ∀ j, j ≠ i → t.procs[j]? = s.procs[j]?
  offs : ∀ d, d < s.offsets.length → t.offsets[d]? = s.offsets[d]?

theorem reopen_spec {s : St} (hI : Inv s) {i : Nat} {p : Proc} (hp : s.procs[i]? = some p) {t : St} {q : Proc}
    (hr : reopen s i p = (t, q)) : Reopened s i t q := by
  obtain ⟨d, op, hd, hdl, hop, -⟩ := hI.hdl i p hp
  by_cases hown : op = p.pid
  · rw [reopen_own (hown ▸ hop)] at hr
    cases hr
    exact ⟨hI, hp, hown ▸ hop, ⟨d, hd, hdl⟩, fun _ _ => rfl, fun _ _ => rfl⟩
  · simp only [reopen, hop, if_neg hown] at hr
    cases hr
    have hil : i < s.procs.length := (List.getElem?_eq_some_iff.mp hp).1
    refine ⟨?_, List.getElem?_set_self hil, rfl, ⟨_, rfl, by simp⟩, fun j hj => List.getElem?_set_ne (Ne.symm hj),
      fun d hd => List.getElem?_append_left hd⟩
    refine hI.update i _ (fun j r => (getElem?_set_iff hp).1) (Nat.le_refl _) (by simp) (hI.pidlt i p hp) ?_
      ⟨_, _, rfl, by simp, rfl, hI.pidlt i p hp⟩ ?_
    · intro j r hr hj
      exact hI.piddist j i r p hr hp hj
    · -- the new description is younger than every description in use
      intro _ j r hr _ _ hc
      obtain ⟨d', _, hd', hdl', -⟩ := hI.hdl j r hr
      rw [hd'] at hc
      exact absurd (Option.some.inj hc) (Nat.ne_of_lt hdl')

theorem step_cases {s s' : St} {a : Act} {r : Option Nat} (h : step s a = some (s', r)) :
    (∃ i p, a = .fork i ∧ s.procs[i]? = some p ∧
      s' = { s with procs := s.procs ++ [{ p with pid := s.nextPid }], nextPid := s.nextPid + 1 }) ∨
    (∃ i p t q d x, s.procs[i]? = some p ∧ reopen s i p = (t, q) ∧ q.desc = some d ∧
      s' = { t with offsets := t.offsets.set d x } ∧
      (a = .seek i x ∨ (a = .read i ∧ ∃ off, t.offsets[d]? = some off ∧ x = off + 1 ∧ r = some off))) := by
  cases a with
  | fork i =>
    simp only [step] at h
    split at h
    · cases h
    · next p hp =>
      cases h
      exact Or.inl ⟨i, p, rfl, hp, rfl⟩
  | seek i line =>
    simp only [step] at h
    split at h
    · cases h
    · next p hp =>
      rcases hr : reopen s i p with ⟨t, q⟩
      rw [hr] at h
      simp only at h
      split at h
      · cases h
      · next d hd =>
        cases h
        exact Or.inr ⟨i, p, t, q, d, line, hp, hr, hd, rfl, Or.inl rfl⟩
  | read i =>
    simp only [step] at h
    split at h
    · cases h
    · next p hp =>
      rcases hr : reopen s i p with ⟨t, q⟩
      rw [hr] at h
      simp only at h
      split at h
      · cases h
      · next d hd =>
        split at h
        · cases h
        · next off hoff =>
          cases h
          exact Or.inr ⟨i, p, t, q, d, off + 1, hp, hr, hd, rfl, Or.inr ⟨rfl, off, hoff, rfl, rfl⟩⟩

structure View (s : St) (i : Nat) (p : Proc) (d v : Nat) : Prop where
  hp : s.procs[i]? = some p
  hown : p.openedPid = some p.pid
  hd : p.desc = some d
  hv : s.offsets[d]? = some v

theorem access_spec {s : St} (hI : Inv s) {i : Nat} {p : Proc} (hp : s.procs[i]? = some p) {t : St} {q : Proc}
    (hr : reopen s i p = (t, q)) {d : Nat} (hd : q.desc = some d) (x : Nat) :
    Inv { t with offsets := t.offsets.set d x } ∧ View { t with offsets := t.offsets.set d x } i q d x ∧
      ∀ j p' d' v, j ≠ i → View s j p' d' v → View { t with offsets := t.offsets.set d x } j p' d' v := by
  have h := reopen_spec hI hp hr
  obtain ⟨d0, hd0, hdl⟩ := h.desc
  obtain rfl : d0 = d := Option.some.inj (hd0.symm.trans hd)
  refine ⟨⟨h.inv.pidlt, h.inv.piddist, ?_, h.inv.own⟩, ⟨h.hq, h.own, hd, List.getElem?_set_self hdl⟩, ?_⟩
  · intro j r hr
    rw [List.length_set]
    exact h.inv.hdl j r hr
  · intro j p' d' v hj hV
    have hp' : t.procs[j]? = some p' := (h.procs j hj).trans hV.hp
    have hne : d0 ≠ d' := by
      have := h.inv.own i j q p' h.hq hp' (Ne.symm hj) h.own hV.hown
      rw [hd, hV.hd] at this
      exact fun hc => this (congrArg some hc)
    refine ⟨hp', hV.hown, hV.hd, ?_⟩
    rw [List.getElem?_set_ne hne, h.offs d' (List.getElem?_eq_some_iff.mp hV.hv).1]
    exact hV.hv

theorem step_inv (s : St) (hI : Inv s) (a : Act) (s' : St) (r : Option Nat) (h : step s a = some (s', r)) :
    Inv s' := by
  rcases step_cases h with ⟨i, p, -, hp, rfl⟩ | ⟨i, p, t, q, d, x, hp, hr, hd, rfl, -⟩
  · exact fork_inv s hI i p hp
  · exact (access_spec hI hp hr hd x).1

theorem step_frame (s : St) (hI : Inv s) (i : Nat) (p : Proc) (d v : Nat) (hV : View s i p d v)
    (a : Act) (ha : NotBy i a) (s' : St) (r : Option Nat) (h : step s a = some (s', r)) : View s' i p d v := by
  rcases step_cases h with ⟨j, q, -, -, rfl⟩ | ⟨j, q, t, q', d', x, hq, hr, hd', rfl, hx⟩
  · refine ⟨?_, hV.hown, hV.hd, hV.hv⟩
    rw [List.getElem?_append_left (List.getElem?_eq_some_iff.mp hV.hp).1]
    exact hV.hp
  · have hji : j ≠ i := by
      rcases hx with rfl | ⟨rfl, -⟩ <;> exact ha
    exact (access_spec hI hq hr hd' x).2.2 i p d v (Ne.symm hji) hV

theorem run_cons {s : St} {a : Act} {as : List Act} {s' : St} {rs : List (Nat × Nat)}
    (h : run s (a :: as) = some (s', rs)) : ∃ t r rs', step s a = some (t, r) ∧ run t as = some (s', rs') := by
  simp only [run] at h
  split at h
  · cases h
  · next t r hst =>
    split at h
    · cases h
    · next t' rs' hrun =>
      cases h
      exact ⟨t, r, rs', hst, hrun⟩

theorem run_induct {P : St → Prop} {Q : Act → Prop}
    (hstep : ∀ s a t r, P s → Q a → step s a = some (t, r) → P t) (acts : List Act) :
    ∀ s, P s → (∀ a ∈ acts, Q a) → ∀ s' rs, run s acts = some (s', rs) → P s' := by
  induction acts with
  | nil =>
    intro s hP _ s' rs h
    cases h
    exact hP
  | cons a as ih =>
    intro s hP hQ s' rs h
    obtain ⟨t, r, rs', hst, hrun⟩ := run_cons h
    exact ih t (hstep s a t r hP (hQ a List.mem_cons_self) hst) (fun b hb => hQ b (List.mem_cons_of_mem _ hb)) s' rs' hrun

theorem reach_inv (s : St) (h : Reach s) : Inv s := by
  obtain ⟨acts, rs, h⟩ := h
  exact run_induct (Q := fun _ => True) (fun s a t r hI _ => step_inv s hI a t r) acts init inv_init (fun _ _ => trivial) s rs h

theorem read_view (s : St) (i : Nat) (p : Proc) (d v : Nat) (hV : View s i p d v) :
    ∃ s3, step s (.read i) = some (s3, some v) := by
  simp only [step, hV.hp, reopen_own hV.hown, hV.hd, hV.hv]
  exact ⟨_, rfl⟩

theorem read_undisturbed {s1 : St} (hI : Inv s1) {i : Nat} {p : Proc} {d v : Nat} (hV : View s1 i p d v)
    {others : List Act} (ho : ∀ a ∈ others, NotBy i a) {s2 : St} {rs : List (Nat × Nat)}
    (hrun : run s1 others = some (s2, rs)) : ∃ s3, step s2 (.read i) = some (s3, some v) :=
  read_view s2 i p d v (run_induct (P := fun s => Inv s ∧ View s i p d v)
    (fun s a t r hP ha hst => ⟨step_inv s hP.1 a t r hst, step_frame s hP.1 i p d v hP.2 a ha t r hst⟩)
    others s1 ⟨hI, hV⟩ ho s2 rs hrun).2

theorem single_user (s : St) (h : Reach s) (i j : Nat) (p q : Proc) (hi : s.procs[i]? = some p) (hj : s.procs[j]? = some q)
    (hne : i ≠ j) : p.pid ≠ q.pid ∧ (p.openedPid = some p.pid → q.openedPid = some q.pid → p.desc ≠ q.desc) :=
  have hI := reach_inv s h
  ⟨hI.piddist i j p q hi hj hne, hI.own i j p q hi hj hne⟩

theorem has_handle (s : St) (h : Reach s) (i : Nat) (p : Proc) (hi : s.procs[i]? = some p) :
    ∃ d, p.desc = some d ∧ d < s.offsets.length ∧ p.openedPid.isSome := by
  obtain ⟨d, op, h1, h2, h3, _⟩ := (reach_inv s h).hdl i p hi
  exact ⟨d, h1, h2, h3 ▸ rfl⟩

theorem read_own_line (s : St) (h : Reach s) (i line : Nat) (s1 : St) (hs : step s (.seek i line) = some (s1, none))
    (others : List Act) (ho : ∀ a ∈ others, NotBy i a) (s2 : St) (rs : List (Nat × Nat))
    (hrun : run s1 others = some (s2, rs)) :
    ∃ s3, step s2 (.read i) = some (s3, some line) := by
  rcases step_cases hs with ⟨_, _, hc, -⟩ | ⟨j, p, t, q, d, x, hp, hr, hd, rfl, hx⟩
  · cases hc
  · obtain ⟨rfl, rfl⟩ : i = j ∧ line = x := by
      rcases hx with hc | ⟨hc, -⟩ <;> cases hc
      exact ⟨rfl, rfl⟩
    have hA := access_spec (reach_inv s h) hp hr hd line
    exact read_undisturbed hA.1 hA.2.1 ho hrun

theorem read_next_line (s : St) (h : Reach s) (i : Nat) (s1 : St) (l : Nat) (hs : step s (.read i) = some (s1, some l))
    (others : List Act) (ho : ∀ a ∈ others, NotBy i a) (s2 : St) (rs : List (Nat × Nat))
    (hrun : run s1 others = some (s2, rs)) :
    ∃ s3, step s2 (.read i) = some (s3, some (l + 1)) := by
  rcases step_cases hs with ⟨_, _, hc, -⟩ | ⟨j, p, t, q, d, x, hp, hr, hd, rfl, hx⟩
  · cases hc
  · obtain ⟨rfl, rfl⟩ : i = j ∧ l + 1 = x := by
      rcases hx with hc | ⟨hc, off, -, rfl, hl⟩
      · cases hc
      · cases hc
        cases hl
        exact ⟨rfl, rfl⟩
    have hA := access_spec (reach_inv s h) hp hr hd (l + 1)
    exact read_undisturbed hA.1 hA.2.1 ho hrun

theorem total (s : St) (h : Reach s) (a : Act)
    (hex : match a with | .fork i => i < s.procs.length | .seek i _ => i < s.procs.length | .read i => i < s.procs.length) :
    (step s a).isSome := by
  have hI := reach_inv s h
  cases a with
  | fork i =>
    simp only at hex
    simp [step, List.getElem?_eq_getElem hex]
  | seek i line =>
    simp only at hex
    have hq := List.getElem?_eq_getElem hex
    rcases hr : reopen s i s.procs[i] with ⟨t, q'⟩
    obtain ⟨d, e7, -⟩ := (reopen_spec hI hq hr).desc
    simp [step, hq, hr, e7]
  | read i =>
    simp only at hex
    have hq := List.getElem?_eq_getElem hex
    rcases hr : reopen s i s.procs[i] with ⟨t, q'⟩
    obtain ⟨d, e7, e7'⟩ := (reopen_spec hI hq hr).desc
    simp [step, hq, hr, e7, List.getElem?_eq_getElem e7']

end WindVerif.ForkFile
