import WindVerif.Spec.Pool
import WindVerif.Proofs.PoolSafe
import WindVerif.Proofs.PoolD19Schedule
import WindVerif.Proofs.PoolLiveReach
import WindVerif.Proofs.PoolMeasureConsumer
import WindVerif.Proofs.PoolLiveMid
import WindVerif.Proofs.PoolExited
/-! Liveness of the pool model (C02): the invariants and the measure along a run (`Good`), hence no deadlock and
termination under every interleaving; when `__exit__` leaves its loop of stop orders early. -/
namespace WindVerif.Pool

/-- what the liveness theorems assume of a state: a well-formed configuration without faults, and the four invariants -/
structure Good (s : St) : Prop where
  nf : NoFaults s.cfg
  wc : WellCfg s.cfg
  safe : SafeInv s
  life : LInv s
  live : LiveInv s
  mid : MidI s

theorem Good.init {cfg : Cfg} (hw : WellCfg cfg) (hf : NoFaults cfg) : Good (init cfg) :=
  ⟨hf, hw, safe_init cfg, LInv_init cfg, LiveInv_init cfg hw, MidI_init cfg⟩

theorem Good.after_step {s s' : St} {t : Tid} (g : Good s) (h : step s t = some s') : Good s' ∧ meas s' < meas s :=
  have hc := step_cfg h
  ⟨⟨hc ▸ g.nf, hc ▸ g.wc, safe_step s s' t g.nf g.safe h, LInv_step g.life h,
      LiveInv_step g.nf g.wc g.safe g.life g.live g.mid h, MidI_step g.nf g.wc g.safe g.life g.live g.mid h⟩,
    meas_step g.nf g.wc g.safe g.life h⟩

theorem Good.after_run {s s' : St} : ∀ {sched : List Tid}, Good s → run s sched = some s' → Good s' ∧ sched.length + meas s' ≤ meas s
  | [], g, hr => by cases hr; exact ⟨g, Nat.le_of_eq (Nat.zero_add _)⟩
  | t :: ts, g, hr => by
    unfold run at hr
    split at hr
    · cases hr
    · rename_i s1 hs1
      have ⟨g1, hlt⟩ := g.after_step hs1
      have ⟨g', hle⟩ := g1.after_run hr
      exact ⟨g', by rw [List.length_cons]; omega⟩

theorem live_reach (cfg : Cfg) (hw : WellCfg cfg) (hf : NoFaults cfg) (s : St) (h : Reach cfg s) : Good s :=
  have ⟨_, hs⟩ := h
  ((Good.init hw hf).after_run hs).1

/-- no deadlock: in every reachable state in which the caller's program (enter, all its calls, exit) is not over, some
thread can move — the consumer is never left blocked on a result that will not come, the feeder never on a full queue
nobody drains, `__exit__` never on its stop orders (D19 repaired: whatever the bound of the work queue — on a full queue
either a live worker takes a stop order or, everybody listed having an exit code, the loop of stop orders is left) -/
theorem imap_no_deadlock (cfg : Cfg) (hw : WellCfg cfg) (hf : NoFaults cfg) (s : St) (h : Reach cfg s)
    (hnd : s.cpc ≠ .done) : ∃ t, (step s t).isSome :=
  have g := live_reach cfg hw hf s h
  progress g.safe g.life g.live g.mid g.wc hnd

/-- termination: there is a bound on the length of every execution of a configuration, whatever the schedule — however
slowly the input iterator, a worker or the caller is scheduled, nothing spins -/
theorem imap_terminates (cfg : Cfg) (hw : WellCfg cfg) (hf : NoFaults cfg) :
    ∃ bound, ∀ sched s, run (init cfg) sched = some s → sched.length ≤ bound :=
  ⟨meas (init cfg), fun _ _ hr => Nat.le_trans (Nat.le_add_right ..) ((Good.init hw hf).after_run hr).2⟩

/-- hence every maximal execution (one that cannot be extended) ends with the caller finished -/
theorem imap_maximal_final (cfg : Cfg) (hw : WellCfg cfg) (hf : NoFaults cfg) (sched : List Tid) (s : St)
    (h : run (init cfg) sched = some s) (hmax : ∀ t, step s t = none) : s.cpc = .done :=
  Decidable.byContradiction fun hnd => by
    obtain ⟨t, ht⟩ := imap_no_deadlock cfg hw hf s ⟨sched, h⟩ hnd
    rw [hmax t] at ht; cases ht

/-- a witness by evaluation: the computation succeeds and its result passes the (decidable) test -/
theorem exists_of_any {α} {o : Option α} {P : α → Prop} [DecidablePred P] (h : o.any (fun a => decide (P a)) = true) :
    ∃ a, o = some a ∧ P a := by
  cases o with
  | none => cases h
  | some a => exact ⟨a, rfl, of_decide_eq_true h⟩

/-- the configuration of the former finding D19: a factory pool with 2 workers, quota 1, an int work-queue bound of 1 and
one call of 2 chunks — both workers can retire unreplaced, so that only one of the two stop orders of `__exit__` fits into
the work queue and nobody is left to take it -/
def d19Cfg : Cfg :=
  { nWorkers := 2, workCap := some 1, resCap := none, factory := true, quota := some 1, waitReady := false,
    calls := [⟨2, true⟩], beginFault := [], itemFault := [] }

/-- D19 repaired: the concrete schedule that used to end with the caller blocked in `__exit__` for good (second stop order
on a full work queue, every worker gone) now goes on — one more step of the consumer — to the caller being done -/
theorem exit_unblocked : ∃ sched s, run (init d19Cfg) sched = some s ∧ s.cpc = .done :=
  ⟨d19Sched, exists_of_any (by decide +kernel)⟩

/-- a worker that is not listed has left its loop for good: it has exited — with `join_timeout=None` the replace thread's
join has waited for that — or, with a join timeout, it may still be inside `end()` -/
theorem unlisted_gone (cfg : Cfg) (s : St) (h : Reach cfg s) (w : Worker) (hw : w ∈ s.workers) (hn : w.wid ∉ s.procs) :
    w.pc = .exited ∨ (w.pc = .ending ∧ cfg.joinTimeout = true) := by
  cases hjt : cfg.joinTimeout
  · exact .inl (unlisted_exited' cfg hjt s h w hw hn)
  · have hg : gone w.pc = true := by
      cases hg : gone w.pc
      · exact absurd ((LInv_reach h).1.listed w hw hg) hn
      · rfl
    have : w.pc = .exited ∨ w.pc = .ending := by cases hp : w.pc <;> simp [hp, gone] at hg ⊢
    exact this.imp_right (⟨·, rfl⟩)

/-- the loop of stop orders is left early only when nobody is left: a step of the consumer at a stop order on a full work
queue (in a reachable state, any configuration — faults and join timeout included) ends `__exit__`; every listed worker has
an exit code, and every other worker ever created has exited or (only with a finite join timeout) has nothing but its
`end()` left to run -/
theorem exit_skip_all_gone (cfg : Cfg) (s s' : St) (h : Reach cfg s) (i : Nat) (hpc : s.cpc = .exitPut i)
    (hfull : capFull s.cfg.workCap s.workQ = true) (hs : step s .c = some s') :
    s'.cpc = .done ∧ (∀ wid ∈ s'.procs, workerExited s' wid = true) ∧
    ∀ w ∈ s'.workers, w.pc = .exited ∨ (w.pc = .ending ∧ w.wid ∉ s'.procs ∧ cfg.joinTimeout = true) := by
  have hs : stepC s = some s' := hs
  simp only [stepC, hpc, hfull, if_true] at hs
  split at hs
  · rename_i hall
    cases hs
    refine ⟨rfl, fun wid hwid => List.all_eq_true.1 hall wid hwid, fun w hw => ?_⟩
    by_cases hin : w.wid ∈ s.procs
    · exact .inl (workerExited_all (LInv_reach h).1 (List.all_eq_true.1 hall w.wid hin) w hw rfl)
    · exact (unlisted_gone cfg s h w hw hin).imp_right fun ⟨a, b⟩ => ⟨a, hin, b⟩
  · cases hs

/-- … in a pool WITHOUT a join timeout (`join_timeout=None`): every worker ever created has exited.  (With a finite join
timeout a replaced worker may still be in its `end()`: `exit_skip_running_worker` in `Proofs/PoolJoinTimeout.lean`.) -/
theorem exit_skip_all_exited (cfg : Cfg) (hjt : cfg.joinTimeout = false) (s s' : St) (h : Reach cfg s) (i : Nat)
    (hpc : s.cpc = .exitPut i) (hfull : capFull s.cfg.workCap s.workQ = true) (hs : step s .c = some s') :
    s'.cpc = .done ∧ AllExited s' := by
  obtain ⟨h1, _, h3⟩ := exit_skip_all_gone cfg s s' h i hpc hfull hs
  exact ⟨h1, fun w hw => (h3 w hw).resolve_right fun ⟨_, _, e⟩ => by rw [hjt] at e; cases e⟩

end WindVerif.Pool
