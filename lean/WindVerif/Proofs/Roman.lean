import WindVerif.Model.Generic
/-! Roman numerals (C19).  The greedy table of `int_2_roman` consists of the row for 1000 and three blocks of one shape
(`9u, 5u, 4u, u` for `u = 100, 10, 1`); a block turns `d * u + r` into the digit `d` followed by the rest on `r`, and
`roman_2_int` adds `d * u` for a digit block whatever follows it, as long as what follows starts no higher than `u`. -/
namespace WindVerif.Generic

def romanDigit (one five ten : Char) : Nat → List Char
  | 0 => [] | 1 => [one] | 2 => [one, one] | 3 => [one, one, one] | 4 => [one, five] | 5 => [five]
  | 6 => [five, one] | 7 => [five, one, one] | 8 => [five, one, one, one] | _ => [one, ten]

/-- the canonical numeral, written independently of the greedy table: thousands, hundreds, tens, ones -/
def canonical (n : Nat) : List Char :=
  repeatChars ['M'] (n / 1000) ++ romanDigit 'C' 'D' 'M' (n / 100 % 10) ++ romanDigit 'X' 'L' 'C' (n / 10 % 10) ++
    romanDigit 'I' 'V' 'X' (n % 10)

/-- the generator with its `break` read as "nothing more to write": a remainder 0 yields nothing under every table, so
the rows can be taken one after the other without asking whether the loop is still running -/
def romanRest (tbl : List (Nat × List Char)) (rem : Nat) : List Char := if rem = 0 then [] else int2romanGo tbl rem

theorem romanRest_nil (rem : Nat) : romanRest [] rem = [] := by
  simp [romanRest, int2romanGo]

theorem romanRest_cons (v : Nat) (s : List Char) (tbl : List (Nat × List Char)) (rem : Nat) :
    romanRest ((v, s) :: tbl) rem = repeatChars s (rem / v) ++ romanRest tbl (rem % v) := by
  by_cases h : rem = 0
  · simp [romanRest, h, repeatChars]
  · simp only [romanRest, h, if_false, int2romanGo]

def romanBlock (one five ten : Char) (u : Nat) (tbl : List (Nat × List Char)) : List (Nat × List Char) :=
  (9 * u, [one, ten]) :: (5 * u, [five]) :: (4 * u, [one, five]) :: (1 * u, [one]) :: tbl

theorem digit_divMod (k u d r : Nat) (hr : r < u) :
    (d * u + r) / (k * u) = d / k ∧ (d * u + r) % (k * u) = d % k * u + r := by
  have hq : (d * u + r) / u = d := by
    rw [Nat.add_comm, Nat.add_mul_div_right _ _ (by omega), Nat.div_eq_of_lt hr, Nat.zero_add]
  have hm : (d * u + r) % u = r := by
    rw [Nat.add_comm, Nat.add_mul_mod_self_right, Nat.mod_eq_of_lt hr]
  constructor
  · rw [Nat.mul_comm k u, ← Nat.div_div_eq_div_mul, hq]
  · rw [Nat.mul_comm k u, Nat.mod_mul, hq, hm, Nat.add_comm, Nat.mul_comm]

theorem romanDigit_greedy (one five ten : Char) : ∀ d, d < 10 → romanDigit one five ten d =
    repeatChars [one, ten] (d / 9) ++ repeatChars [five] (d % 9 / 5) ++ repeatChars [one, five] (d % 9 % 5 / 4) ++
      repeatChars [one] (d % 9 % 5 % 4)
  | 0, _ | 1, _ | 2, _ | 3, _ | 4, _ | 5, _ | 6, _ | 7, _ | 8, _ | 9, _ => rfl

theorem romanRest_block (one five ten : Char) (u : Nat) (tbl : List (Nat × List Char)) (rem d r : Nat)
    (h : rem = d * u + r) (hd : d < 10) (hr : r < u) :
    romanRest (romanBlock one five ten u tbl) rem = romanDigit one five ten d ++ romanRest tbl r := by
  subst h
  simp only [romanBlock, romanRest_cons, digit_divMod _ u _ r hr, romanDigit_greedy one five ten d hd, Nat.mod_one,
    Nat.div_one, Nat.zero_mul, Nat.zero_add, List.append_assoc]

theorem romanRest_table (n : Nat) : romanRest romanTable n = canonical n := by
  rw [show romanTable = (1000, ['M']) ::
      romanBlock 'C' 'D' 'M' 100 (romanBlock 'X' 'L' 'C' 10 (romanBlock 'I' 'V' 'X' 1 [])) from rfl, romanRest_cons,
    romanRest_block _ _ _ _ _ (n % 1000) (n / 100 % 10) (n % 100) (by omega) (by omega) (by omega),
    romanRest_block _ _ _ _ _ (n % 100) (n / 10 % 10) (n % 10) (by omega) (by omega) (by omega),
    romanRest_block _ _ _ _ _ (n % 10) (n % 10) 0 (by omega) (by omega) (by omega), romanRest_nil]
  simp only [canonical, List.append_assoc, List.append_nil]

theorem roman_canonical (n : Nat) (h1 : 1 ≤ n) (h2 : n ≤ 3999) : int2roman n = canonical n := by
  rw [← romanRest_table, romanRest, if_neg (by omega), int2roman]

theorem romanSum_cons (x : Nat) (t : List Nat) :
    romanSum (x :: t) = (if x < t.headD 0 then -(x : Int) else x) + romanSum t := by
  cases t <;> simp [romanSum]

def romanValD (c : Char) : Nat := (romanVal c).getD 0

/-- `s` consists of letters: `roman_2_int s` is then the sum over their values -/
def Letters (s : List Char) : Prop := s.mapM romanVal = some (s.map romanValD)

theorem roman2int_of_letters {s : List Char} (h : Letters s) : roman2int s = .ok (romanSum (s.map romanValD)) := by
  rw [roman2int, h]

theorem letters_append {s t : List Char} (hs : Letters s) (ht : Letters t) : Letters (s ++ t) := by
  unfold Letters at *
  simp [List.mapM_append, hs, ht]

theorem letters_repeat {r : List Char} (hr : Letters r) : ∀ q, Letters (repeatChars r q)
  | 0 => rfl
  | q + 1 => letters_append hr (letters_repeat hr q)

theorem letters_digit {one five ten : Char} (h1 : (romanVal one).isSome) (h5 : (romanVal five).isSome)
    (h10 : (romanVal ten).isSome) (d : Nat) : Letters (romanDigit one five ten d) := by
  obtain ⟨a, h1⟩ := Option.isSome_iff_exists.1 h1
  obtain ⟨b, h5⟩ := Option.isSome_iff_exists.1 h5
  obtain ⟨c, h10⟩ := Option.isSome_iff_exists.1 h10
  unfold Letters romanDigit
  split <;> simp [romanValD, h1, h5, h10]

theorem letters_canonical (n : Nat) : Letters (canonical n) :=
  letters_append (letters_append (letters_append (letters_repeat (r := ['M']) rfl _) (letters_digit rfl rfl rfl _))
    (letters_digit rfl rfl rfl _)) (letters_digit rfl rfl rfl _)

/-- a digit block at the unit `u` adds `d * u` to what follows, provided that starts no higher than `u`; the whole then
starts no higher than `10 * u`, which is what the next block up asks for -/
theorem romanSum_digit {one five ten : Char} {u : Nat} (hu : 0 < u) (h1 : romanValD one = u) (h5 : romanValD five = 5 * u)
    (h10 : romanValD ten = 10 * u) : ∀ d, d < 10 → ∀ t : List Nat, t.headD 0 ≤ u →
    romanSum ((romanDigit one five ten d).map romanValD ++ t) = d * u + romanSum t ∧
      ((romanDigit one five ten d).map romanValD ++ t).headD 0 ≤ 10 * u
  | 0, _, t, ht | 1, _, t, ht | 2, _, t, ht | 3, _, t, ht | 4, _, t, ht | 5, _, t, ht | 6, _, t, ht | 7, _, t, ht
  | 8, _, t, ht | 9, _, t, ht => by
    simp only [romanDigit, List.map, List.cons_append, List.nil_append, romanSum_cons, List.headD_cons, h1, h5, h10]
    omega

theorem romanSum_thousands (t : List Nat) (ht : t.headD 0 ≤ 1000) : ∀ q,
    romanSum ((repeatChars ['M'] q).map romanValD ++ t) = q * 1000 + romanSum t ∧
      ((repeatChars ['M'] q).map romanValD ++ t).headD 0 ≤ 1000
  | 0 => by simpa [repeatChars] using ht
  | q + 1 => by
    have ih := romanSum_thousands t ht q
    simp only [repeatChars, List.map, List.cons_append, List.nil_append, romanSum_cons, List.headD_cons,
      show romanValD 'M' = 1000 from rfl]
    omega

theorem roman2int_canonical (n : Nat) : roman2int (canonical n) = .ok (n : Int) := by
  have h1 := romanSum_digit (one := 'I') (five := 'V') (ten := 'X') (u := 1) (by omega) rfl rfl rfl
    (n % 10) (by omega) [] (by simp)
  have h10 := romanSum_digit (one := 'X') (five := 'L') (ten := 'C') (u := 10) (by omega) rfl rfl rfl
    (n / 10 % 10) (by omega) _ h1.2
  have h100 := romanSum_digit (one := 'C') (five := 'D') (ten := 'M') (u := 100) (by omega) rfl rfl rfl
    (n / 100 % 10) (by omega) _ h10.2
  have hM := romanSum_thousands _ h100.2 (n / 1000)
  rw [roman2int_of_letters (letters_canonical n), canonical, ← List.append_nil (romanDigit 'I' 'V' 'X' _)]
  simp only [List.map_append, List.append_assoc, List.map_nil]
  rw [hM.1, h100.1, h10.1, h1.1, romanSum]
  congr 1
  omega

theorem roman_roundtrip (n : Nat) (h1 : 1 ≤ n) (h2 : n ≤ 3999) : roman2int (int2roman n) = .ok (n : Int) := by
  rw [roman_canonical n h1 h2, roman2int_canonical]

/-- and the other way round: on the numerals of 1..3999 `int_2_roman ∘ roman_2_int` is the identity -/
theorem roman_inverse (n : Nat) (h1 : 1 ≤ n) (h2 : n ≤ 3999) :
    ∃ v : Int, roman2int (canonical n) = .ok v ∧ int2roman v.toNat = canonical n :=
  ⟨n, roman2int_canonical n, roman_canonical n h1 h2⟩

end WindVerif.Generic
