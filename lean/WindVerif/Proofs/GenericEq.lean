import WindVerif.Model.GenericEq
/-! Theorems about `sub_seq` / `search_sub_seq` over elements whose equality is an arbitrary relation (C19). -/
namespace WindVerif.Generic
open List

theorem listEq_nil_nil (eqv : Nat → Nat → Bool) : listEq eqv [] [] = true := rfl

theorem listEq_nil_cons (eqv : Nat → Nat → Bool) (b : Nat) (bs : List Nat) : listEq eqv [] (b :: bs) = false := by
  simp [listEq]

theorem listEq_cons_nil (eqv : Nat → Nat → Bool) (a : Nat) (as : List Nat) : listEq eqv (a :: as) [] = false := by
  simp [listEq]

theorem listEq_cons_cons (eqv : Nat → Nat → Bool) (a b : Nat) (as bs : List Nat) :
    listEq eqv (a :: as) (b :: bs) = (pyEq eqv a b && listEq eqv as bs) := by
  simp only [listEq, List.length_cons, List.zip_cons_cons, List.all_cons]
  have h : (as.length + 1 == bs.length + 1) = (as.length == bs.length) := by
    by_cases h : as.length = bs.length <;> simp [h]
  rw [h, Bool.and_left_comm]

theorem listEq_iff (eqv : Nat → Nat → Bool) : ∀ (a b : List Nat),
    listEq eqv a b = true ↔
      (a.length = b.length ∧ ∀ i (ha : i < a.length) (hb : i < b.length), pyEq eqv a[i] b[i] = true)
  | [], [] => by simp [listEq_nil_nil]
  | [], b :: bs => by simp [listEq_nil_cons]
  | a :: as, [] => by simp [listEq_cons_nil]
  | a :: as, b :: bs => by
    rw [listEq_cons_cons, Bool.and_eq_true, listEq_iff eqv as bs]
    constructor
    · rintro ⟨h0, hl, hi⟩
      refine ⟨by simp [hl], ?_⟩
      intro i ha hb
      cases i with
      | zero => simpa using h0
      | succ i => simpa using hi i (by simpa using ha) (by simpa using hb)
    · rintro ⟨hl, hi⟩
      have h0 := hi 0 (Nat.succ_pos _) (Nat.succ_pos _)
      simp only [List.getElem_cons_zero] at h0
      refine ⟨h0, by simpa using hl, ?_⟩
      intro i ha hb
      have hs := hi (i + 1) (Nat.succ_lt_succ ha) (Nat.succ_lt_succ hb)
      simp only [List.getElem_cons_succ] at hs
      exact hs

/-- a list equals itself whatever the elements' `==` says: the items are identical -/
theorem listEq_refl (eqv : Nat → Nat → Bool) (l : List Nat) : listEq eqv l l = true := by
  rw [listEq_iff]
  exact ⟨rfl, fun i _ _ => by simp [pyEq]⟩

theorem subSeqE_iff (eqv : Nat → Nat → Bool) (s1 s2 : List Nat) :
    subSeqE eqv s1 s2 = true ↔
      ∃ o, o + s1.length ≤ s2.length ∧ listEq eqv s1 (windowN s2 o s1.length) = true := by
  unfold subSeqE
  simp only [Bool.and_eq_true, decide_eq_true_eq, List.any_eq_true, List.mem_range]
  constructor
  · rintro ⟨hl, o, ho, h⟩
    exact ⟨o, by omega, h⟩
  · rintro ⟨o, ho, h⟩
    exact ⟨by omega, o, by omega, h⟩

theorem windowN_infix (s s1 t : List Nat) : windowN (s ++ s1 ++ t) s.length s1.length = s1 := by
  simp [windowN]

theorem searchStepE_eq (eqv : Nat → Nat → Bool) (s1 s2 : List Nat) (res : List (Nat × Nat)) (o : Nat) :
    searchStepE eqv s1 s2 res o =
      if listEq eqv s1 (windowN s2 o s1.length) then res ++ [(o, o + s1.length)] else res := by
  simp only [searchStepE, Nat.add_sub_cancel_left]

theorem search_foldl (eqv : Nat → Nat → Bool) (s1 s2 : List Nat) : ∀ (l : List Nat) (acc : List (Nat × Nat)),
    l.foldl (searchStepE eqv s1 s2) acc =
      acc ++ (l.filter (fun o => listEq eqv s1 (windowN s2 o s1.length))).map (fun o => (o, o + s1.length))
  | [], acc => by simp
  | o :: l, acc => by
    rw [List.foldl_cons, search_foldl eqv s1 s2 l, searchStepE_eq, List.filter_cons]
    by_cases h : listEq eqv s1 (windowN s2 o s1.length) = true
    · simp [h]
    · simp [h]

theorem searchSubSeqE_eq (eqv : Nat → Nat → Bool) (s1 s2 : List Nat) :
    searchSubSeqE eqv s1 s2 =
      if s1.length = 0 ∨ s2.length = 0 then .error .valueError
      else if s1.length ≤ s2.length then
        .ok (((List.range (s2.length - s1.length + 1)).filter
              (fun o => listEq eqv s1 (windowN s2 o s1.length))).map (fun o => (o, o + s1.length)))
      else .ok [] := by
  unfold searchSubSeqE
  rw [search_foldl, List.nil_append]

theorem searchSubSeqE_spec (eqv : Nat → Nat → Bool) (s1 s2 : List Nat) (h1 : s1 ≠ []) (h2 : s2 ≠ []) :
    ∃ l, searchSubSeqE eqv s1 s2 = .ok l ∧
      (∀ o e, (o, e) ∈ l ↔
        (e = o + s1.length ∧ e ≤ s2.length ∧ listEq eqv s1 (windowN s2 o s1.length) = true)) ∧
      (l.map (·.1)).Pairwise (· < ·) := by
  have h1' : s1.length ≠ 0 := by simpa using h1
  have h2' : s2.length ≠ 0 := by simpa using h2
  rw [searchSubSeqE_eq, if_neg (by omega)]
  by_cases hl : s1.length ≤ s2.length
  · rw [if_pos hl]
    refine ⟨_, rfl, ?_, ?_⟩
    · intro o e
      simp only [List.mem_map, List.mem_filter, List.mem_range, Prod.mk.injEq]
      constructor
      · rintro ⟨o', ⟨ho, hw⟩, rfl, rfl⟩
        exact ⟨rfl, by omega, hw⟩
      · rintro ⟨rfl, he, hw⟩
        exact ⟨o, ⟨by omega, hw⟩, rfl, rfl⟩
    · rw [List.map_map, show ((fun x : Nat × Nat => x.1) ∘ fun o => (o, o + s1.length)) = id from rfl, List.map_id]
      exact List.pairwise_lt_range.sublist List.filter_sublist
  · rw [if_neg hl]
    refine ⟨[], rfl, ?_, by simp⟩
    intro o e
    simp only [List.not_mem_nil, false_iff]
    rintro ⟨rfl, he, _⟩
    omega

theorem pyEq_val (val : Nat → Int) (a b : Nat) : pyEq (fun a b => val a == val b) a b = (val a == val b) := by
  unfold pyEq
  by_cases h : a = b
  · subst h; simp
  · simp [h]

theorem listEq_val (val : Nat → Int) : ∀ (a b : List Nat),
    listEq (fun a b => val a == val b) a b = (a.map val == b.map val)
  | [], [] => by simp [listEq_nil_nil]
  | [], b :: bs => by simp [listEq_nil_cons]
  | a :: as, [] => by simp [listEq_cons_nil]
  | a :: as, b :: bs => by
    rw [listEq_cons_cons, pyEq_val, listEq_val val as bs, List.map_cons, List.map_cons, List.cons_beq_cons]

theorem window_map (val : Nat → Int) (s2 : List Nat) (o n : Nat) : window (s2.map val) o n = (windowN s2 o n).map val := by
  simp [window, windowN, List.map_take, List.map_drop]

/-- for elements compared by value (`val` = the payload of an object) the functions over objects are the functions over
values (`subSeq`, `searchSubSeq`) -/
theorem subSeqE_agree_with_old (val : Nat → Int) (s1 s2 : List Nat) :
    subSeqE (fun a b => val a == val b) s1 s2 = subSeq (s1.map val) (s2.map val) := by
  unfold subSeqE subSeq
  simp only [List.length_map, window_map, listEq_val]

theorem searchSubSeqE_agree_with_old (val : Nat → Int) (s1 s2 : List Nat) :
    searchSubSeqE (fun a b => val a == val b) s1 s2 = searchSubSeq (s1.map val) (s2.map val) := by
  rw [searchSubSeqE_eq]
  unfold searchSubSeq
  simp only [List.length_map, window_map, listEq_val]

/-- every pair of integer sequences is the image of two sequences of objects under a payload function, so the statement
above covers all inputs of the functions over values -/
theorem lists_are_images (l1 l2 : List Int) :
    ∃ (val : Nat → Int) (s1 s2 : List Nat), s1.map val = l1 ∧ s2.map val = l2 := by
  refine ⟨fun i => (l1 ++ l2).getD i 0, List.range l1.length, List.range' l1.length l2.length, ?_, ?_⟩
  · apply List.ext_getElem (by simp)
    intro i h1 h2
    simp only [List.length_map, List.length_range] at h1
    simp [List.getElem?_append_left h1, List.getElem?_eq_getElem h1]
  · apply List.ext_getElem (by simp)
    intro i h1 h2
    simp only [List.length_map, List.length_range'] at h1
    simp [List.getElem?_append_right, List.getElem?_eq_getElem h1]

end WindVerif.Generic
