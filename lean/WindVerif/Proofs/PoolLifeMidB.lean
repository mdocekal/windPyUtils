import WindVerif.Proofs.PoolLifeMid
/-!
Mid-call `until_all_ready()` (C04), the caller's view: every worker that the pool listed at the moment `until_all_ready()`
was called (the loop fetched slot 0) and that it still lists after the call has returned has completed `begin()` — the
oracle the harness applies to the real code.  A worker listed before and after was listed, in its slot, all the time (a
slot is only ever overwritten with a fresh wid), hence it was the occupant when the loop arrived at the slot, hence it was
waited for.
-/
namespace WindVerif.Pool

structure ProcsStep (s s' : St) : Prop where
  wc : s.widCounter ≤ s'.widCounter
  len : s'.procs.length = s.procs.length
  ent : ∀ (j v : Nat), s'.procs[j]? = some v → s.procs[j]? = some v ∨ s.widCounter ≤ v

theorem ProcsStep_same {s s' : St} (h1 : s'.procs = s.procs) (h2 : s'.widCounter = s.widCounter) : ProcsStep s s' :=
  ⟨by rw [h2]; exact Nat.le_refl _, by rw [h1], fun j v h => Or.inl (by rw [← h1]; exact h)⟩

theorem stepC_procsM {s s' : St} (h : stepC s = some s') : s'.procs = s.procs ∧ s'.widCounter = s.widCounter :=
  ⟨(stepC_shape h).1.2.1, (stepC_shape h).1.2.2.1⟩

theorem stepF_procsM {s s' : St} (h : stepF s = some s') : s'.procs = s.procs ∧ s'.widCounter = s.widCounter :=
  ⟨(stepF_same h).1.procs, (stepF_same h).1.widCounter⟩

theorem stepR_procsM {s s' : St} (h : stepR s = some s') : ProcsStep s s' := by
  obtain ⟨_, ⟨r, _, _, rfl⟩ | ⟨wid, r, _, _, rfl⟩ | ⟨wid, _, _, rfl⟩ | ⟨nw, w, _, _, rfl⟩⟩ := stepR_cases h
  · exact ProcsStep_same rfl rfl
  · exact ProcsStep_same rfl rfl
  · refine ⟨Nat.le_succ _, List.length_map _, ?_⟩
    intro j v hv
    dsimp only at hv
    rw [List.getElem?_map] at hv
    cases hx : s.procs[j]? with
    | none => rw [hx] at hv; cases hv
    | some x =>
      rw [hx] at hv
      simp only [Option.map_some, Option.some.injEq] at hv
      by_cases he : x = wid
      · rw [if_pos he] at hv; right; omega
      · rw [if_neg he] at hv; left; rw [hv]
  · exact ProcsStep_same rfl rfl

theorem step_procsM {s s' : St} {t : Tid} (h : step s t = some s') : ProcsStep s s' := by
  cases t with
  | c => exact ProcsStep_same (stepC_procsM h).1 (stepC_procsM h).2
  | f => exact ProcsStep_same (stepF_procsM h).1 (stepF_procsM h).2
  | r => exact stepR_procsM h
  | w k =>
    obtain ⟨w, w', _, _, _, _, _, _, hf⟩ := stepW_summary h
    exact ProcsStep_same hf.procs hf.widCounter

def Begun (s : St) (v : Nat) : Prop := ∃ x ∈ s.workers, x.wid = v ∧ x.bf = true

theorem Begun_step {s s' : St} {t : Tid} (hI : LInv s) (h : step s t = some s') {v : Nat} (hb : Begun s v) : Begun s' v := by
  obtain ⟨x, hx, hxw, hxb⟩ := hb
  obtain ⟨y, hy, hyw, hyb⟩ := step_bfMono hI h x hx
  exact ⟨y, hy, hyw.trans hxw, hyb hxb⟩

/-- the invariant of a run that starts where `until_all_ready()` fetches slot 0 (`wc0` = the wid counter at that moment,
`pr0` = the listing at that moment, `k` = slots the loop has passed): old wids sit in their old slots; old wids in passed
slots have completed `begin()`; the loop is at slot `k` with the old occupant of that slot in its hands, if an old wid is
still there — or it has passed every slot -/
structure MidRun (wc0 : Nat) (pr0 : List Nat) (s : St) (k : Nat) : Prop where
  wc : wc0 ≤ s.widCounter
  old : ∀ (j v : Nat), s.procs[j]? = some v → v < wc0 → pr0[j]? = some v
  passed : ∀ (j v : Nat), j < k → s.procs[j]? = some v → v < wc0 → Begun s v
  at_ : (∃ w, s.cpc = .midReady k w ∧ ∀ w', s.procs[k]? = some w' → w' < wc0 → w' = w) ∨ s.procs.length ≤ k

theorem MidRun_step {wc0 : Nat} {pr0 : List Nat} {s s' : St} {t : Tid} {k : Nat} (hI : LInv s) (hM : MidRun wc0 pr0 s k)
    (h : step s t = some s') : ∃ k', MidRun wc0 pr0 s' k' := by
  have hp := step_procsM h
  have hold : ∀ (j v : Nat), s'.procs[j]? = some v → v < wc0 → s.procs[j]? = some v := by
    intro j v hv hlt
    rcases hp.ent j v hv with h1 | h1
    · exact h1
    · have := hM.wc; omega
  have hwc : wc0 ≤ s'.widCounter := Nat.le_trans hM.wc hp.wc
  have hold' : ∀ (j v : Nat), s'.procs[j]? = some v → v < wc0 → pr0[j]? = some v :=
    fun j v hv hlt => hM.old j v (hold j v hv hlt) hlt
  have hpassed : ∀ (j v : Nat), j < k → s'.procs[j]? = some v → v < wc0 → Begun s' v :=
    fun j v hj hv hlt => Begun_step hI h (hM.passed j v hj (hold j v hv hlt) hlt)
  by_cases ht : t = .c
  · subst ht
    rcases hM.at_ with ⟨w, hpc, hw⟩ | hge
    · -- the wait for slot `k`
      have hst : stepC s = some s' := h
      obtain ⟨hbf, hnext⟩ := ready_mid_next s s' k w hpc h
      have hbw : Begun s' w := Begun_step hI h hbf
      have hprocs : s'.procs = s.procs := (stepC_procsM hst).1
      have hpassed' : ∀ (j v : Nat), j < k + 1 → s'.procs[j]? = some v → v < wc0 → Begun s' v := by
        intro j v hj hv hlt
        rcases Nat.lt_or_ge j k with hjk | hjk
        · exact hpassed j v hjk hv hlt
        · have : j = k := by omega
          subst this
          have := hw v (hold j v hv hlt) hlt
          rw [this]; exact hbw
      refine ⟨k + 1, hwc, hold', hpassed', ?_⟩
      cases hx : s.procs[k + 1]? with
      | some v =>
        rw [hx] at hnext
        refine Or.inl ⟨v, hnext, ?_⟩
        intro w' hw' _
        rw [hprocs, hx] at hw'; cases hw'; rfl
      | none =>
        right
        rw [hprocs]
        rcases Nat.lt_or_ge (k + 1) s.procs.length with hh | hh
        · rw [List.getElem?_eq_getElem hh] at hx; cases hx
        · exact hh
    · exact ⟨k, hwc, hold', hpassed, Or.inr (by rw [hp.len]; exact hge)⟩
  · have hcpc := step_cpc_of_ne_c hI h ht
    refine ⟨k, hwc, hold', hpassed, ?_⟩
    rcases hM.at_ with ⟨w, hpc, hw⟩ | hge
    · refine Or.inl ⟨w, by rw [hcpc]; exact hpc, ?_⟩
      intro w' hw' hlt
      exact hw w' (hold k w' hw' hlt) hlt
    · exact Or.inr (by rw [hp.len]; exact hge)

theorem MidRun_run {wc0 : Nat} {pr0 : List Nat} {s s' : St} {sched : List Tid} {k : Nat} (hI : LInv s)
    (hM : MidRun wc0 pr0 s k) (h : run s sched = some s') : ∃ k', MidRun wc0 pr0 s' k' := by
  induction sched generalizing s k with
  | nil => cases h; exact ⟨k, hM⟩
  | cons t ts ih =>
    simp only [run] at h
    split at h
    · cases h
    · rename_i s1 hs1
      obtain ⟨k1, hM1⟩ := MidRun_step hI hM hs1
      exact ih (LInv_step hI hs1) hM1 h

/-- **the caller's view of the mid-call `until_all_ready()`** (the oracle of the harness): in a reachable state `s₀` the
consumer has just fetched slot 0 (`procs[0] = w₀`, the moment `until_all_ready()` is entered); in any later state `s₁` in
which the consumer is not inside an `until_all_ready()` — e.g. right after the call has returned — every worker `v` that
was listed in `s₀` and is (still) listed in `s₁` has completed `begin()`.  Successors listed in between are exactly the
ones this does not cover. -/
theorem ready_mid_listed (cfg : Cfg) (s₀ : St) (h : Reach cfg s₀) (w₀ : Nat) (hpc : s₀.cpc = .midReady 0 w₀)
    (hfetch : s₀.procs[0]? = some w₀) (sched : List Tid) (s₁ : St) (hrun : run s₀ sched = some s₁)
    (hleft : ∀ j v, s₁.cpc ≠ .midReady j v) (v : Nat) (hb : v ∈ s₀.procs) (ha : v ∈ s₁.procs) :
    ∃ w ∈ s₁.workers, w.wid = v ∧ w.bf = true ∧ WEv.begin ∈ w.log := by
  obtain ⟨hI, _⟩ := LInv_reach h
  have h0 : MidRun s₀.widCounter s₀.procs s₀ 0 := by
    refine ⟨Nat.le_refl _, fun j v hv _ => hv, fun j v hj => by omega, Or.inl ⟨w₀, hpc, ?_⟩⟩
    intro w' hw' _
    rw [hfetch] at hw'; cases hw'; rfl
  obtain ⟨k, hM⟩ := MidRun_run hI h0 hrun
  have hk : s₁.procs.length ≤ k := by
    rcases hM.at_ with ⟨w, hw, _⟩ | hge
    · exact absurd hw (hleft k w)
    · exact hge
  obtain ⟨j, hj⟩ := List.getElem?_of_mem ha
  have hjlt : j < s₁.procs.length := (List.getElem?_eq_some_iff.1 hj).1
  obtain ⟨y, hy, hyw, hyb⟩ := hM.passed j v (by omega) hj (hI.procsLt v hb)
  exact ⟨y, hy, hyw, hyb, ((LInv_run hI hrun).1.wk y hy).bfLog hyb⟩

end WindVerif.Pool
