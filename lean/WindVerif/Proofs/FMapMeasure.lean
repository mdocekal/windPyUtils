import WindVerif.Proofs.FMapInv
/-! Termination: the measure `mu` decreases with every step.

`mu s = muA s + muB s + phi … s.ppc`: what the queues and workers still have to do, what the caller's program has left
after the current position, and the weight of the position itself.  A step is accounted for part by part (`mu_lt`);
where the caller runs on through `startCall`, `afterFeeding` or `finalOrNext`, these are bounded by the weight of a
position from which the same work would still have to be done. -/
namespace WindVerif.FMap

def muB (s : St) : Nat := (s.callsLeft.map (callW s.cfg.nWorkers)).sum + 5 * (s.total - (s.next + 1))

theorem mu_eq (s : St) : mu s = muA s + muB s + phi s.cfg.mulP s.cfg.nWorkers s.ppc := by
  simp only [mu, muB, Nat.add_assoc]

/-- the queues and workers gain at most `a`, the rest of the program loses at least `b`, and the new position `K` makes
up for it -/
theorem mu_lt {s t : St} {p : PPc} {K : Nat} (hp : s.ppc = p) (a b : Nat) (hA : muA t ≤ muA s + a)
    (hB : muB t + b ≤ muB s) (hK : K + a < phi s.cfg.mulP s.cfg.nWorkers p + b) : muA t + muB t + K < mu s := by
  rw [mu_eq, hp]; omega

/-- what is left after the last call: `FunctorMap` leaves its context (`phi false N (.stopPut 0)`), `mul_p_map` is over -/
def tailD (c : Cfg) : Nat := if c.mulP then 0 else 2 * c.nWorkers + 2

/-- the weight of a call pays for its chunks, for the fresh workers of `mul_p_map` and for the position the call starts at -/
theorem callW_pays (m : Bool) (N n : Nat) :
    (if m then N + phi true N (.start 0) else phi false N .put) + 5 * (n - (0 + 1)) ≤ callW N n := by
  cases m <;> simp only [phi, callW, Bool.false_eq_true, if_true, if_false] <;> omega

theorem mu_startCallGo (l : List Nat) : ∀ s : St,
    mu (startCallGo s l) ≤ muA s + (l.map (callW s.cfg.nWorkers)).sum + 5 * (s.total - (s.next + 1)) + tailD s.cfg := by
  induction l with
  | nil =>
    intro s
    unfold startCallGo
    rw [Nat.add_assoc (muA s)]
    split
    · exact Nat.le_trans (Nat.le_of_eq (mu_eq _)) (Nat.add_le_add_left (Nat.zero_le _) _)
    · rename_i hc
      have hm : s.cfg.mulP = false := Bool.eq_false_iff.2 fun h => hc (.inl h)
      refine Nat.le_trans (Nat.le_of_eq (mu_eq _)) (Nat.add_le_add_left ?_ _)
      show phi s.cfg.mulP s.cfg.nWorkers (.stopPut 0) ≤ _
      simp only [phi, tailD, hm, Bool.false_eq_true, if_false]
      omega
  | cons n rest ih =>
    intro s
    have hpay := callW_pays s.cfg.mulP s.cfg.nWorkers n
    unfold startCallGo
    cases hm : s.cfg.mulP
    · simp only [hm, Bool.false_eq_true, if_false] at hpay ⊢
      split
      · refine Nat.le_trans (ih _) ?_
        simp only [muA, List.map_cons, List.sum_cons]
        omega
      · refine Nat.le_trans (Nat.le_of_eq (mu_eq _)) ?_
        simp only [muA, muB, hm, List.map_cons, List.sum_cons]
        omega
    · simp only [hm, if_true] at hpay ⊢
      refine Nat.le_trans (Nat.le_of_eq (mu_eq _)) ?_
      simp only [muA, muB, hm, List.map_cons, List.sum_cons, List.map_append, List.sum_append, wOmega_mkWorkers]
      omega

theorem mu_startCall (s : St) : mu (startCall s) ≤ muA s + muB s + tailD s.cfg := by
  have := mu_startCallGo s.callsLeft s
  rw [Nat.add_assoc (muA s)] at this
  exact this

theorem mu_finalOrNext (s : St) (hN : 1 ≤ s.cfg.nWorkers) :
    mu (finalOrNext s) ≤ muA s + muB s + phi s.cfg.mulP s.cfg.nWorkers .finalGet := by
  unfold finalOrNext
  split
  · exact Nat.le_of_eq (mu_eq _)
  · cases hm : s.cfg.mulP
    · rw [if_neg nofun]
      refine Nat.le_trans (mu_startCall s) (Nat.add_le_add_left ?_ _)
      simp only [tailD, hm, phi, Bool.false_eq_true, if_false]
      exact Nat.le_refl _
    · rw [if_pos rfl, if_neg (Nat.ne_of_gt hN)]
      refine Nat.le_trans (Nat.le_of_eq (mu_eq _)) (Nat.add_le_add_left ?_ _)
      show phi s.cfg.mulP s.cfg.nWorkers (.join 0) ≤ _
      simp only [phi, if_true]
      omega

theorem mu_afterFeeding (s : St) (hN : 1 ≤ s.cfg.nWorkers) :
    mu (afterFeeding s) ≤ muA s + muB s + phi s.cfg.mulP s.cfg.nWorkers (.stopPut 0) := by
  unfold afterFeeding
  by_cases hm : s.cfg.mulP = true
  · rw [if_pos hm, if_neg (Nat.ne_of_gt hN)]
    exact Nat.le_of_eq (mu_eq _)
  · rw [if_neg hm]
    refine Nat.le_trans (mu_finalOrNext s hN) (Nat.add_le_add_left ?_ _)
    simp only [phi, Bool.eq_false_iff.2 hm, Bool.false_eq_true, if_false]
    omega

theorem wsum_repl (l1 l2 : List Worker) (w : Worker) :
    ((l1 ++ w :: l2).map wOmega).sum = (l1.map wOmega).sum + (wOmega w + (l2.map wOmega).sum) := by
  rw [List.map_append, List.sum_append, List.map_cons, List.sum_cons]

theorem mu_setWorker {s : St} {l1 l2 : List Worker} {w w' : Worker} {q : List (Option Nat)} {r : List Nat}
    (hws : s.workers = l1 ++ w :: l2)
    (h : 3 * (chunksQ q).length + r.length + wOmega w' < 3 * (chunksQ s.workQ).length + s.resQ.length + wOmega w) :
    mu { s with workQ := q, resQ := r, workers := l1 ++ w' :: l2 } < mu s := by
  rw [mu_eq, mu_eq s]
  refine Nat.add_lt_add_right (Nat.add_lt_add_right ?_ _) _
  show 3 * (chunksQ q).length + r.length + _ < 3 * (chunksQ s.workQ).length + s.resQ.length + _
  rw [hws, wsum_repl, wsum_repl]
  omega

theorem mu_stepW {cfg : Cfg} {s s' : St} {wid : Nat} (h : Main cfg s) (hs : stepW s wid = some s') : mu s' < mu s := by
  refine stepW_elim (motive := fun t => mu t < mu s) h.wids hs ?_ ?_ ?_
  · intro l1 l2 w q hws hpc hq
    refine mu_setWorker hws ?_
    simp only [hq, wOmega, hpc, chunksQ_none_cons]
    exact Nat.lt_succ_self _
  · intro l1 l2 w c q hws hpc hq
    refine mu_setWorker hws ?_
    simp only [hq, wOmega, hpc, chunksQ_some_cons, List.length_cons]
    omega
  · intro l1 l2 w c hws hpc _
    refine mu_setWorker hws ?_
    simp only [wOmega, hpc, List.length_append, List.length_singleton]
    omega

theorem mu_receive (s : St) (i : Nat) : mu (receive s i) = mu s := by
  obtain ⟨_, _, _, _, _, e⟩ := receive_frame s i
  rw [e]; rfl

theorem mu_stepP {cfg : Cfg} (hw : 1 ≤ cfg.nWorkers) {s s' : St} (h : Main cfg s) (hs : stepP s = some s') :
    mu s' < mu s := by
  have hN : 1 ≤ s.cfg.nWorkers := by rw [h.cfg_eq]; exact hw
  have hB : muB s + 0 ≤ muB s := Nat.le_refl _
  cases hp : s.ppc with
  | start i =>
    rw [stepP_start hp] at hs
    split at hs
    · cases hs
    · rename_i w hg
      obtain ⟨l1, l2, hws, hwid, hset⟩ := workers_decomp h.wids hg
      simp only [hset s { w with pc := .get } rfl hwid] at hs
      have hA : 3 * (chunksQ s.workQ).length + s.resQ.length + ((l1 ++ { w with pc := .get } :: l2).map wOmega).sum
          ≤ muA s + 1 := by
        simp only [muA, hws, wsum_repl, wOmega]; omega
      refine of_ite_eq hs (fun h1 hs => ?_) fun _ hs => of_ite_eq hs (fun hm hs => ?_) fun hm hs => ?_
      · cases hs
        rw [mu_eq]
        exact mu_lt hp 1 0 hA hB (by cases s.cfg.mulP <;> simp [phi] <;> omega)
      · refine of_ite_eq hs (fun _ hs => ?_) fun _ hs => ?_
        · cases hs
          exact Nat.lt_of_le_of_lt (mu_afterFeeding _ hN) (mu_lt hp 1 0 hA hB (by simp [phi, hm] <;> omega))
        · cases hs
          rw [mu_eq]
          exact mu_lt hp 1 0 hA hB (by simp [phi, hm] <;> omega)
      · cases hs
        exact Nat.lt_of_le_of_lt (mu_startCall _) (mu_lt hp 1 0 hA hB (by simp [tailD, phi, hm] <;> omega))
  | put =>
    rw [stepP_put hp] at hs
    refine of_ite_eq hs nofun fun _ hs => ?_
    · cases hs
      rw [mu_eq]
      refine mu_lt hp 3 0 ?_ hB (by cases s.cfg.mulP <;> simp [phi] <;> omega)
      simp only [muA, chunksQ_append, chunksQ_some_cons, chunksQ_nil, List.length_append, List.length_singleton]
      omega
  | nowait =>
    cases hq : s.resQ with
    | cons i r =>
      have hA : muA { s with resQ := r } + 1 ≤ muA s := by
        simp only [muA, hq, List.length_cons]; omega
      rw [stepP_nowait_cons hp hq] at hs
      refine of_ite_eq hs (fun hex hs => ?_) fun _ hs => ?_
      · -- `exact`: the rest of the call (final drain, start of the next call) is skipped
        have hm : s.cfg.mulP = false := Bool.eq_false_iff.2 hex.2.1
        cases hs
        obtain ⟨_, _, _, _, _, e⟩ := receive_frame { s with resQ := r } i
        rw [e]
        exact Nat.lt_of_le_of_lt (mu_startCall _) (mu_lt hp 0 0 (Nat.le_of_succ_le hA) hB (by simp [tailD, phi, hm] <;> omega))
      · cases hs
        rw [mu_receive, mu_eq, mu_eq s]
        exact Nat.add_lt_add_right (Nat.add_lt_add_right hA _) _
    | nil =>
      rw [stepP_nowait_nil hp hq] at hs
      refine of_ite_eq hs (fun h1 hs => ?_) fun h1 hs => ?_
      · cases hs
        rw [mu_eq]
        refine mu_lt hp 0 5 (Nat.le_refl _) ?_ (by cases s.cfg.mulP <;> simp [phi] <;> omega)
        simp only [muB]; omega
      · cases hs
        refine Nat.lt_of_le_of_lt (mu_afterFeeding _ hN) (mu_lt hp 0 0 (Nat.le_refl _) ?_ (by cases s.cfg.mulP <;> simp [phi] <;> omega))
        simp only [muB]; omega
  | stopPut i =>
    have hA : ∀ X, muA { s with workQ := s.workQ ++ [none], ppc := X } ≤ muA s + 0 := fun X => by
      simp only [muA, chunksQ_append, chunksQ_none_cons, chunksQ_nil, List.append_nil]; exact Nat.le_refl _
    rw [stepP_stopPut hp] at hs
    refine of_ite_eq hs nofun fun _ hs => of_ite_eq hs (fun h1 hs => ?_) fun _ hs => of_ite_eq hs (fun hm hs => ?_)
      fun hm hs => ?_
    · cases hs
      rw [mu_eq]
      exact mu_lt hp 0 0 (hA _) hB (by cases s.cfg.mulP <;> simp [phi] <;> omega)
    · cases hs
      exact Nat.lt_of_le_of_lt (mu_finalOrNext _ hN) (mu_lt hp 0 0 (hA s.ppc) hB (by simp [phi, hm] <;> omega))
    · cases hs
      rw [mu_eq]
      exact mu_lt hp 0 0 (hA _) hB (by simp [phi, hm] <;> omega)
  | finalGet =>
    rw [stepP_finalGet hp] at hs
    split at hs
    · cases hs
    · rename_i i r hq
      cases hs
      have hA : muA { s with resQ := r } + 1 ≤ muA s := by
        simp only [muA, hq, List.length_cons]; omega
      obtain ⟨_, _, _, _, _, e⟩ := receive_frame { s with resQ := r } i
      rw [e]
      refine Nat.lt_of_lt_of_le (Nat.lt_of_le_of_lt (mu_finalOrNext _ hN) ?_) (Nat.le_of_eq (mu_eq s).symm)
      rw [hp]
      exact Nat.add_lt_add_right (Nat.add_lt_add_right hA _) _
  | join i =>
    rw [stepP_join hp] at hs
    refine of_ite_eq hs (fun _ hs => of_ite_eq hs (fun h1 hs => ?_) fun _ hs => of_ite_eq hs (fun hm hs => ?_)
      fun hm hs => ?_) nofun
    · cases hs
      rw [mu_eq]
      exact mu_lt hp 0 0 (Nat.le_refl _) hB (by simp [phi] <;> omega)
    · cases hs
      exact Nat.lt_of_le_of_lt (mu_startCall _) (mu_lt hp 0 0 (Nat.le_refl _) hB (by simp [tailD, phi, hm] <;> omega))
    · cases hs
      rw [mu_eq]
      exact mu_lt hp 0 0 (Nat.le_refl _) hB (by simp [phi] <;> omega)
  | done => rw [stepP_done hp] at hs; cases hs

theorem mu_step {cfg : Cfg} (hw : 1 ≤ cfg.nWorkers) {s s' : St} {t : Tid} (h : Main cfg s) (hs : step s t = some s') :
    mu s' < mu s := by
  cases t with
  | p => exact mu_stepP hw h hs
  | w wid => exact mu_stepW h hs

theorem run_mu {cfg : Cfg} (hw : 1 ≤ cfg.nWorkers) (sched : List Tid) :
    ∀ {s s' : St}, Inv cfg s → run s sched = some s' → sched.length + mu s' ≤ mu s := by
  induction sched with
  | nil => intro s s' _ hr; cases hr; exact Nat.le_of_eq (Nat.zero_add _)
  | cons t ts ih =>
    intro s s' h hr
    unfold run at hr
    split at hr
    · cases hr
    · rename_i s1 hst
      have h1 := ih (inv_step hw h hst) hr
      have h2 := mu_step hw h.toMain hst
      rw [List.length_cons]
      omega

end WindVerif.FMap
