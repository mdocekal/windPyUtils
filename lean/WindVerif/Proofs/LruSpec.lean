import WindVerif.Proofs.AList
import WindVerif.Proofs.MixinSpec
/-! Theorems about the abstract LRU cache (recency list), including its justification by time stamps. -/
set_option linter.unusedVariables false
namespace WindVerif.Cache.LruSpec
open WindVerif.Cache

theorem lookup_iff {l : St} (hn : (l.map (·.1)).Nodup) {k : Key} {v : Val} :
    l.lookup k = some v ↔ (k, v) ∈ l := ⟨al_mem_of_lookup, al_lookup_of_mem hn⟩

theorem mem_without {l : St} {k : Key} {p : Key × Val} : p ∈ without l k ↔ p ∈ l ∧ p.1 ≠ k := by
  simp [without]

theorem lookup_without (l : St) (k k' : Key) :
    (without l k).lookup k' = if k' = k then none else l.lookup k' := al_lookup_filter l k k'

theorem nodup_without {l : St} (hn : (l.map (·.1)).Nodup) (k : Key) : ((without l k).map (·.1)).Nodup :=
  hn.sublist (List.filter_sublist.map _)

theorem length_without {l : St} (hn : (l.map (·.1)).Nodup) {k : Key} (hk : k ∈ l.map (·.1)) :
    (without l k).length + 1 = l.length := al_length_filter hn hk

theorem wf_front {cap : Nat} {l : St} (h : Wf cap l) {k : Key} (hk : k ∈ l.map (·.1)) (v : Val) :
    Wf cap ((k, v) :: without l k) := by
  refine ⟨List.nodup_cons.2 ⟨?_, nodup_without h.1 k⟩, ?_⟩
  · rw [← al_lookup_none, lookup_without, if_pos rfl]
  · rw [List.length_cons, length_without h.1 hk]
    exact h.2

theorem wf_without {cap : Nat} {l : St} (h : Wf cap l) (k : Key) : Wf cap (without l k) :=
  ⟨nodup_without h.1 k, Nat.le_trans (List.length_filter_le _ _) h.2⟩

theorem perm_front {l : St} (hn : (l.map (·.1)).Nodup) {k : Key} {v : Val} (h : (k, v) ∈ l) :
    ((k, v) :: without l k).Perm l := by
  have hl := nodup_of_map _ hn
  refine (List.perm_ext_iff_of_nodup ?_ hl).2 fun p => ?_
  · exact List.nodup_cons.2 ⟨fun hm => (mem_without.1 hm).2 rfl, hl.sublist List.filter_sublist⟩
  · rw [List.mem_cons, mem_without]
    constructor
    · rintro (rfl | hp)
      · exact h
      · exact hp.1
    · intro hp
      by_cases hk : p.1 = k
      · exact .inl (inj_of_nodup_map hn hp h hk)
      · exact .inr ⟨hp, hk⟩

theorem lookup_perm {l l' : St} (hp : l'.Perm l) (hn : (l.map (·.1)).Nodup) (k : Key) :
    l'.lookup k = l.lookup k := al_lookup_perm hp hn k

theorem get_some {l : St} {k : Key} {v : Val} (h : l.lookup k = some v) :
    get l k = .ok ((k, v) :: without l k, v) := by
  simp only [get, h]

theorem get_none {l : St} {k : Key} (h : l.lookup k = none) : get l k = .error .keyError := by
  simp only [get, h]

theorem get_ok {l l' : St} {k : Key} {v : Val} (hg : get l k = .ok (l', v)) :
    l.lookup k = some v ∧ l' = (k, v) :: without l k := by
  cases h : l.lookup k with
  | none => rw [get_none h] at hg; cases hg
  | some w => rw [get_some h] at hg; cases hg; exact ⟨rfl, rfl⟩

theorem set_present {l : St} {k : Key} (cap : Nat) (v : Val) (h : (l.lookup k).isSome) :
    set cap l k v = .ok ((k, v) :: without l k) := by
  simp only [set, h, if_true]

theorem set_full {cap : Nat} {l : St} {k : Key} (v : Val) (h : l.lookup k = none) (hc : cap ≤ l.length) :
    set cap l k v = .ok ((k, v) :: l.dropLast) := by
  simp only [set, h, Option.isSome_none, Bool.false_eq_true, if_false, ge_iff_le, hc, if_true]

theorem set_room {cap : Nat} {l : St} {k : Key} (v : Val) (h : l.lookup k = none) (hc : l.length < cap) :
    set cap l k v = .ok ((k, v) :: l) := by
  simp only [set, h, Option.isSome_none, Bool.false_eq_true, if_false, ge_iff_le, Nat.not_le.2 hc]

theorem set_cases (cap : Nat) (l : St) (k : Key) (v : Val) :
    ((l.lookup k).isSome ∧ set cap l k v = .ok ((k, v) :: without l k)) ∨
    (l.lookup k = none ∧ cap ≤ l.length ∧ set cap l k v = .ok ((k, v) :: l.dropLast)) ∨
    (l.lookup k = none ∧ l.length < cap ∧ set cap l k v = .ok ((k, v) :: l)) := by
  cases h : l.lookup k with
  | some w => exact .inl ⟨rfl, set_present cap v (h ▸ rfl)⟩
  | none =>
    rcases Nat.lt_or_ge l.length cap with hc | hc
    · exact .inr (.inr ⟨rfl, hc, set_room v h hc⟩)
    · exact .inr (.inl ⟨rfl, hc, set_full v h hc⟩)

theorem del_some {l : St} {k : Key} (h : (l.lookup k).isSome) : del l k = .ok (without l k) := by
  simp only [del, h, if_true]

theorem del_none {l : St} {k : Key} (h : l.lookup k = none) : del l k = .error .keyError := by
  simp only [del, h, Option.isSome_none, Bool.false_eq_true, if_false]

theorem del_ok {l l' : St} {k : Key} (hd : del l k = .ok l') : (l.lookup k).isSome ∧ l' = without l k := by
  cases h : l.lookup k with
  | none => rw [del_none h] at hd; cases hd
  | some w => rw [del_some (h ▸ rfl)] at hd; cases hd; exact ⟨rfl, rfl⟩

theorem wf_set' (cap : Nat) (hc : 1 ≤ cap) (l l' : St) (k : Key) (v : Val) (h : Wf cap l)
    (hs : set cap l k v = .ok l') : Wf cap l' := by
  rcases set_cases cap l k v with ⟨h1, h2⟩ | ⟨h1, h2, h3⟩ | ⟨h1, h2, h3⟩
  · cases h2.symm.trans hs
    exact wf_front h (al_lookup_isSome_keys.1 h1) v
  · cases h3.symm.trans hs
    have hsub : (l.dropLast.map (·.1)).Sublist (l.map (·.1)) := (List.dropLast_sublist l).map _
    refine ⟨List.nodup_cons.2 ⟨fun hm => al_lookup_none.1 h1 (hsub.subset hm), h.1.sublist hsub⟩, ?_⟩
    have := h.2
    rw [List.length_cons, List.length_dropLast]
    omega
  · cases h3.symm.trans hs
    exact ⟨List.nodup_cons.2 ⟨al_lookup_none.1 h1, h.1⟩, h2⟩

theorem set_total (cap : Nat) (l : St) (k : Key) (v : Val) : ∃ l', set cap l k v = .ok l' := by
  rcases set_cases cap l k v with ⟨_, h⟩ | ⟨_, _, h⟩ | ⟨_, _, h⟩ <;> exact ⟨_, h⟩

theorem get_spec (cap : Nat) (l : St) (k : Key) (h : Wf cap l) :
    (∀ v, l.lookup k = some v → ∃ l', get l k = .ok (l', v) ∧ l'.Perm l ∧ l'.head? = some (k, v)) ∧
    (l.lookup k = none → get l k = .error .keyError) :=
  ⟨fun v hv => ⟨_, get_some hv, perm_front h.1 (al_mem_of_lookup hv), rfl⟩, get_none⟩

theorem lookup_cons_ne {l : St} {k k' : Key} (v : Val) (h : k' ≠ k) : ((k, v) :: l).lookup k' = l.lookup k' := by
  rw [al_lookup_cons, if_neg h]

theorem lookup_after_set (cap : Nat) (hc : 1 ≤ cap) (l l' : St) (k : Key) (v : Val) (h : Wf cap l)
    (hs : set cap l k v = .ok l') :
    l'.lookup k = some v ∧ ∀ k', k' ≠ k → ∀ w, l'.lookup k' = some w → l.lookup k' = some w := by
  rcases set_cases cap l k v with ⟨h1, h2⟩ | ⟨h1, h2, h3⟩ | ⟨h1, h2, h3⟩
  · cases h2.symm.trans hs
    refine ⟨List.lookup_cons_self, fun k' hk' w hw => ?_⟩
    rwa [lookup_cons_ne v hk', lookup_without, if_neg hk'] at hw
  · cases h3.symm.trans hs
    refine ⟨List.lookup_cons_self, fun k' hk' w hw => ?_⟩
    rw [lookup_cons_ne v hk'] at hw
    exact al_lookup_of_mem h.1 ((List.dropLast_sublist _).subset (al_mem_of_lookup hw))
  · cases h3.symm.trans hs
    refine ⟨List.lookup_cons_self, fun k' hk' w hw => ?_⟩
    rwa [lookup_cons_ne v hk'] at hw

theorem evicts_exactly_lru (cap : Nat) (hc : 1 ≤ cap) (l : St) (k : Key) (v : Val) (h : Wf cap l)
    (hfull : l.length = cap) (hnew : l.lookup k = none) :
    ∃ init last, l = init ++ [last] ∧ set cap l k v = .ok ((k, v) :: init) := by
  have hne : l ≠ [] := fun h0 => by rw [h0] at hfull; exact absurd (hfull ▸ hc) (by decide)
  exact ⟨l.dropLast, l.getLast hne, (List.dropLast_concat_getLast hne).symm, set_full v hnew (Nat.le_of_eq hfull.symm)⟩

theorem no_eviction (cap : Nat) (l l' : St) (k : Key) (v : Val) (h : Wf cap l)
    (hroom : l.length < cap ∨ (l.lookup k).isSome) (hs : set cap l k v = .ok l') :
    ∀ k', (l.lookup k').isSome → (l'.lookup k').isSome := by
  intro k' hk'
  rcases set_cases cap l k v with ⟨h1, h2⟩ | ⟨h1, h2, h3⟩ | ⟨h1, h2, h3⟩
  · cases h2.symm.trans hs
    by_cases hkk : k' = k
    · rw [hkk, List.lookup_cons_self]; rfl
    · rwa [lookup_cons_ne v hkk, lookup_without, if_neg hkk]
  · rcases hroom with hr | hr
    · exact absurd hr (Nat.not_lt.2 h2)
    · rw [h1] at hr; cases hr
  · cases h3.symm.trans hs
    by_cases hkk : k' = k
    · rw [hkk, List.lookup_cons_self]; rfl
    · rwa [lookup_cons_ne v hkk]

theorem del_spec (cap : Nat) (l : St) (k : Key) (h : Wf cap l) :
    ((l.lookup k).isSome → ∃ l', del l k = .ok l' ∧ l'.lookup k = none ∧
        ∀ k', k' ≠ k → l'.lookup k' = l.lookup k') ∧
    (l.lookup k = none → del l k = .error .keyError) :=
  ⟨fun hs => ⟨_, del_some hs, by rw [lookup_without, if_pos rfl],
    fun k' hk' => by rw [lookup_without, if_neg hk']⟩, del_none⟩

open LruTs

def tsProj (e : Key × Val × Nat) : Key × Val := (e.1, e.2.1)

theorem zipWith_proj (l : St) (stamps : List Nat) (h : stamps.length = l.length) :
    (List.zipWith (fun (p : Key × Val) (c : Nat) => (p.1, p.2, c)) l stamps).map tsProj = l ∧
    (List.zipWith (fun (p : Key × Val) (c : Nat) => (p.1, p.2, c)) l stamps).map (·.2.2) = stamps := by
  induction l generalizing stamps with
  | nil => cases stamps <;> simp_all
  | cons p r ih =>
    cases stamps with
    | nil => simp at h
    | cons c cs =>
      simp only [List.length_cons, Nat.add_right_cancel_iff] at h
      have := ih cs h
      simp only [List.zipWith_cons_cons, List.map_cons, this.1, this.2]
      simp [tsProj]

theorem zipWith_self (es : List (Key × Val × Nat)) :
    List.zipWith (fun (p : Key × Val) (c : Nat) => (p.1, p.2, c)) (es.map tsProj) (es.map (·.2.2)) = es := by
  induction es with
  | nil => rfl
  | cons e r ih => simp [tsProj, ih]

theorem presents_iff (l : St) (t : LruTs.St) :
    Presents l t ↔ t.entries.map tsProj = l ∧ (t.entries.map (·.2.2)).Pairwise (· > ·) ∧
      ∀ e ∈ t.entries, e.2.2 < t.clock := by
  constructor
  · rintro ⟨stamps, hlen, hpw, hlt, he⟩
    have := zipWith_proj l stamps hlen
    rw [← he] at this
    refine ⟨this.1, this.2 ▸ hpw, fun e hm => hlt _ ?_⟩
    rw [← this.2]; exact List.mem_map.2 ⟨e, hm, rfl⟩
  · rintro ⟨h1, h2, h3⟩
    refine ⟨t.entries.map (·.2.2), by simp [← h1], h2, ?_, ?_⟩
    · intro x hx; obtain ⟨e, hm, rfl⟩ := List.mem_map.1 hx; exact h3 e hm
    · rw [← h1]; exact (zipWith_self _).symm

theorem proj_filter (es : List (Key × Val × Nat)) (k : Key) :
    (es.filter (fun e => e.1 ≠ k)).map tsProj = without (es.map tsProj) k := by
  simp [without, List.filter_map]; rfl

theorem presents_front {l : St} {t : LruTs.St} (hp : Presents l t) (k : Key) (v : Val) (es : List (Key × Val × Nat))
    (l' : St) (hsub : es.Sublist t.entries) (hl' : es.map tsProj = l') :
    Presents ((k, v) :: l') { entries := (k, v, t.clock) :: es, clock := t.clock + 1 } := by
  rw [presents_iff] at hp ⊢
  obtain ⟨h1, h2, h3⟩ := hp
  refine ⟨by simp [tsProj, hl'], ?_, ?_⟩
  · simp only [List.map_cons, List.pairwise_cons]
    refine ⟨?_, h2.sublist (hsub.map _)⟩
    intro x hx; obtain ⟨e, hm, rfl⟩ := List.mem_map.1 hx
    exact h3 e (hsub.subset hm)
  · intro e hm
    rcases List.mem_cons.1 hm with rfl | hm
    · simp
    · have := h3 e (hsub.subset hm); simp; omega

theorem presents_touch {l : St} {t : LruTs.St} (hp : Presents l t) (k : Key) (v : Val) :
    Presents ((k, v) :: without l k) { entries := (k, v, t.clock) :: LruTs.without t k, clock := t.clock + 1 } := by
  refine presents_front hp k v _ _ (List.filter_sublist) ?_
  rw [LruTs.without, proj_filter, ((presents_iff l t).1 hp).1]

theorem presents_del (l l' : St) (t : LruTs.St) (k : Key) (hp : Presents l t) (hd : del l k = .ok l') :
    Presents l' { entries := LruTs.without t k, clock := t.clock } := by
  obtain ⟨_, rfl⟩ := del_ok hd
  rw [presents_iff] at hp ⊢
  obtain ⟨h1, h2, h3⟩ := hp
  refine ⟨?_, ?_, ?_⟩
  · simp only [LruTs.without]; rw [proj_filter, h1]
  · exact h2.sublist ((List.filter_sublist).map _)
  · intro e hm; exact h3 e (List.mem_filter.1 hm).1

theorem filter_ne_last (es : List (Key × Val × Nat)) (e : Key × Val × Nat)
    (hpw : ((es ++ [e]).map (·.2.2)).Pairwise (· > ·)) :
    (es ++ [e]).filter (· ≠ e) = es := by
  simp only [List.map_append, List.pairwise_append, List.map_cons, List.map_nil] at hpw
  obtain ⟨_, _, h3⟩ := hpw
  rw [List.filter_append]
  have h1 : es.filter (· ≠ e) = es := by
    rw [List.filter_eq_self]
    intro a ha
    have := h3 _ (List.mem_map.2 ⟨a, ha, rfl⟩) e.2.2 (by simp)
    simp; intro hae; subst hae; omega
  rw [h1]; simp

theorem presents_set_evict (cap : Nat) (hc : 1 ≤ cap) (l l' : St) (t : LruTs.St) (k : Key) (v : Val)
    (hw : Wf cap l) (hp : Presents l t) (hnew : l.lookup k = none) (hfull : l.length = cap)
    (hs : set cap l k v = .ok l') :
    ∃ e, IsOldest t e ∧
      Presents l' { entries := (k, v, t.clock) :: t.entries.filter (· ≠ e), clock := t.clock + 1 } := by
  have hl' : l' = (k, v) :: l.dropLast := by
    simp [set, hnew, hfull] at hs; exact hs.symm
  subst hl'
  have hpi := (presents_iff l t).1 hp
  have hne : t.entries ≠ [] := by
    intro h0; have := hpi.1; rw [h0] at this; simp at this; subst this; simp at hfull; omega
  have hsplit := (List.dropLast_concat_getLast hne).symm
  generalize t.entries.getLast hne = e at hsplit
  generalize hes : t.entries.dropLast = es at hsplit
  have hpw := hpi.2.1
  rw [hsplit] at hpw
  refine ⟨e, ⟨by rw [hsplit]; simp, ?_⟩, ?_⟩
  · intro e' he'
    rw [hsplit] at he'
    simp only [List.map_append, List.pairwise_append, List.map_cons, List.map_nil] at hpw
    rcases List.mem_append.1 he' with hm | hm
    · have := hpw.2.2 _ (List.mem_map.2 ⟨e', hm, rfl⟩) e.2.2 (by simp); omega
    · simp at hm; subst hm; exact Nat.le_refl _
  · have hf : t.entries.filter (· ≠ e) = es := by rw [hsplit]; exact filter_ne_last es e hpw
    rw [hf]
    refine presents_front hp k v es _ ?_ ?_
    · rw [← hes]; exact List.dropLast_sublist _
    · rw [← hes, List.map_dropLast, hpi.1]

theorem without_front (l : St) (k : Key) (v : Val) : without ((k, v) :: without l k) k = without l k := by
  simp [without, List.filter_filter]

theorem laws (cap : Nat) : MapLaws (prim cap) (Wf cap) (fun l k => l.lookup k) (fun l l' => l'.Perm l) without where
  get_some := fun {l k v} h hv =>
    ⟨_, get_some hv, perm_front h.1 (al_mem_of_lookup hv), wf_front h (al_lookup_isSome_keys.1 (hv ▸ rfl)) v⟩
  get_none := fun _ hv => get_none hv
  del_get := fun {l l' k v} _ hg => by
    obtain ⟨_, rfl⟩ := get_ok hg
    have hd : del ((k, v) :: without l k) k = _ := del_some (by rw [List.lookup_cons_self]; rfl)
    exact hd.trans (congrArg _ (without_front l k v))
  val_eq := fun k h hp => lookup_perm hp h.1 k
  refl := List.Perm.refl
  trans := fun h₁ h₂ => h₂.trans h₁
  keys := fun _ _ hk => al_lookup_isSome_keys.2 hk

theorem items_spec (cap : Nat) (l : St) (h : Wf cap l) :
    ∃ l', items (prim cap) l = .ok (l', l) ∧ l'.Perm l := by
  obtain ⟨l', hi, hp, _⟩ := (laws cap).items h
  exact ⟨l', hi.trans (congrArg (fun x => Except.ok (l', x)) (al_map_lookup h.1 0)), hp⟩

theorem popitem_spec (cap : Nat) (l : St) (h : Wf cap l) :
    match l with
    | [] => popitem (prim cap) l = .error .keyError
    | (k, v) :: r => popitem (prim cap) l = .ok (r, k, v) := by
  cases l with
  | nil => rfl
  | cons p r =>
    obtain ⟨k, v⟩ := p
    obtain ⟨v', hv, hp⟩ := (laws cap).popitem_cons h (k := k) (ks := r.map (·.1)) rfl
    have hw : without ((k, v) :: r) k = r := al_filter_head h.1
    cases List.lookup_cons_self.symm.trans hv
    exact hp.trans (by rw [hw])

theorem clear_spec (cap : Nat) (l : St) (h : Wf cap l) : clear (prim cap) l = .ok [] := by
  have hrm : ∀ {s : St} {k : Key} {ks : List Key}, Wf cap s → s.map (·.1) = k :: ks →
      Wf cap (without s k) ∧ (without s k).length < s.length := fun {s k ks} hs hk =>
    ⟨wf_without hs k, Nat.lt_of_succ_le (Nat.le_of_eq (length_without hs.1 (hk ▸ List.mem_cons_self)))⟩
  obtain ⟨l', hc, hk⟩ := (laws cap).clear hrm h
  rw [hc, List.map_eq_nil_iff.1 hk]

theorem eq_spec (cap : Nat) (l : St) (other : List (Key × Val)) (h : Wf cap l)
    (ho : (other.map (·.1)).Nodup) :
    ∃ l' b, eqDict (prim cap) l other = .ok (l', b) ∧ l'.Perm l ∧
      (b = true ↔ ∀ k, l.lookup k = other.lookup k) := by
  obtain ⟨l', h1, h2⟩ := items_spec cap l h
  refine ⟨l', _, by simp only [eqDict, h1]; rfl, h2, ?_⟩
  simp only [Bool.and_eq_true, beq_iff_eq, List.all_eq_true]
  exact al_eq_iff h.1 ho

end WindVerif.Cache.LruSpec
