import WindVerif.Proofs.SortedMixins
/-!
Bulk operations fed by a source that fails in the middle.

`SortedSet` inherits `MutableSet.__ior__` (`for value in it: self.add(value)`) and `SortedMap` inherits
`MutableMapping.update` (`for key, value in other: self[key] = value`).  When the source raises after having delivered `k`
items, the loop has run `k` times: the state is the one reached by adding / storing the first `k` items one at a time.
The states are defined here; the step equations (`…Partial_zero/_succ/_all`) are proved in `Props/C09.lean`.
-/
namespace WindVerif.Sorted

/-- the state when the source of `s |= xs` raises after `k` items: `add` has run for `xs[0] … xs[k-1]` -/
def setIorPartial (s xs : List Int) (k : Nat) : List Int := (xs.take k).foldl setAdd s

/-- at every moment the values are strictly ascending (sorted, no duplicates) and are exactly the old values plus the
delivered prefix -/
theorem ior_prefix (s xs : List Int) (k : Nat) (h : Strict s) :
    Strict (setIorPartial s xs k) ∧ ∀ y, y ∈ setIorPartial s xs k ↔ (y ∈ s ∨ y ∈ xs.take k) :=
  setIor_spec s (xs.take k) h

theorem setAdd_of_mem (s : List Int) (v : Int) (h : Strict s) (hv : v ∈ s) : setAdd s v = s := by
  obtain ⟨L, G, hL, hG, rfl | rfl⟩ := strict_split3 s v h
  · exact setAdd_present hL hG
  · exact absurd hv (not_mem_split hL hG)

theorem foldl_fixed {σ α : Type} (f : σ → α → σ) (s : σ) (t : List α) (h : ∀ a ∈ t, f s a = s) : t.foldl f s = s := by
  induction t with
  | nil => rfl
  | cons a r ih =>
    rw [List.foldl_cons, h a List.mem_cons_self]
    exact ih (fun b hb => h b (List.mem_cons_of_mem _ hb))

/-- a delivered prefix of members changes nothing -/
theorem ior_existing_noop (s xs : List Int) (k : Nat) (h : Strict s) (hm : ∀ y ∈ xs.take k, y ∈ s) :
    setIorPartial s xs k = s :=
  foldl_fixed setAdd s _ (fun y hy => setAdd_of_mem s y h (hm y hy))

/-- the state when the source of `m.update(ps)` raises after `k` pairs -/
def mapUpdatePartial (m : SMap) (ps : List (Int × Nat)) (k : Nat) : SMap := mapUpdate m (ps.take k)

theorem mapUpdate_eq_foldl (m : SMap) (ps : List (Int × Nat)) :
    mapUpdate m ps = ps.foldl (fun m p => mapSet m p.1 p.2) m := by
  induction ps generalizing m with
  | nil => rfl
  | cons p r ih => exact ih _

/-- at every moment the state is well formed (keys strictly ascending, one value per key) and stands for the old content
overridden by the delivered pairs in order (a later pair for the same key wins) -/
theorem update_prefix (m : SMap) (ps : List (Int × Nat)) (k : Nat) (h : MapWf m) :
    MapWf (mapUpdatePartial m ps k) ∧
    ∀ key, mapLookup (mapUpdatePartial m ps k) key =
      (match (ps.take k).reverse.lookup key with | some v => some v | none => mapLookup m key) :=
  ⟨mapUpdate_wf m (ps.take k) h, fun key => mapUpdate_lookup m (ps.take k) key h⟩

theorem mapSet_of_lookup (m : SMap) (k : Int) (v : Nat) (h : MapWf m) (hl : mapLookup m k = some v) :
    mapSet m k v = m := by
  obtain ⟨L, G, VL, VG, hlen, hL, hG, ⟨w, rfl⟩ | rfl⟩ := map_split m k h
  · rw [mapLookup_present hlen hL, if_pos rfl] at hl
    rw [mapSet_present hlen hL hG, Option.some.inj hl]
  · rw [mapLookup_absent hL hG] at hl; cases hl

/-! The seeded variant: "extend the list with everything, then sort and de-duplicate". -/

/-- the values are appended as they arrive; the failure of the source comes before the sort -/
def iorBulkPartial (s xs : List Int) (k : Nat) : List Int := s ++ xs.take k

instance (l : List Int) : Decidable (Strict l) := by unfold Strict; infer_instance

/-- values `[1,5,9]`, source `9,7,3,5` and then the failure: the variant leaves `[1,5,9,9,7,3,5]`, which is neither sorted
nor duplicate-free, where the loop of `add` calls leaves `[1,3,5,7,9]` -/
theorem ior_bulk_wrong :
    Strict [1, 5, 9] ∧
    iorBulkPartial [1, 5, 9] [9, 7, 3, 5] 4 = [1, 5, 9, 9, 7, 3, 5] ∧
    ¬ Strict (iorBulkPartial [1, 5, 9] [9, 7, 3, 5] 4) ∧
    ¬ (iorBulkPartial [1, 5, 9] [9, 7, 3, 5] 4).Nodup ∧
    setIorPartial [1, 5, 9] [9, 7, 3, 5] 4 = [1, 3, 5, 7, 9] := by decide +kernel

end WindVerif.Sorted
