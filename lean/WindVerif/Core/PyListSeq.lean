import WindVerif.Core.PyList
/-
`list.index(value, start, stop)` of Python (CPython `list_index_impl`): the reference the inherited
`collections.abc.Sequence.index` of the models is compared with.

    if (start < 0) { start += Py_SIZE(self); if (start < 0) start = 0; }
    if (stop < 0)  { stop  += Py_SIZE(self); if (stop  < 0) stop  = 0; }
    for (i = start; i < stop && i < Py_SIZE(self); i++) if (self[i] == value) return i;
    raise ValueError

An omitted `start` is `0`, an omitted `stop` is `sys.maxsize` (here: `none`).
-/
namespace WindVerif.Py

/-- a `start` / `stop` argument as the loop of `list.index` sees it: a negative one counts from the end and is then
clamped to `0` -/
def clampIdx (len : Nat) (i : Int) : Nat := if i < 0 then (i + (len : Int)).toNat else i.toNat

/-- the loop `for (i = a; i < a + n; i++) if (l[i] == v) return i;` (`none`: it ran to its end) -/
def scanIdx {α} [DecidableEq α] (l : List α) (v : α) : Nat → Nat → Option Nat
  | _, 0 => none
  | a, n + 1 => if l[a]? = some v then some a else scanIdx l v (a + 1) n

def idxLo (len : Nat) (start : Option Int) : Nat :=
  match start with
  | none => 0
  | some s => clampIdx len s

def idxHi (len : Nat) (stop : Option Int) : Nat :=
  match stop with
  | none => len
  | some s => min (clampIdx len s) len

/-- `l.index(v, start, stop)`; `none` = `ValueError` -/
def pyListIndex {α} [DecidableEq α] (l : List α) (v : α) (start stop : Option Int) : Option Nat :=
  scanIdx l v (idxLo l.length start) (idxHi l.length stop - idxLo l.length start)

theorem scanIdx_spec {α} [DecidableEq α] (l : List α) (v : α) (n : Nat) : ∀ a : Nat,
    match scanIdx l v a n with
    | some k => a ≤ k ∧ k < a + n ∧ l[k]? = some v ∧ ∀ j, a ≤ j → j < k → l[j]? ≠ some v
    | none => ∀ j, a ≤ j → j < a + n → l[j]? ≠ some v := by
  induction n with
  | zero => exact fun a j h1 h2 => absurd (Nat.lt_of_le_of_lt h1 h2) (Nat.lt_irrefl a)
  | succ n ih =>
    intro a
    rw [scanIdx]
    by_cases hv : l[a]? = some v
    · rw [if_pos hv]
      exact ⟨Nat.le_refl a, Nat.lt_add_of_pos_right n.succ_pos, hv,
        fun j h1 h2 => absurd (Nat.lt_of_le_of_lt h1 h2) (Nat.lt_irrefl a)⟩
    · rw [if_neg hv]
      have := ih (a + 1)
      cases h : scanIdx l v (a + 1) n with
      | none =>
        rw [h] at this
        intro j h1 h2
        rcases Nat.eq_or_lt_of_le h1 with rfl | h1'
        · exact hv
        · exact this j h1' (by omega)
      | some k =>
        rw [h] at this
        obtain ⟨h1, h2, h3, h4⟩ := this
        refine ⟨Nat.le_of_succ_le h1, by omega, h3, fun j hj1 hj2 => ?_⟩
        rcases Nat.eq_or_lt_of_le hj1 with rfl | hj1'
        · exact hv
        · exact h4 j hj1' hj2

theorem pyListIndex_spec {α} [DecidableEq α] (l : List α) (v : α) (start stop : Option Int) :
    match pyListIndex l v start stop with
    | some k => idxLo l.length start ≤ k ∧ k < idxHi l.length stop ∧ l[k]? = some v ∧
        ∀ j, idxLo l.length start ≤ j → j < k → l[j]? ≠ some v
    | none => ∀ j, idxLo l.length start ≤ j → j < idxHi l.length stop → l[j]? ≠ some v := by
  have h := scanIdx_spec l v (idxHi l.length stop - idxLo l.length start) (idxLo l.length start)
  unfold pyListIndex
  revert h
  cases scanIdx l v (idxLo l.length start) (idxHi l.length stop - idxLo l.length start) with
  | none => exact fun h j h1 h2 => h j h1 (by omega)
  | some k => exact fun ⟨h1, h2, h3, h4⟩ => ⟨h1, by omega, h3, h4⟩

/-- `l.index(v, start, stop) == k`: `k` is the first position in `[start', min(stop', len))` that holds `v` -/
theorem pyListIndex_eq_some_iff {α} [DecidableEq α] (l : List α) (v : α) (start stop : Option Int) (k : Nat) :
    pyListIndex l v start stop = some k ↔
      idxLo l.length start ≤ k ∧ k < idxHi l.length stop ∧ l[k]? = some v ∧
      ∀ j, idxLo l.length start ≤ j → j < k → l[j]? ≠ some v := by
  have h := pyListIndex_spec l v start stop
  constructor
  · intro e; rw [e] at h; exact h
  · intro ⟨h1, h2, h3, h4⟩
    cases e : pyListIndex l v start stop with
    | none => rw [e] at h; exact absurd h3 (h k h1 h2)
    | some k' =>
      rw [e] at h
      obtain ⟨g1, g2, g3, g4⟩ := h
      -- two first positions coincide
      rcases Nat.lt_trichotomy k' k with hlt | rfl | hgt
      · exact absurd g3 (h4 k' g1 hlt)
      · rfl
      · exact absurd h3 (g4 k h1 hgt)

/-- `l.index(v, start, stop)` raises `ValueError`: no position in `[start', min(stop', len))` holds `v` -/
theorem pyListIndex_eq_none_iff {α} [DecidableEq α] (l : List α) (v : α) (start stop : Option Int) :
    pyListIndex l v start stop = none ↔
      ∀ j, idxLo l.length start ≤ j → j < idxHi l.length stop → l[j]? ≠ some v := by
  have h := pyListIndex_spec l v start stop
  constructor
  · intro e; rw [e] at h; exact h
  · intro hn
    cases e : pyListIndex l v start stop with
    | none => rfl
    | some k => rw [e] at h; exact absurd h.2.2.1 (hn k h.1 h.2.1)

theorem idxHi_le (len : Nat) (stop : Option Int) : idxHi len stop ≤ len := by
  unfold idxHi; split
  · exact Nat.le_refl _
  · exact Nat.min_le_right _ _

theorem pyListIndex_default {α} [DecidableEq α] (l : List α) (v : α) :
    pyListIndex l v none none = if v ∈ l then some (l.idxOf v) else none := by
  split
  · rename_i hm
    have hlt : l.idxOf v < l.length := List.idxOf_lt_length_of_mem hm
    refine (pyListIndex_eq_some_iff ..).mpr ⟨Nat.zero_le _, hlt, ?_, fun j _ hj hjv => ?_⟩
    · rw [List.getElem?_eq_getElem hlt, List.getElem_idxOf]
    · have := List.not_of_lt_findIdx (p := (· == v)) hj
      rw [(List.getElem?_eq_some_iff.mp hjv).2] at this
      simp at this
  · rename_i hm
    exact (pyListIndex_eq_none_iff ..).mpr fun j _ _ hjv => hm (List.mem_of_getElem? hjv)

end WindVerif.Py
