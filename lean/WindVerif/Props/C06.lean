import WindVerif.Proofs.CacheSim
import WindVerif.Proofs.LruRefine
import WindVerif.Proofs.LruSpec
/-!
# C06 — LRUCache is a bounded mapping that evicts exactly the least recently used key

The property theorems; a property that nothing else needs is proved in place, the others in `Proofs/LruRefine.lean`
(dict + linked list ⟶ recency list), `Proofs/CacheSim.lean` (a simulation of the primitives transports every
`MutableMapping` mixin and every history), `Proofs/LruSpec.lean`
(the recency list against the textbook time-stamp definition of LRU) and `Proofs/MixinSpec.lean` (the mixins on any
implementation that behaves as a finite map, which the recency list does: `LruSpec.laws`).

Reading guide: `lru_refines` + `lru_mixins_refine` + `lru_run_refines` say that *every history* of stores, lookups, deletions,
membership tests, views and mixins on the concrete model (the code's dict and linked list) is observationally equal to the
same history on the abstract recency list `LruSpec`; the remaining theorems are about that abstract list.
-/
set_option linter.unusedVariables false
namespace WindVerif.C06
open WindVerif.Cache WindVerif.Dll

section refinement
theorem lru_init (cap : Nat) (h : 1 ≤ cap) : Lru.R cap (Lru.new cap) [] := by
  have c : Core (Lru.new cap) [] := ⟨repr_empty, by simp, by simp [Lru.new], by simp [Lru.new]⟩
  exact ⟨c.inv h (Nat.zero_le _), rfl, c.abs⟩

/-- the relation implies well-formedness of the abstract state -/
theorem lru_R_wf (cap : Nat) (s : Lru) (t : LruSpec.St) (h : Lru.R cap s t) : LruSpec.Wf cap t ∧ 1 ≤ cap := by
  obtain ⟨hinv, hcap, rfl⟩ := h
  obtain ⟨l, c, hl⟩ := hinv.core
  refine ⟨⟨?_, ?_⟩, hcap ▸ hinv.cap_pos⟩
  · rw [c.abs, List.map_map]; exact c.keys
  · rw [c.abs, List.length_map, ← hcap]; exact hl

/-- the dict + linked-list model simulates the abstract recency list on the three primitives -/
theorem lru_refines (cap : Nat) : Sim lruPrim (LruSpec.prim cap) (Lru.R cap) := lru_sim cap

/-- hence on every mixin (`in`, `get`, `values`/`items`, `pop`, `popitem`, `clear`, `update`, `setdefault`, `==`) -/
theorem lru_mixins_refine (cap : Nat) : MixinSim lruPrim (LruSpec.prim cap) (Lru.R cap) :=
  mixins_refine (lru_sim cap)

/-- and on every finite history from a fresh cache: the caller observes exactly what the abstract cache shows, all
operations are total (they are functions) and the consistency invariant of dict and list holds at the end -/
theorem lru_run_refines (cap : Nat) (h : 1 ≤ cap) (ops : List COp) :
    (runOps lruPrim (Lru.new cap) ops).2 = (runOps (LruSpec.prim cap) [] ops).2 ∧
    Lru.R cap (runOps lruPrim (Lru.new cap) ops).1 (runOps (LruSpec.prim cap) [] ops).1 :=
  run_refines (lru_sim cap) _ _ (lru_init cap h) ops

/-- the cache never holds more than `max_size` entries and never two entries for one key, after any history -/
theorem lru_bounded (cap : Nat) (h : 1 ≤ cap) (ops : List COp) :
    LruSpec.Wf cap (runOps (LruSpec.prim cap) [] ops).1 ∧
    (runOps lruPrim (Lru.new cap) ops).1.cache.length ≤ cap := by
  have hr := (lru_run_refines cap h ops).2
  have hw := (lru_R_wf cap _ _ hr).1
  refine ⟨hw, ?_⟩
  have hlen : (runOps lruPrim (Lru.new cap) ops).1.cache.length
      = (runOps (LruSpec.prim cap) [] ops).1.length := (lru_sim cap).len _ _ hr
  rw [hlen]; exact hw.2

end refinement

section abstract
open WindVerif.Cache.LruSpec
/-- well-formedness (no repeated key, at most `cap` entries) is preserved by every primitive -/
theorem wf_get (cap : Nat) (l l' : St) (k : Key) (v : Val) (h : Wf cap l) (hg : get l k = .ok (l', v)) : Wf cap l' := by
  obtain ⟨hl, rfl⟩ := get_ok hg
  exact wf_front h (al_lookup_isSome_keys.1 (hl ▸ rfl)) v

theorem wf_set (cap : Nat) (hc : 1 ≤ cap) (l : St) (k : Key) (v : Val) (h : Wf cap l) :
    ∃ l', set cap l k v = .ok l' ∧ Wf cap l' := by
  obtain ⟨l', hl⟩ := set_total cap l k v
  exact ⟨l', hl, wf_set' cap hc l l' k v h hl⟩

theorem wf_del (cap : Nat) (l l' : St) (k : Key) (h : Wf cap l) (hd : del l k = .ok l') : Wf cap l' := by
  obtain ⟨_, rfl⟩ := del_ok hd
  exact wf_without h k

/-- a lookup returns what is stored, fails with `KeyError` exactly for absent keys, and changes no content -/
theorem get_spec (cap : Nat) (l : St) (k : Key) (h : Wf cap l) :
    (∀ v, l.lookup k = some v → ∃ l', get l k = .ok (l', v) ∧ l'.Perm l ∧ l'.head? = some (k, v)) ∧
    (l.lookup k = none → get l k = .error .keyError) :=
  LruSpec.get_spec cap l k h

/-- after `c[k] = v` a lookup of `k` gives `v`; every other key that is still present keeps its value -/
theorem lookup_after_set (cap : Nat) (hc : 1 ≤ cap) (l l' : St) (k : Key) (v : Val) (h : Wf cap l)
    (hs : set cap l k v = .ok l') :
    l'.lookup k = some v ∧ ∀ k', k' ≠ k → ∀ w, l'.lookup k' = some w → l.lookup k' = some w :=
  LruSpec.lookup_after_set cap hc l l' k v h hs

/-- storing a new key into a full cache removes exactly the last (least recently used) entry and nothing else -/
theorem evicts_exactly_lru (cap : Nat) (hc : 1 ≤ cap) (l : St) (k : Key) (v : Val) (h : Wf cap l)
    (hfull : l.length = cap) (hnew : l.lookup k = none) :
    ∃ init last, l = init ++ [last] ∧ set cap l k v = .ok ((k, v) :: init) :=
  LruSpec.evicts_exactly_lru cap hc l k v h hfull hnew

/-- with room left nothing is removed; storing to a present key removes nothing either -/
theorem no_eviction (cap : Nat) (l l' : St) (k : Key) (v : Val) (h : Wf cap l)
    (hroom : l.length < cap ∨ (l.lookup k).isSome) (hs : set cap l k v = .ok l') :
    ∀ k', (l.lookup k').isSome → (l'.lookup k').isSome :=
  LruSpec.no_eviction cap l l' k v h hroom hs

/-- deletion removes exactly the key -/
theorem del_spec (cap : Nat) (l : St) (k : Key) (h : Wf cap l) :
    ((l.lookup k).isSome → ∃ l', del l k = .ok l' ∧ l'.lookup k = none ∧
        ∀ k', k' ≠ k → l'.lookup k' = l.lookup k') ∧
    (l.lookup k = none → del l k = .error .keyError) :=
  LruSpec.del_spec cap l k h

theorem presents_get (l l' : St) (t : LruTs.St) (k : Key) (v : Val) (hp : LruTs.Presents l t)
    (hg : get l k = .ok (l', v)) :
    LruTs.Presents l' { entries := (k, v, t.clock) :: LruTs.without t k, clock := t.clock + 1 } := by
  obtain ⟨_, rfl⟩ := get_ok hg
  exact presents_touch hp k v

theorem presents_set_present (cap : Nat) (l l' : St) (t : LruTs.St) (k : Key) (v : Val) (hp : LruTs.Presents l t)
    (hin : (l.lookup k).isSome) (hs : set cap l k v = .ok l') :
    LruTs.Presents l' { entries := (k, v, t.clock) :: LruTs.without t k, clock := t.clock + 1 } := by
  cases (set_present cap v hin).symm.trans hs
  exact presents_touch hp k v

theorem presents_set_evict (cap : Nat) (hc : 1 ≤ cap) (l l' : St) (t : LruTs.St) (k : Key) (v : Val)
    (hw : Wf cap l) (hp : LruTs.Presents l t) (hnew : l.lookup k = none) (hfull : l.length = cap)
    (hs : set cap l k v = .ok l') :
    ∃ e, LruTs.IsOldest t e ∧
      LruTs.Presents l' { entries := (k, v, t.clock) :: t.entries.filter (· ≠ e), clock := t.clock + 1 } :=
  LruSpec.presents_set_evict cap hc l l' t k v hw hp hnew hfull hs

theorem presents_set_room (cap : Nat) (l l' : St) (t : LruTs.St) (k : Key) (v : Val) (hp : LruTs.Presents l t)
    (hnew : l.lookup k = none) (hroom : l.length < cap) (hs : set cap l k v = .ok l') :
    LruTs.Presents l' { entries := (k, v, t.clock) :: t.entries, clock := t.clock + 1 } := by
  cases (set_room v hnew hroom).symm.trans hs
  exact presents_front hp k v _ _ (List.Sublist.refl _) ((presents_iff l t).1 hp).1

theorem presents_del (l l' : St) (t : LruTs.St) (k : Key) (hp : LruTs.Presents l t) (hd : del l k = .ok l') :
    LruTs.Presents l' { entries := LruTs.without t k, clock := t.clock } :=
  LruSpec.presents_del l l' t k hp hd

theorem items_spec (cap : Nat) (l : St) (h : Wf cap l) :
    ∃ l', items (prim cap) l = .ok (l', l) ∧ l'.Perm l :=
  LruSpec.items_spec cap l h

theorem contains_spec (cap : Nat) (l : St) (k : Key) (h : Wf cap l) :
    ∃ l', contains (prim cap) l k = .ok (l', (l.lookup k).isSome) ∧ l'.Perm l :=
  (LruSpec.laws cap).contains h k

theorem getD_spec (cap : Nat) (l : St) (k : Key) (h : Wf cap l) :
    ∃ l', getD (prim cap) l k = .ok (l', l.lookup k) ∧ l'.Perm l :=
  (LruSpec.laws cap).getD h k

theorem pop_spec (cap : Nat) (l : St) (k : Key) (h : Wf cap l) :
    (∀ v, l.lookup k = some v → pop (prim cap) l k = .ok (without l k, v)) ∧
    (l.lookup k = none → pop (prim cap) l k = .error .keyError) :=
  ⟨fun _ hv => (LruSpec.laws cap).pop_some h hv, (LruSpec.laws cap).pop_none h⟩

theorem popitem_spec (cap : Nat) (l : St) (h : Wf cap l) :
    match l with
    | [] => popitem (prim cap) l = .error .keyError
    | (k, v) :: r => popitem (prim cap) l = .ok (r, k, v) :=
  LruSpec.popitem_spec cap l h

theorem clear_spec (cap : Nat) (l : St) (h : Wf cap l) : clear (prim cap) l = .ok [] :=
  LruSpec.clear_spec cap l h

theorem update_total (cap : Nat) (hc : 1 ≤ cap) (l : St) (ps : List (Key × Val)) (h : Wf cap l) :
    ∃ l', update (prim cap) l ps = .ok l' ∧ Wf cap l' :=
  Cache.update_total (fun s k v hs => wf_set cap hc s k v hs) ps l h

theorem setdefault_spec (cap : Nat) (hc : 1 ≤ cap) (l : St) (k : Key) (v : Val) (h : Wf cap l) :
    (∀ w, l.lookup k = some w → ∃ l', setdefault (prim cap) l k v = .ok (l', w) ∧ l'.Perm l) ∧
    (l.lookup k = none → ∃ l', setdefault (prim cap) l k v = .ok (l', v) ∧ set cap l k v = .ok l') :=
  ⟨fun _ hw => (LruSpec.laws cap).setdefault_some h hw v, fun hn =>
    let ⟨l', hs⟩ := LruSpec.set_total cap l k v
    ⟨l', (LruSpec.laws cap).setdefault_none h hn hs, hs⟩⟩

theorem eq_spec (cap : Nat) (l : St) (other : List (Key × Val)) (h : Wf cap l)
    (ho : (other.map (·.1)).Nodup) :
    ∃ l' b, eqDict (prim cap) l other = .ok (l', b) ∧ l'.Perm l ∧
      (b = true ↔ ∀ k, l.lookup k = other.lookup k) :=
  LruSpec.eq_spec cap l other h ho

end abstract

/-- non-vacuity: a concrete history on a capacity-2 cache; the model output is what the abstract cache shows and the
victim of the third store is key 2 (key 1 was used in between) -/
example : (runOps lruPrim (Lru.new 2) [.set 1 10, .set 2 20, .get 1, .set 3 30, .keys, .has 2]).2 =
    [.unit, .unit, .val 10, .unit, .keys [3, 1], .bool false] := by
  have h := (lru_run_refines 2 (by decide) [.set 1 10, .set 2 20, .get 1, .set 3 30, .keys, .has 2]).1
  rw [h]; decide

example : LruSpec.Wf 2 [(1, 10), (2, 20)] := by simp [LruSpec.Wf]

end WindVerif.C06
