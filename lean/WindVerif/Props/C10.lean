import WindVerif.Proofs.SpanSet
import WindVerif.Proofs.SpanSetDisjoint
/-!
# C10 — SpanSet operators follow their membership-based definitions for every relation

The property theorems; the longer proofs are in `Proofs/SpanSet.lean`.  All statements hold for arbitrary relations of the two
operands (all 4×4 combinations): `mem A x` uses `A`'s relation, `mem B x` uses `B`'s.
-/
namespace WindVerif.C10
open WindVerif.SpanSet

/-- `x in S` means: some stored span is related to `x` by `S`'s relation -/
theorem mem_iff (S : SpanSet) (x : Span) : mem S x = true ↔ ∃ y ∈ S.spans, S.rel.holds x y = true :=
  SpanSet.mem_iff S x

/-- the four relations are the stated comparisons -/
theorem holds_iff (r : Rel) (x y : Span) : r.holds x y = true ↔
    (match r with
     | .exact => x.1 = y.1 ∧ x.2 = y.2
     | .partOf => y.1 ≤ x.1 ∧ x.2 ≤ y.2
     | .includes => x.1 ≤ y.1 ∧ y.2 ≤ x.2
     | .overlaps => x.2 ≥ y.1 ∧ y.2 ≥ x.1) :=
  SpanSet.holds_iff r x y

theorem build_nil (r : Rel) : build r [] = [] := rfl

theorem build_snoc (r : Rel) (xs : List Span) (x : Span) :
    build r (xs ++ [x]) = if mem ⟨r, build r xs⟩ x then build r xs else build r xs ++ [x] :=
  SpanSet.build_snoc r xs x

theorem build_sublist (r : Rel) (xs : List Span) : (build r xs).Sublist xs :=
  SpanSet.build_sublist r xs

/-- no kept span was already in the set formed by the spans kept before it -/
theorem build_pairwise (r : Rel) (xs : List Span) :
    (build r xs).Pairwise (fun earlier later => r.holds later earlier = false) :=
  SpanSet.build_pairwise r xs

/-- every input span is either kept or was in the set built before it; so if the relation relates a span to itself,
every input span is in the result -/
theorem build_covers (r : Rel) (xs : List Span) (x : Span) (hx : x ∈ xs) (hrefl : r.holds x x = true) :
    mem (mk r xs) x = true :=
  SpanSet.build_covers r xs x hx hrefl

theorem build_exact_nodup (xs : List Span) : (build .exact xs).Nodup :=
  SpanSet.build_exact_nodup xs

theorem build_exact_mem (xs : List Span) (x : Span) : x ∈ build .exact xs ↔ x ∈ xs :=
  SpanSet.build_exact_mem xs x

theorem combine_spec (φ : Bool → Bool → Bool) (A B : SpanSet) (x : Span) :
    x ∈ (combine φ A B).spans ↔ (x ∈ A.spans ∨ x ∈ B.spans) ∧ φ (mem A x) (mem B x) = true :=
  SpanSet.combine_spec φ A B x

theorem combine_nodup (φ : Bool → Bool → Bool) (A B : SpanSet) : (combine φ A B).spans.Nodup :=
  build_exact_nodup _

theorem combine_rel (φ : Bool → Bool → Bool) (A B : SpanSet) : (combine φ A B).rel = .exact := rfl

/-- the result lists the qualifying spans in the order of their first occurrence in `chain(A, B)` -/
theorem combine_sublist (φ : Bool → Bool → Bool) (A B : SpanSet) :
    (combine φ A B).spans.Sublist (A.spans ++ B.spans) :=
  (build_sublist .exact _).trans List.filter_sublist

theorem and_spec (A B : SpanSet) (x : Span) :
    x ∈ (opAnd A B).spans ↔ (x ∈ A.spans ∨ x ∈ B.spans) ∧ (mem A x = true ∧ mem B x = true) := by
  rw [opAnd, combine_spec, Bool.and_eq_true]

theorem or_spec (A B : SpanSet) (x : Span) :
    x ∈ (opOr A B).spans ↔ (x ∈ A.spans ∨ x ∈ B.spans) ∧ (mem A x = true ∨ mem B x = true) := by
  rw [opOr, combine_spec, Bool.or_eq_true]

theorem sub_spec (A B : SpanSet) (x : Span) :
    x ∈ (opSub A B).spans ↔ (x ∈ A.spans ∨ x ∈ B.spans) ∧ (mem A x = true ∧ mem B x = false) := by
  rw [opSub, combine_spec, Bool.and_eq_true, Bool.not_eq_true']

theorem xor_spec (A B : SpanSet) (x : Span) :
    x ∈ (opXor A B).spans ↔ (x ∈ A.spans ∨ x ∈ B.spans) ∧ (mem A x ≠ mem B x) :=
  SpanSet.xor_spec A B x

theorem le_iff (A B : SpanSet) : le A B = true ↔ ∀ x ∈ A.spans, mem B x = true := by
  rw [le, List.all_eq_true]

theorem eq_iff (A B : SpanSet) :
    eq A B = true ↔ (∀ x ∈ A.spans, mem B x = true) ∧ (∀ x ∈ B.spans, mem A x = true) := by
  rw [eq, Bool.and_eq_true, le_iff, le_iff]

theorem ne_iff (A B : SpanSet) : ne A B = true ↔ ¬ (eq A B = true) := by
  rw [ne, Bool.not_eq_true', Bool.not_eq_true]

theorem lt_iff (A B : SpanSet) : lt A B = true ↔ (le A B = true ∧ ¬ (eq A B = true)) := by
  rw [lt, Bool.and_eq_true, ne_iff]

theorem ge_iff (A B : SpanSet) : ge A B = true ↔ ∀ x ∈ B.spans, mem A x = true := le_iff B A

theorem gt_iff (A B : SpanSet) : gt A B = true ↔ (le B A = true ∧ ¬ (eq B A = true)) := lt_iff B A

theorem isdisjoint_iff (A : SpanSet) (s : List Span) : isdisjoint A s = true ↔ ∀ x ∈ s, mem A x = false :=
  SpanSet.isdisjoint_iff A s

theorem issubset_iff (A B : SpanSet) : issubset A B = true ↔ ∀ x ∈ A.spans, mem B x = true := le_iff A B

theorem issuperset_iff (A B : SpanSet) : issuperset A B = true ↔ ∀ x ∈ B.spans, mem A x = true := ge_iff A B

/-- non-vacuity: asymmetric relations make `A <= B` and `B >= A`-style reasoning differ from naive sets -/
example : le (mk .partOf [(2, 3)]) (mk .partOf [(0, 10)]) = true ∧ le (mk .partOf [(0, 10)]) (mk .partOf [(2, 3)]) = false ∧
    (opAnd (mk .overlaps [(1, 3), (2, 5), (6, 7)]) (mk .partOf [(0, 10)])).spans = [(1, 3), (6, 7), (0, 10)] := by decide +kernel

/-! ### `isdisjoint` and the order of its operands (the general statement in `Proofs/SpanSetDisjoint.lean`)

`A.isdisjoint(B)` probes `A` with the elements of `B`.  For the symmetric relations the operands may change places, for
PartOf / Includes they may not (so "iterate over the smaller operand", as the builtin set does, is not available). -/

theorem isdisjoint_swap_exact (A B : SpanSet) (hA : A.rel = .exact) (hB : B.rel = .exact) :
    isdisjoint A B.spans = isdisjoint B A.spans :=
  isdisjoint_swap_of_symm A B (hA.trans hB.symm) (hA ▸ exact_symm)

theorem isdisjoint_swap_overlaps (A B : SpanSet) (hA : A.rel = .overlaps) (hB : B.rel = .overlaps) :
    isdisjoint A B.spans = isdisjoint B A.spans :=
  isdisjoint_swap_of_symm A B (hA.trans hB.symm) (hA ▸ overlaps_symm)

/-- PartOf (`x in S`: `x` lies inside a stored span): `(2,3)` lies inside `(0,10)`, but `(0,10)` lies inside neither
`(2,3)` nor `(20,30)` -/
theorem isdisjoint_swap_partof_wrong :
    isdisjoint (mk .partOf [(0, 10)]) (mk .partOf [(2, 3), (20, 30)]).spans = false ∧
    isdisjoint (mk .partOf [(2, 3), (20, 30)]) (mk .partOf [(0, 10)]).spans = true := by decide +kernel

/-- Includes (`x in S`: `x` contains a stored span): the same two sets, the other way round -/
theorem isdisjoint_swap_includes_wrong :
    isdisjoint (mk .includes [(0, 10)]) (mk .includes [(2, 3), (20, 30)]).spans = true ∧
    isdisjoint (mk .includes [(2, 3), (20, 30)]) (mk .includes [(0, 10)]).spans = false := by decide +kernel

/-- non-vacuity: two Exact sets and two Overlaps sets, not disjoint / disjoint, the same answer both ways round; the
witness sets keep all their spans -/
example : (mk .exact [(1, 2), (3, 4)]).rel = .exact ∧
    isdisjoint (mk .exact [(1, 2), (3, 4)]) (mk .exact [(3, 4)]).spans = false ∧
    isdisjoint (mk .exact [(3, 4)]) (mk .exact [(1, 2), (3, 4)]).spans = false ∧
    isdisjoint (mk .overlaps [(1, 2), (5, 6)]) (mk .overlaps [(3, 4)]).spans = true ∧
    isdisjoint (mk .overlaps [(3, 4)]) (mk .overlaps [(1, 2), (5, 6)]).spans = true ∧
    isdisjoint (mk .overlaps [(1, 3), (5, 6)]) (mk .overlaps [(3, 4)]).spans = false ∧
    isdisjoint (mk .overlaps [(3, 4)]) (mk .overlaps [(1, 3), (5, 6)]).spans = false ∧
    (mk .partOf [(2, 3), (20, 30)]).spans = [(2, 3), (20, 30)] ∧ (mk .includes [(2, 3), (20, 30)]).spans = [(2, 3), (20, 30)] := by
  decide +kernel

end WindVerif.C10
