import WindVerif.Proofs.PoolLive
import WindVerif.Proofs.PoolJoinTimeout
/-!
# C02 — imap and imap_unordered always terminate on finite input (no deadlock)

Property theorems only (proofs in `Proofs/PoolLive*.lean` and `Proofs/PoolMeasure*.lean`, on top of the safety invariant of
C01 and the lifecycle invariant of C04) about the interleaving model `Model/Pool.lean`.  "However slowly the input iterable
produces its items or signals exhaustion", slow workers and a slow caller are all the same thing in an interleaving model:
that thread is not scheduled for a while; flow control (`run_event` cleared while the reorder buffer is full) is part of the
model.

Hypotheses: `WellCfg` (≥ 1 worker, result bound ≥ 1, quotas ≥ 1 only with a factory pool) and `NoFaults`; D19 repaired: none
on the work-queue bound.  `imap_terminates` gives an explicit bound on the length of *every* schedule of a configuration.
`exit_unblocked`: the concrete 58-step schedule of a factory pool with 2 workers, quota 1, work-queue bound 1 that, before
the repair, ended with the caller blocked in `__exit__` for good (second stop order on a full queue, every worker gone) goes
on, with one more step of the consumer, to the caller being done.

A finite `join_timeout` (`Cfg.joinTimeout`: the joins of the replace thread and of `__exit__` return after the timeout whether
the worker has exited or not; every worker's `end()` is a step of its own, in every configuration): `imap_no_deadlock`,
`imap_terminates`, `imap_maximal_final` hold for these configurations too (same statements; `*_joinTimeout` name the
corollaries).  "Every worker has exited when `__exit__` returns" needs `join_timeout=None` (witnesses
`exit_returns_with_running_worker`, `exit_skip_running_worker`) — hence the hypothesis `cfg.joinTimeout = false` of
`exit_skip_all_exited` (and of `exit_joins_all` of C03/C04); what remains true with a timeout: every maximal execution ends
with the caller finished and every worker exited.
-/
namespace WindVerif.C02
open WindVerif.Pool

/-- no deadlock: in every reachable state in which the caller's program (enter, all its calls, exit) is not over, some
thread can move — the consumer is never left blocked on a result that will not come, the feeder never on a full queue
nobody drains, `__exit__` never on its stop orders (D19 repaired: whatever the bound of the work queue) -/
theorem imap_no_deadlock (cfg : Cfg) (hw : WellCfg cfg) (hf : NoFaults cfg) (s : St) (h : Reach cfg s)
    (hnd : s.cpc ≠ .done) : ∃ t, (step s t).isSome :=
  WindVerif.Pool.imap_no_deadlock cfg hw hf s h hnd

theorem imap_terminates (cfg : Cfg) (hw : WellCfg cfg) (hf : NoFaults cfg) :
    ∃ bound, ∀ sched s, run (init cfg) sched = some s → sched.length ≤ bound :=
  WindVerif.Pool.imap_terminates cfg hw hf

/-- hence every maximal execution (one that cannot be extended) ends with the caller finished -/
theorem imap_maximal_final (cfg : Cfg) (hw : WellCfg cfg) (hf : NoFaults cfg) (sched : List Tid) (s : St)
    (h : run (init cfg) sched = some s) (hmax : ∀ t, step s t = none) : s.cpc = .done :=
  WindVerif.Pool.imap_maximal_final cfg hw hf sched s h hmax

/-- D19 repaired: the schedule that used to end in a blocked `__exit__` (configuration `d19Cfg`) reaches `done` -/
theorem exit_unblocked : ∃ sched s, run (init d19Cfg) sched = some s ∧ s.cpc = .done :=
  WindVerif.Pool.exit_unblocked

/-- the loop of stop orders is left early only when nobody is left: a step of the consumer at a stop order on a full work
queue ends `__exit__`, and every worker ever created has exited -/
theorem exit_skip_all_exited (cfg : Cfg) (hjt : cfg.joinTimeout = false) (s s' : St) (h : Reach cfg s) (i : Nat)
    (hpc : s.cpc = .exitPut i) (hfull : capFull s.cfg.workCap s.workQ = true) (hs : step s .c = some s') :
    s'.cpc = .done ∧ AllExited s' :=
  WindVerif.Pool.exit_skip_all_exited cfg hjt s s' h i hpc hfull hs

/-- the same for EVERY configuration (finite join timeout included): the loop of stop orders is left early only when every
listed worker has an exit code; every other worker ever created has exited or — only with a join timeout — is an unlisted
(replaced) worker with nothing but its `end()` left to run -/
theorem exit_skip_all_gone (cfg : Cfg) (s s' : St) (h : Reach cfg s) (i : Nat) (hpc : s.cpc = .exitPut i)
    (hfull : capFull s.cfg.workCap s.workQ = true) (hs : step s .c = some s') :
    s'.cpc = .done ∧ (∀ wid ∈ s'.procs, workerExited s' wid = true) ∧
    ∀ w ∈ s'.workers, w.pc = .exited ∨ (w.pc = .ending ∧ w.wid ∉ s'.procs ∧ cfg.joinTimeout = true) :=
  WindVerif.Pool.exit_skip_all_gone cfg s s' h i hpc hfull hs

/-- witness: with a finite join timeout `exit_skip_all_exited` without its hypothesis is false — the consumer leaves the
loop of stop orders on a full queue while a replaced worker is still inside `end()` -/
theorem exit_skip_running_worker :
    ∃ cfg sched s s' i, cfg.joinTimeout = true ∧ run (init cfg) sched = some s ∧ s.cpc = .exitPut i ∧
      capFull s.cfg.workCap s.workQ = true ∧ step s .c = some s' ∧ s'.cpc = .done ∧ ∃ w ∈ s'.workers, w.pc = .ending :=
  WindVerif.Pool.exit_skip_running_worker

/-- witness: with a finite join timeout there is a reachable state in which the caller has left the context
(`cpc = .done`) while a worker has not exited — "all workers have exited when `__exit__` returns" needs `join_timeout=None` -/
theorem exit_returns_with_running_worker :
    ∃ cfg sched s, cfg.joinTimeout = true ∧ run (init cfg) sched = some s ∧ s.cpc = .done ∧
      ∃ w ∈ s.workers, w.pc ≠ .exited :=
  WindVerif.Pool.exit_returns_with_running_worker

/-- timed joins: no deadlock (corollary of `imap_no_deadlock`, which holds for every configuration) -/
theorem imap_no_deadlock_joinTimeout (cfg : Cfg) (hjt : cfg.joinTimeout = true) (hw : WellCfg cfg) (hf : NoFaults cfg)
    (s : St) (h : Reach cfg s) (hnd : s.cpc ≠ .done) : ∃ t, (step s t).isSome :=
  WindVerif.Pool.imap_no_deadlock_joinTimeout cfg hjt hw hf s h hnd

/-- timed joins: termination (corollary of `imap_terminates`) -/
theorem imap_terminates_joinTimeout (cfg : Cfg) (hjt : cfg.joinTimeout = true) (hw : WellCfg cfg) (hf : NoFaults cfg) :
    ∃ bound, ∀ sched s, run (init cfg) sched = some s → sched.length ≤ bound :=
  WindVerif.Pool.imap_terminates_joinTimeout cfg hjt hw hf

/-- the strongest variant of "every worker has exited when `__exit__` returns" that holds with a finite join timeout too:
every maximal execution ends with the caller finished AND every worker ever created exited (a retired worker inside
`end()` included): every started worker eventually exits -/
theorem imap_maximal_all_exited (cfg : Cfg) (hw : WellCfg cfg) (hf : NoFaults cfg) (sched : List Tid) (s : St)
    (h : run (init cfg) sched = some s) (hmax : ∀ t, step s t = none) : s.cpc = .done ∧ AllExited s :=
  WindVerif.Pool.imap_maximal_all_exited cfg hw hf sched s h hmax

/-- … and from every reachable state such an end can be reached -/
theorem eventually_all_exited (cfg : Cfg) (hw : WellCfg cfg) (hf : NoFaults cfg) (s : St) (h : Reach cfg s) :
    ∃ sched s', run s sched = some s' ∧ s'.cpc = .done ∧ AllExited s' :=
  WindVerif.Pool.eventually_all_exited cfg hw hf s h

/-- non-vacuity: the configurations with a join timeout used above are well-formed and fault-free; `d19Cfg` has none -/
example : jtCfg.joinTimeout = true ∧ WellCfg jtCfg ∧ NoFaults jtCfg ∧ jtD19Cfg.joinTimeout = true ∧ WellCfg jtD19Cfg ∧
    NoFaults jtD19Cfg ∧ d19Cfg.joinTimeout = false := by
  unfold WellCfg NoFaults jtCfg jtD19Cfg d19Cfg; decide

/-- non-vacuity of `imap_maximal_all_exited`: the run of `exit_returns_with_running_worker` is not maximal (worker 0 can
still run its `end()`); one more step of worker 0 and nobody can move, the caller is done and both workers have exited -/
example : (run (init jtCfg) (jtSchedExit ++ [.w 0])).map
    (fun s => (decide (s.cpc = .done), (enabledTids s).length, s.workers.map (fun w => (w.wid, w.pc)))) =
    some (true, 0, [(0, .exited), (1, .exited)]) := by decide +kernel

/-- non-vacuity: the default configuration (work-queue bound = number of workers) satisfies the hypotheses, and so does the
configuration of the former D19 (work-queue bound below the number of workers of a factory pool) -/
example : WellCfg ⟨2, some 2, none, false, none, false, [⟨3, true⟩], [], [], false, false⟩ ∧ WellCfg d19Cfg ∧
    NoFaults ⟨2, some 2, none, false, none, false, [⟨3, true⟩], [], [], false, false⟩ ∧ NoFaults d19Cfg := by
  unfold WellCfg NoFaults d19Cfg; decide

end WindVerif.C02
