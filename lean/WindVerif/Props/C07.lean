import WindVerif.Proofs.CacheSim
import WindVerif.Proofs.LfuRefine
import WindVerif.Proofs.LfuSpec
/-!
# C07 — LFUCache evicts a least frequently used key and keeps the latest stored value

The property theorems; a property that nothing else needs is proved in place, the others in `Proofs/LfuRefine.lean`
(dict + linked list + `_inc_freq` walk ⟶ counted list), `Proofs/CacheSim.lean` (simulation transports mixins and histories), `Proofs/LfuSpec.lean` (the counted list:
counts, victim minimality, latest value, sortedness) and `Proofs/MixinSpec.lean` (the mixins on any implementation
that behaves as a finite map, which the counted list does: `LfuSpec.laws`).
-/
namespace WindVerif.C07
open WindVerif.Cache WindVerif.Dll

section refinement
theorem lfu_init (cap : Nat) (h : 1 ≤ cap) : Lfu.R cap (Lfu.new cap) [] := by
  have g : (Lfu.new cap).Good [] :=
    ⟨h, repr_empty, by simp, by simp, by simp [Lfu.new], rfl, by simp, by simp, by simp [Lfu.new]⟩
  exact ⟨(Lfu.inv_iff _).2 ⟨[], g⟩, rfl, by rw [g.abs_eq]; rfl⟩

theorem lfu_R_wf (cap : Nat) (s : Lfu) (t : LfuSpec.St) (h : Lfu.R cap s t) : LfuSpec.Wf cap t ∧ 1 ≤ cap := by
  obtain ⟨l, g, rfl, rfl⟩ := LfuRefine.R_good h
  exact ⟨g.wf, g.cap_pos⟩

/-- the dict + linked-list model (with the `_inc_freq` walk) simulates the abstract counted list -/
theorem lfu_refines (cap : Nat) : Sim lfuPrim (LfuSpec.prim cap) (Lfu.R cap) := lfu_sim cap

theorem lfu_mixins_refine (cap : Nat) : MixinSim lfuPrim (LfuSpec.prim cap) (Lfu.R cap) :=
  mixins_refine (lfu_sim cap)

/-- every finite history from a fresh cache: same observations as the abstract cache; consistency holds at the end -/
theorem lfu_run_refines (cap : Nat) (h : 1 ≤ cap) (ops : List COp) :
    (runOps lfuPrim (Lfu.new cap) ops).2 = (runOps (LfuSpec.prim cap) [] ops).2 ∧
    Lfu.R cap (runOps lfuPrim (Lfu.new cap) ops).1 (runOps (LfuSpec.prim cap) [] ops).1 :=
  run_refines (lfu_sim cap) _ _ (lfu_init cap h) ops

/-- after any history: at most `max_size` entries, no repeated key, counts positive and non-decreasing along the list
(so iteration lists keys in non-decreasing use count) -/
theorem lfu_bounded_sorted (cap : Nat) (h : 1 ≤ cap) (ops : List COp) :
    LfuSpec.Wf cap (runOps (LfuSpec.prim cap) [] ops).1 ∧
    (runOps lfuPrim (Lfu.new cap) ops).1.cache.length ≤ cap := by
  have hr := (lfu_run_refines cap h ops).2
  have hw := (lfu_R_wf cap _ _ hr).1
  refine ⟨hw, ?_⟩
  have hlen : (runOps lfuPrim (Lfu.new cap) ops).1.cache.length
      = (runOps (LfuSpec.prim cap) [] ops).1.length := (lfu_sim cap).len _ _ hr
  rw [hlen]; exact hw.2.1

end refinement

section abstract
open WindVerif.Cache.LfuSpec
/-- well-formedness (no repeated key, at most `cap` entries, counts positive and non-decreasing along the list) is preserved by
every primitive -/
theorem wf_get (cap : Nat) (l l' : St) (k : Key) (v : Val) (h : Wf cap l) (hg : get l k = .ok (l', v)) : Wf cap l' := by
  cases hl : lookup l k with
  | none => cases (get_none hl).symm.trans hg
  | some p =>
    cases (get_some (v := p.1) (c := p.2) hl).symm.trans hg
    exact wf_bump cap k none l h

theorem wf_set (cap : Nat) (hc : 1 ≤ cap) (l : St) (k : Key) (v : Val) (h : Wf cap l) :
    ∃ l', set cap l k v = .ok l' ∧ Wf cap l' :=
  LfuSpec.wf_set cap hc l k v h

theorem wf_del (cap : Nat) (l l' : St) (k : Key) (h : Wf cap l) (hd : del l k = .ok l') : Wf cap l' := by
  unfold del at hd
  split at hd
  · cases hd
    exact wf_without cap l k h
  · cases hd

/-- a successful lookup returns the stored value, adds one to the key's count and changes nothing else;
an absent key raises `KeyError` -/
theorem get_spec (cap : Nat) (l : St) (k : Key) (h : Wf cap l) :
    (∀ v c, lookup l k = some (v, c) → ∃ l', get l k = .ok (l', v) ∧ lookup l' k = some (v, c + 1) ∧
        ∀ k', k' ≠ k → lookup l' k' = lookup l k') ∧
    (lookup l k = none → get l k = .error .keyError) :=
  LfuSpec.get_spec cap l k h

/-- `c[k] = v` on a present key: the latest value is kept, the count grows by one, nothing else changes -/
theorem set_present (cap : Nat) (l : St) (k : Key) (v : Val) (h : Wf cap l) (c : Nat) (w : Val)
    (hin : lookup l k = some (w, c)) :
    ∃ l', set cap l k v = .ok l' ∧ lookup l' k = some (v, c + 1) ∧ ∀ k', k' ≠ k → lookup l' k' = lookup l k' :=
  LfuSpec.set_present cap l k v h c w hin

/-- a new key with room left: inserted with count 1, nothing removed -/
theorem set_room (cap : Nat) (l : St) (k : Key) (v : Val) (h : Wf cap l) (hnew : lookup l k = none)
    (hroom : l.length < cap) :
    ∃ l', set cap l k v = .ok l' ∧ lookup l' k = some (v, 1) ∧ ∀ k', k' ≠ k → lookup l' k' = lookup l k' :=
  LfuSpec.set_room cap l k v h hnew hroom

/-- a new key into a full cache: exactly one key is removed, its count is the smallest among the keys present, the
new key enters with count 1 and every other entry is untouched -/
theorem set_evicts_min (cap : Nat) (hc : 1 ≤ cap) (l : St) (k : Key) (v : Val) (h : Wf cap l)
    (hnew : lookup l k = none) (hfull : l.length = cap) :
    ∃ l' victim, set cap l k v = .ok l' ∧ victim ∈ l ∧ (∀ e ∈ l, victim.2.2 ≤ e.2.2) ∧
      lookup l' k = some (v, 1) ∧ lookup l' victim.1 = none ∧
      ∀ k', k' ≠ k → k' ≠ victim.1 → lookup l' k' = lookup l k' :=
  LfuSpec.set_evicts_min cap hc l k v h hnew hfull

theorem del_spec (cap : Nat) (l : St) (k : Key) (h : Wf cap l) :
    ((lookup l k).isSome → ∃ l', del l k = .ok l' ∧ lookup l' k = none ∧ ∀ k', k' ≠ k → lookup l' k' = lookup l k') ∧
    (lookup l k = none → del l k = .error .keyError) :=
  LfuSpec.del_spec cap l k h

theorem items_spec (cap : Nat) (l : St) (h : Wf cap l) :
    ∃ l', items (prim cap) l = .ok (l', l.map (fun e => (e.1, e.2.1))) ∧ SameContent l l' ∧ Wf cap l' :=
  LfuSpec.items_spec cap l h

theorem contains_spec (cap : Nat) (l : St) (k : Key) (h : Wf cap l) :
    ∃ l', contains (prim cap) l k = .ok (l', (lookup l k).isSome) ∧ SameContent l l' := by
  simpa only [Option.isSome_map] using (LfuSpec.laws cap).contains h k

theorem getD_spec (cap : Nat) (l : St) (k : Key) (h : Wf cap l) :
    ∃ l', getD (prim cap) l k = .ok (l', (lookup l k).map (·.1)) ∧ SameContent l l' :=
  (LfuSpec.laws cap).getD h k

theorem pop_spec (cap : Nat) (l : St) (k : Key) (h : Wf cap l) :
    (∀ v c, lookup l k = some (v, c) → pop (prim cap) l k = .ok (without l k, v)) ∧
    (lookup l k = none → pop (prim cap) l k = .error .keyError) :=
  ⟨fun _ _ hl => (LfuSpec.laws cap).pop_some h (congrArg (Option.map (·.1)) hl),
    fun hl => (LfuSpec.laws cap).pop_none h (congrArg (Option.map (·.1)) hl)⟩

theorem popitem_spec (cap : Nat) (l : St) (h : Wf cap l) :
    match l with
    | [] => popitem (prim cap) l = .error .keyError
    | (k, v, _) :: r => popitem (prim cap) l = .ok (r, k, v) :=
  LfuSpec.popitem_spec cap l h

theorem clear_spec (cap : Nat) (l : St) (h : Wf cap l) : clear (prim cap) l = .ok [] :=
  LfuSpec.clear_spec cap l h

theorem update_total (cap : Nat) (hc : 1 ≤ cap) (l : St) (ps : List (Key × Val)) (h : Wf cap l) :
    ∃ l', update (prim cap) l ps = .ok l' ∧ Wf cap l' :=
  Cache.update_total (fun s k v hs => LfuSpec.wf_set cap hc s k v hs) ps l h

theorem setdefault_spec (cap : Nat) (hc : 1 ≤ cap) (l : St) (k : Key) (v : Val) (h : Wf cap l) :
    (∀ w c, lookup l k = some (w, c) → ∃ l', setdefault (prim cap) l k v = .ok (l', w) ∧ SameContent l l') ∧
    (lookup l k = none → ∃ l', setdefault (prim cap) l k v = .ok (l', v) ∧ set cap l k v = .ok l') :=
  ⟨fun _ _ hl => (LfuSpec.laws cap).setdefault_some h (congrArg (Option.map (·.1)) hl) v, fun hl =>
    let ⟨l', hs, _⟩ := LfuSpec.wf_set cap hc l k v h
    ⟨l', (LfuSpec.laws cap).setdefault_none h (congrArg (Option.map (·.1)) hl) hs, hs⟩⟩

theorem eq_spec (cap : Nat) (l : St) (other : List (Key × Val)) (h : Wf cap l)
    (ho : (other.map (·.1)).Nodup) :
    ∃ l' b, eqDict (prim cap) l other = .ok (l', b) ∧ SameContent l l' ∧
      (b = true ↔ ∀ k, (lookup l k).map (·.1) = other.lookup k) :=
  LfuSpec.eq_spec cap l other h ho

end abstract

/-- non-vacuity: key 1 is used three times, key 2 once; the store of key 3 evicts key 2; the overwritten value is kept -/
example : (runOps lfuPrim (Lfu.new 2) [.set 1 10, .set 2 20, .get 1, .set 1 11, .set 3 30, .keys, .get 1, .has 2]).2 =
    [.unit, .unit, .val 10, .unit, .unit, .keys [3, 1], .val 11, .bool false] := by
  have h := (lfu_run_refines 2 (by decide) [.set 1 10, .set 2 20, .get 1, .set 1 11, .set 3 30, .keys, .get 1, .has 2]).1
  rw [h]; decide

example : LfuSpec.Wf 2 [(2, 20, 1), (1, 10, 3)] := by simp [LfuSpec.Wf]

end WindVerif.C07
