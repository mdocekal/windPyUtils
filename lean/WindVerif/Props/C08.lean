import WindVerif.Proofs.Dll
/-!
# C08 — DoublyLinkedList behaves as a sequence and keeps its links and length consistent

The property theorems; the lemmas are in `Proofs/Dll.lean`, the failures on the empty list are read off the model here.
-/
namespace WindVerif.C08
open WindVerif.Dll

/-- One step: every operation, applied to member nodes of a consistent list, yields a consistent list that
represents exactly the reference sequence after the same operation. -/
theorem repr_step (d : Dll) (l : List Node) (op : Op) (h : Rep d l) (hv : op.Valid l) :
    Rep (applyOp d op) (specOp l d.fresh op) :=
  Dll.repr_step d l op h hv

/-- Any finite operation sequence from the empty list: the structure represents the reference sequence. -/
theorem repr_run (ops : List Op) (hv : ValidSeq Dll.empty [] ops) :
    Rep (runOps Dll.empty [] ops).1 (runOps Dll.empty [] ops).2 :=
  Dll.repr_run Dll.empty [] ops Dll.repr_empty hv

/-- A consistent structure: forward traversal yields exactly the reference sequence, backward traversal its
reverse, `len()` its length (for any amount of fuel that is at least the length). -/
theorem walks (d : Dll) (l : List Node) (h : Rep d l) (k : Nat) :
    walkF d (l.length + k) d.head = l ∧ walkB d (l.length + k) d.tail = l.reverse ∧ d.size = l.length :=
  ⟨Dll.walkF_eq d l h k, Dll.walkB_eq d l h k, h.size⟩

/-- The documented failures and nothing else: pops on the empty list raise `IndexError`, moves on the empty list
raise `RuntimeError`; on a non-empty consistent list with member arguments no operation fails. -/
theorem pop_empty : popBack Dll.empty = .error .indexError ∧ popFront Dll.empty = .error .indexError := by
  simp [popBack, popFront, Dll.empty]

theorem move_empty (n : Node) :
    moveToFront Dll.empty n = .error .runtimeError ∧ moveToBack Dll.empty n = .error .runtimeError := by
  simp [moveToFront, moveToBack, Dll.empty]

theorem total (d : Dll) (l : List Node) (h : Rep d l) (hne : l ≠ []) (n : Node) :
    (∃ r, popBack d = .ok r) ∧ (∃ r, popFront d = .ok r) ∧
    (∃ r, moveToFront d n = .ok r) ∧ (∃ r, moveToBack d n = .ok r) :=
  Dll.total d l h hne n

/-- non-vacuity: a concrete three-element list built by the model satisfies `Rep` and the hypotheses above -/
example : Rep (runOps Dll.empty [] [.append, .append, .prepend, .moveToFront 1, .rotate true, .moveAfter 2 0]).1
    [0, 2, 1] :=
  -- the sequence is `[2, 0, 1]` when 1 is moved to the front and again, after the rotation, when 2 is moved behind 0
  repr_run [.append, .append, .prepend, .moveToFront 1, .rotate true, .moveAfter 2 0]
    ⟨trivial, trivial, trivial, (by decide : 1 ∈ [2, 0, 1]), trivial, (by decide : 2 ∈ [2, 0, 1] ∧ 0 ∈ [2, 0, 1]),
      trivial⟩

end WindVerif.C08
