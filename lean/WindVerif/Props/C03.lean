import WindVerif.Proofs.PoolSafe
import WindVerif.Proofs.PoolLife
import WindVerif.Proofs.PoolJoinTimeout
import WindVerif.Proofs.PoolAlive
/-!
# C03 — A pool stays correct across consecutive calls and across worker replacement

Property theorems (proofs in `Proofs/PoolSafe`, `PoolLife`, `PoolJoinTimeout`, `PoolAlive`; corollaries that nothing else needs are
proved in place).  The model's consumer runs an arbitrary list of calls on one pool (`cfg.calls`), with
`FactoryFunctorPool` and quotas replacing retired workers at any moment.  `calls_independent` / `past_calls`: every call of the
history emitted exactly its own chunks (ordered calls in input order) under every interleaving — nothing leaks from one
call into the next; `imap_result` gives the quiescent state between calls (no result chunk, work item or held chunk left).
Worker availability across replacement and the termination of every call are the liveness theorems of C02
(`imap_no_deadlock`); D19 repaired: leaving the context is covered by them too.

The model's worker has a step `.ending` of its own between the operation that ends its loop (stop order taken, wid posted,
…) and its `end()`/exit, in every configuration.  A finite `join_timeout` (`Cfg.joinTimeout`; the joins of the replace
thread and of `__exit__` return whether the worker has exited or not): every theorem above holds for these configurations too (same statements) — EXCEPT `exit_joins_all`, which
is false then (`C02.exit_returns_with_running_worker`) and carries the hypothesis `cfg.joinTimeout = false`.
`successor_while_retired_runs`: the successor of a retired worker can be started while the retired worker is still running;
`retired_still_ends`: it ends all the same, its lifecycle is intact.
-/
namespace WindVerif.C03
open WindVerif.Pool

/-- consecutive calls: when the caller's whole program has finished, every call `k` of the history (different lengths,
chunk sizes, ordered or not, empty ones in between, with or without worker replacement) has emitted exactly its own chunks,
ordered calls in input order — nothing leaked from one call into another -/
theorem calls_independent (cfg : Cfg) (hf : NoFaults cfg) (s : St) (h : Reach cfg s) (hd : s.cpc = .done)
    (k : Nat) (c : Call) (hk : cfg.calls[k]? = some c) :
    (outOf s (k + 1)).Perm (List.range c.chunks) ∧ (c.ordered = true → outOf s (k + 1) = List.range c.chunks) :=
  WindVerif.Pool.calls_independent cfg hf s h hd k c hk

/-- the same for every call that is already over while the program is still running -/
theorem past_calls (cfg : Cfg) (hf : NoFaults cfg) (s : St) (h : Reach cfg s) (k : Nat) (c : Call)
    (hk : cfg.calls[k]? = some c) (hpast : k + 1 < s.callNo) :
    (outOf s (k + 1)).Perm (List.range c.chunks) ∧ (c.ordered = true → outOf s (k + 1) = List.range c.chunks) :=
  WindVerif.Pool.past_calls cfg hf s h k c hk hpast

/-- when the consumer has left the result loop of a call, every chunk has been emitted exactly once (ordered: in input
order) and no result chunk, work item or held chunk is left anywhere (wake-up tokens may remain) -/
theorem imap_result (cfg : Cfg) (hf : NoFaults cfg) (s : St) (h : Reach cfg s) (c : Call) (hc : s.cur = some c)
    (hp : postLoop s = true) :
    (curOut s).Perm (List.range c.chunks) ∧ (c.ordered = true → curOut s = List.range c.chunks) ∧
    chunksOf s.resQ = [] ∧ chunksOf s.workQ = [] ∧ heldChunks s = [] ∧ s.buffer = [] :=
  WindVerif.Pool.imap_result cfg hf s h c hc hp

theorem safe_reach (cfg : Cfg) (hf : NoFaults cfg) (s : St) (h : Reach cfg s) : SafeInv s :=
  WindVerif.Pool.safe_reach cfg hf s h

/-- when the pool context has been left (no join timeout: `join_timeout=None`), no worker is running — replaced workers
included.  The hypothesis `cfg.joinTimeout = false` is needed: with a finite join timeout the statement is false
(`C02.exit_returns_with_running_worker`); what remains true then is `C02.imap_maximal_all_exited` /
`C02.eventually_all_exited` -/
theorem exit_joins_all (cfg : Cfg) (hjt : cfg.joinTimeout = false) (s : St) (h : Reach cfg s) (hd : s.cpc = .done) :
    AllExited s :=
  WindVerif.Pool.exit_joins_all cfg hjt s h hd

/-- non-vacuity: the default (`join_timeout=None`) -/
example : d19Cfg.joinTimeout = false ∧ (⟨1, none, none, false, none, false, [⟨1, true⟩], [], [], false, false⟩ : Cfg).joinTimeout = false := by
  decide

/-- timed joins: the situation exists in the model — a reachable state (1 worker, factory, quota 1, one call of 2 chunks,
`joinTimeout`) in which the successor (worker 1) has been listed and started while the retired worker 0 is still running:
its pc is `.ending`, `end` is not yet in its log -/
theorem successor_while_retired_runs :
    ∃ sched s, run (init jtCfg) sched = some s ∧ s.procs = [1] ∧
      (∃ w ∈ s.workers, w.wid = 0 ∧ w.pc = .ending ∧ w.log = [.begin, .item 0]) ∧
      (∃ w ∈ s.workers, w.wid = 1 ∧ w.pc = .bfClear) :=
  WindVerif.Pool.successor_while_retired_runs

/-- timed joins: in every reachable state each worker's log is still `begin · item* · end` cut off where the worker is
(`LifeOk`, the lifecycle theorem of C04, unchanged): `begin` at most once, `end_` at most once, both exactly once when the
worker has exited; a retired worker whose successor may already run (`.ending`) has not logged `end_` yet, can always move,
and its step logs `end_` and exits -/
theorem retired_still_ends (cfg : Cfg) (hjt : cfg.joinTimeout = true) (s : St) (h : Reach cfg s) (w : Worker)
    (hw : w ∈ s.workers) :
    LifeOk cfg w ∧ w.log.count .begin ≤ 1 ∧ w.log.count .end_ ≤ 1 ∧
    (w.pc = .exited → w.log.count .begin = 1 ∧ w.log.count .end_ = 1) ∧
    (w.pc = .ending → w.log.count .end_ = 0 ∧
      ∃ s', step s (.w w.wid) = some s' ∧ ∃ w' ∈ s'.workers, w'.wid = w.wid ∧ w'.pc = .exited ∧ w'.log = w.log ++ [.end_]) :=
  WindVerif.Pool.retired_still_ends cfg hjt s h w hw

/-- non-vacuity: `jtCfg` has a join timeout, and the state of `successor_while_retired_runs` is reachable with worker 0 at
`.ending`; one step of worker 0 later it has exited with `begin · item 0 · end` -/
example : jtCfg.joinTimeout = true := rfl
example : (run (init jtCfg) (jtSched ++ [.w 0])).map (fun s => s.workers.map (fun w => (w.wid, w.pc, w.log))) =
    some [(0, .exited, [.begin, .item 0, .end_]), (1, .bfClear, [])] := by decide

/-! How many worker processes are alive at once (definitions in Proofs/PoolAlive.lean): `aliveCnt s` = number of workers
whose pc is neither `notStarted` nor `exited` (running processes); `notStartedCnt` = created but not started; `endingCnt` =
workers inside `end()`; `unlistedCnt` = workers the pool does not list any more; `replCount s₀ sched` = steps of the replace
thread along `sched` that create a successor. -/

/-- **`join_timeout=None`: in every reachable state at most `nWorkers` worker processes are running.**  The replace thread
joins the retired worker before it creates and starts the successor, so a replacement never raises the number of running
processes (nor of the descriptors they hold).  No `+ 1` is needed: the successor is created (`notStarted`) only after the
retired worker has exited (`successor_after_exit`) -/
theorem alive_le_workers (cfg : Cfg) (hjt : cfg.joinTimeout = false) (s : St) (h : Reach cfg s) :
    aliveCnt s ≤ cfg.nWorkers :=
  WindVerif.Pool.alive_le_workers cfg hjt s h

/-- … even counted together with the processes that are created but not yet started -/
theorem alive_notStarted_le_workers (cfg : Cfg) (hjt : cfg.joinTimeout = false) (s : St) (h : Reach cfg s) :
    aliveCnt s + notStartedCnt s ≤ cfg.nWorkers :=
  WindVerif.Pool.alive_notStarted_le_workers cfg hjt s h

/-- `join_timeout=None`: a running worker is one of the listed ones -/
theorem alive_listed (cfg : Cfg) (hjt : cfg.joinTimeout = false) (s : St) (h : Reach cfg s) (w : Worker)
    (hw : w ∈ s.workers) (hr : running w.pc = true) : w.wid ∈ s.procs :=
  Decidable.byContradiction fun hn => by rw [unlisted_exited' cfg hjt s h w hw hn] at hr; cases hr

/-- `join_timeout=None`: whenever the replace thread PERFORMS its `join` step for worker `wid` (the step that creates the
successor), that worker has already exited.  The step is a hypothesis (`hs`): the worker posts its wid BEFORE it runs
`end()`, so the replace thread can arrive at the join while the worker is still inside `end()`; the join then blocks
(`successor_join_waits` below: without `hs` the statement is false) -/
theorem successor_after_exit (cfg : Cfg) (hjt : cfg.joinTimeout = false) (s : St) (h : Reach cfg s) (wid : Nat)
    (hr : s.rpc = .join wid) (s' : St) (hs : step s .r = some s') : ∀ w ∈ s.workers, w.wid = wid → w.pc = .exited :=
  WindVerif.Pool.successor_after_exit cfg hjt s h wid hr s' hs

/-- the state in which `successor_after_exit` without `hs` is false: `join_timeout=None`, the replace thread at its join for
worker 0, which is still inside `end()` — the join blocks (the replace thread is not enabled, worker 0 is); one process runs -/
theorem successor_join_waits : (run (init njCfg) njSchedWait).map
    (fun s => (s.rpc, s.workers.map (fun w => (w.wid, w.pc)), (step s .r).isSome, (step s (.w 0)).isSome, aliveCnt s)) =
    some (.join 0, [(0, .ending)], false, true, 1) :=
  WindVerif.Pool.successor_join_waits

/-- every configuration: the worker the replace thread is about to join has left its loop for good (exited or in `end()`) -/
theorem successor_after_gone (cfg : Cfg) (s : St) (h : Reach cfg s) (wid : Nat) (hr : s.rpc = .join wid) :
    ∀ w ∈ s.workers, w.wid = wid → gone w.pc = true :=
  WindVerif.Pool.successor_after_gone cfg s h wid hr

/-- every configuration (timed joins included): the running or created-but-not-started workers beyond `nWorkers` are
workers inside `end()` -/
theorem alive_le_general (cfg : Cfg) (s : St) (h : Reach cfg s) :
    aliveCnt s + notStartedCnt s ≤ cfg.nWorkers + endingCnt s :=
  WindVerif.Pool.alive_le_general cfg s h

/-- the pool lists exactly `nWorkers` wids in every reachable state (a replacement overwrites a slot) … -/
theorem listed_length (cfg : Cfg) (s : St) (h : Reach cfg s) : s.procs.length = cfg.nWorkers :=
  WindVerif.Pool.listed_length cfg s h

/-- … no wid twice -/
theorem listed_nodup (cfg : Cfg) (s : St) (h : Reach cfg s) : s.procs.Nodup :=
  WindVerif.Pool.listed_nodup cfg s h

/-- the number of workers ever created is `nWorkers` + the number of replacements performed; their wids are
`0 … (number created) - 1` in creation order, and the wid counter is that number -/
theorem created_eq (cfg : Cfg) (sched : List Tid) (s : St) (h : run (init cfg) sched = some s) :
    s.workers.length = cfg.nWorkers + replCount (init cfg) sched ∧ s.widCounter = s.workers.length ∧
    s.workers.map (·.wid) = List.range s.workers.length :=
  WindVerif.Pool.created_eq cfg sched s h

theorem created_le (cfg : Cfg) (sched : List Tid) (s : St) (h : run (init cfg) sched = some s) :
    s.workers.length ≤ cfg.nWorkers + replCount (init cfg) sched :=
  Nat.le_of_eq (WindVerif.Pool.created_eq cfg sched s h).1

/-- a plain `FunctorPool` never creates a worker after `__init__` -/
theorem created_plain (cfg : Cfg) (hf : cfg.factory = false) (s : St) (h : Reach cfg s) :
    s.workers.length = cfg.nWorkers := by
  obtain ⟨sched, hs⟩ := h
  rw [(WindVerif.Pool.created_eq cfg sched s hs).1, replCount_plain (LInv_init cfg) hf hs]; rfl

/-- the number of workers ever created is `nWorkers` + the number of workers the pool does not list any more -/
theorem created_unlisted (cfg : Cfg) (s : St) (h : Reach cfg s) : s.workers.length = cfg.nWorkers + unlistedCnt s :=
  WindVerif.Pool.created_unlisted cfg s h

/-- `join_timeout=None`: every worker that is not listed any more (every replaced worker) has exited -/
theorem unlisted_exited (cfg : Cfg) (hjt : cfg.joinTimeout = false) (s : St) (h : Reach cfg s) (w : Worker)
    (hw : w ∈ s.workers) (hn : w.wid ∉ s.procs) : w.pc = .exited :=
  unlisted_exited' cfg hjt s h w hw hn

/-- finite `join_timeout`: the bound fails — a reachable state of `jtCfg` (1 worker) with `nWorkers + 1` running worker
processes: the retired worker 0 inside `end()`, its successor started -/
theorem alive_exceeds_with_timeout :
    ∃ sched s, jtCfg.joinTimeout = true ∧ run (init jtCfg) sched = some s ∧ aliveCnt s = jtCfg.nWorkers + 1 :=
  WindVerif.Pool.alive_exceeds_with_timeout

/-- finite `join_timeout`: the number of running processes grows with every replacement — `nWorkers + 2` after two -/
theorem alive_grows_with_timeout :
    ∃ sched s, jtCfg.joinTimeout = true ∧ run (init jtCfg) sched = some s ∧ replCount (init jtCfg) sched = 2 ∧
      aliveCnt s = jtCfg.nWorkers + 2 :=
  WindVerif.Pool.alive_grows_with_timeout

/-- hence `alive_le_workers` without its hypothesis `cfg.joinTimeout = false` is false -/
theorem alive_bound_needs_no_timeout : ¬ ∀ (cfg : Cfg) (s : St), Reach cfg s → aliveCnt s ≤ cfg.nWorkers :=
  fun hall =>
  have ⟨sched, s, _, hs, ha⟩ := WindVerif.Pool.alive_exceeds_with_timeout
  Nat.not_succ_le_self _ (ha ▸ hall jtCfg s ⟨sched, hs⟩)

/-- non-vacuity: `njCfg` (= `jtCfg` with `join_timeout=None`: 1 worker, factory, quota 1, a call of 2 chunks) meets the
hypothesis; after the schedule `njSched` (worker 0 retires and exits, the replace thread joins it, creates, lists and starts
worker 1) the bound is attained (1 running process = `nWorkers`), 2 workers have been created by 1 replacement, 1 worker is
unlisted and it has exited; the replace thread is at its `join` for worker 0 (exited: the join can return) one step before
the creation -/
example : njCfg.joinTimeout = false ∧ njCfg.factory = true ∧ njCfg.nWorkers = 1 := by decide
example : (run (init njCfg) njSched).map
    (fun s => (s.procs, s.workers.map (fun w => (w.wid, w.pc)), aliveCnt s, unlistedCnt s)) =
    some ([1], [(0, .exited), (1, .bfClear)], 1, 1) ∧ replCount (init njCfg) njSched = 1 := by decide
example : (run (init njCfg) (njSched.take 21)).map (fun s => (s.rpc, s.workers.map (fun w => (w.wid, w.pc)), (step s .r).isSome)) =
    some (.join 0, [(0, .exited)], true) := by decide
/-- non-vacuity of `created_plain`: a plain pool -/
example : (⟨2, none, none, false, none, false, [⟨1, true⟩], [], [], false, false⟩ : Cfg).factory = false := by decide


end WindVerif.C03
