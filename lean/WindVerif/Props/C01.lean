import WindVerif.Proofs.PoolSafe
import WindVerif.Proofs.PoolData
/-!
# C01 — Ordered imap returns exactly map(f, data), once each, in input order

Property theorems (proofs in `Proofs/PoolSafe*.lean`, `Proofs/PoolData.lean`; `imap_values` puts them together in place) about the interleaving model
`Model/Pool.lean` of `FunctorPool` / `FactoryFunctorPool`: for every configuration (workers, chunk counts, queue bounds, plain
or factory with quotas, any list of calls) without injected faults and **every interleaving** of consumer, feeding thread,
replace thread and workers (`Reach cfg s`).  The pool model moves chunk *indices*; `yielded_ordered` / `yielded_unordered`
turn "the chunk indices were emitted as `0 … n-1`" (resp. a permutation) into "the caller received `map f data`" (resp.
the same multiset with the order inside each chunk kept).
-/
namespace WindVerif.C01
open WindVerif.Pool

theorem cfg_const (cfg : Cfg) (s : St) (h : Reach cfg s) : s.cfg = cfg :=
  WindVerif.Pool.cfg_const cfg s h

theorem safe_init (cfg : Cfg) : SafeInv (init cfg) :=
  WindVerif.Pool.safe_init cfg

theorem safe_step (s s' : St) (t : Tid) (hf : NoFaults s.cfg) (h : SafeInv s) (hs : step s t = some s') : SafeInv s' :=
  WindVerif.Pool.safe_step s s' t hf h hs

theorem safe_reach (cfg : Cfg) (hf : NoFaults cfg) (s : St) (h : Reach cfg s) : SafeInv s :=
  WindVerif.Pool.safe_reach cfg hf s h

/-- ordered `imap`: at every moment, under every interleaving, the chunks emitted so far are `0, 1, …, m-1` in this order:
nothing lost, duplicated, reordered or invented -/
theorem imap_prefix (cfg : Cfg) (hf : NoFaults cfg) (s : St) (h : Reach cfg s) (c : Call) (hc : s.cur = some c)
    (ho : c.ordered = true) : curOut s = List.range (curOut s).length ∧ (curOut s).length ≤ c.chunks :=
  WindVerif.Pool.imap_prefix cfg hf s h c hc ho

/-- `imap_unordered`: every emitted chunk is a chunk of the input and no chunk is emitted twice -/
theorem imap_unordered_nodup (cfg : Cfg) (hf : NoFaults cfg) (s : St) (h : Reach cfg s) (c : Call) (hc : s.cur = some c) :
    (curOut s).Nodup ∧ ∀ i ∈ curOut s, i < c.chunks :=
  WindVerif.Pool.imap_unordered_nodup cfg hf s h c hc

/-- when the consumer has left the result loop of a call, every chunk has been emitted exactly once (ordered: in input
order) and no result chunk, work item or held chunk is left anywhere (wake-up tokens may remain) -/
theorem imap_result (cfg : Cfg) (hf : NoFaults cfg) (s : St) (h : Reach cfg s) (c : Call) (hc : s.cur = some c)
    (hp : postLoop s = true) :
    (curOut s).Perm (List.range c.chunks) ∧ (c.ordered = true → curOut s = List.range c.chunks) ∧
    chunksOf s.resQ = [] ∧ chunksOf s.workQ = [] ∧ heldChunks s = [] ∧ s.buffer = [] :=
  WindVerif.Pool.imap_result cfg hf s h c hc hp

theorem chunking_flatten {α} (data : List α) (k : Nat) (hk : 0 < k) : (chunking data k).flatten = data :=
  WindVerif.Pool.chunking_flatten data k hk

/-- all chunks have `k` elements except possibly a shorter, non-empty last one; their number is ⌈n/k⌉ -/
theorem chunking_sizes {α} (data : List α) (k : Nat) (hk : 0 < k) :
    (chunking data k).length = (data.length + k - 1) / k ∧
    ∀ i ch, (chunking data k)[i]? = some ch →
      0 < ch.length ∧ ch.length ≤ k ∧ (i + 1 < (chunking data k).length → ch.length = k) :=
  WindVerif.Pool.chunking_sizes data k hk

/-- chunks emitted in input order: the caller receives exactly `map f data` -/
theorem yielded_ordered {α β} (f : α → β) (data : List α) (k : Nat) (hk : 0 < k) :
    yielded f data k (List.range (chunking data k).length) = data.map f :=
  WindVerif.Pool.yielded_ordered f data k hk

/-- chunks emitted in any order, each once: the same multiset of results, order inside each chunk kept -/
theorem yielded_unordered {α β} (f : α → β) (data : List α) (k : Nat) (hk : 0 < k) (order : List Nat)
    (hp : order.Perm (List.range (chunking data k).length)) :
    (yielded f data k order).Perm (data.map f) ∧
    yielded f data k order = (order.map (fun i => (((chunking data k)[i]?).getD []).map f)).flatten :=
  WindVerif.Pool.yielded_unordered f data k hk order hp

/-- the property at the level of values: when the consumer of an ordered `imap` over `data` (cut into chunks of `k`) has
left the result loop — in any reachable state of any configuration, i.e. under every interleaving — what the caller
received is exactly `data.map f`; for `imap_unordered` it is a permutation of `data.map f` with the order inside each chunk
kept -/
theorem imap_values {α β} (f : α → β) (data : List α) (k : Nat) (hk : 0 < k)
    (cfg : Cfg) (hf : NoFaults cfg) (s : St) (h : Reach cfg s) (c : Call) (hc : s.cur = some c)
    (hp : postLoop s = true) (hchunks : c.chunks = (chunking data k).length) :
    (c.ordered = true → yielded f data k (curOut s) = data.map f) ∧
    (yielded f data k (curOut s)).Perm (data.map f) := by
  have hres := WindVerif.Pool.imap_result cfg hf s h c hc hp
  refine ⟨?_, ?_⟩
  · intro ho
    rw [hres.2.1 ho, hchunks]
    exact WindVerif.Pool.yielded_ordered f data k hk
  · have hperm : (curOut s).Perm (List.range (chunking data k).length) := hchunks ▸ hres.1
    exact (WindVerif.Pool.yielded_unordered f data k hk (curOut s) hperm).1

/-- non-vacuity: the consumer-first schedule that exposed D15 on the unrepaired code reaches the loop with the flags set -/
example : ((run (init ⟨1, none, none, false, none, false, [⟨1, true⟩], [], [], false, false⟩) [.c, .c, .c, .c, .c, .c]).map
    (fun s => (s.sending, s.dataCnt, s.cpc))) = some (true, 0, .qsize1) := rfl
example : NoFaults ⟨1, none, none, false, none, false, [⟨1, true⟩], [], [], false, false⟩ := ⟨rfl, rfl⟩

end WindVerif.C01
