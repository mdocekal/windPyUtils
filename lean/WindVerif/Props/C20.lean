import WindVerif.Proofs.TmpPool
import WindVerif.Proofs.FilePoolFail
import WindVerif.Proofs.TmpPoolCtx
import WindVerif.Proofs.TmpPoolRefuse
/-!
# C20 — TmpPool and FilePool leave nothing behind

The property theorems (the history semantics `Op`/`applyOp`/`run`, the invariant `Inv` and every proof of more than a few
lines are in `Proofs/TmpPool.lean`).  Histories may be produced by any process of a multi-process pool (`create pid`, `remove pid p`,
`flush pid`, `fork pid`) and may contain files deleted behind the pool's back (`unlink`).  Leaving the context normally and
through an exception are the same transition (`__exit__` always flushes).
-/
namespace WindVerif.C20
open WindVerif.TmpPool

theorem inv_new : Inv Pool.new :=
  WindVerif.TmpPool.inv_new

theorem inv_step (s : Pool) (op : Op) (h : Inv s) : Inv (applyOp s op) :=
  WindVerif.TmpPool.inv_step s op h

theorem inv_run (ops : List Op) : Inv (run Pool.new ops) :=
  WindVerif.TmpPool.inv_run ops

/-- every path returned by `create()` (in any process) is a distinct, existing file -/
theorem create_fresh (s : Pool) (h : Inv s) (pid : Nat) (hp : pid < s.refs.length) :
    ∃ s' p, s.create pid = .ok (s', p) ∧ p ∉ s.fs ∧ p ∈ s'.fs ∧ (∀ l, s.listOf 0 = some l → p ∉ l) ∧
      (∀ l', s'.listOf 0 = some l' → p ∈ l') :=
  WindVerif.TmpPool.create_fresh s h pid hp

/-- after any history without outside interference the pool lists exactly the created-and-not-removed paths and exactly
those exist on disk -/
theorem listed_eq_existing (ops : List Op) (hn : NoUnlink ops) :
    ∃ l, (run Pool.new ops).listOf 0 = some l ∧ ∀ p, p ∈ l ↔ p ∈ (run Pool.new ops).fs :=
  WindVerif.TmpPool.listed_eq_existing ops hn

/-- whatever happened before (children creating files, files deleted from outside, failed removals): after `flush()` by
any process, and after leaving the context by any route, none of the pool's files exists and nothing is listed -/
theorem nothing_left_flush (ops : List Op) (pid : Nat) (hp : pid < (run Pool.new ops).refs.length) :
    ∃ s', (run Pool.new ops).flush pid = .ok s' ∧ s'.fs = [] ∧ s'.listOf 0 = some [] :=
  WindVerif.TmpPool.nothing_left_flush ops pid hp

theorem nothing_left_exit (ops : List Op) :
    ∃ s', (run Pool.new ops).exit = .ok s' ∧ s'.fs = [] ∧ s'.listOf 0 = some [] :=
  WindVerif.TmpPool.nothing_left_exit ops

/-- `remove` of a path the pool does not list raises `ValueError` (the file, if any, is gone anyway) -/
theorem remove_unlisted (s : Pool) (h : Inv s) (pid : Nat) (hp : pid < s.refs.length) (p : Path)
    (hnot : ∀ l, s.listOf 0 = some l → p ∉ l) : s.remove pid p = .error .valueError :=
  WindVerif.TmpPool.remove_unlisted s h pid hp p hnot

/-- inside the context every given path has an open handle; after leaving it (normally or by an exception: both call
`close()`) every handle that was opened is closed and the pool holds none -/
theorem filepool_open (files : List Nat) :
    (FPool.new files).open.handles = some (files.map (fun _ => true)) :=
  WindVerif.TmpPool.filepool_open files

theorem filepool_closed (files : List Nat) :
    let s := (FPool.new files).open.close
    s.handles = none ∧ s.closedLog.length = files.length ∧ ∀ b ∈ s.closedLog, b = false := by
  simp [FPool.new, FPool.open, FPool.close]

/-- non-vacuity: a child creates a file after the parent's flush; leaving the context removes it -/
example : (run Pool.new [.create 0, .fork 0, .flush 0, .create 1]).fs = [1] ∧
    (run Pool.new [.create 0, .fork 0, .flush 0, .create 1]).listOf 0 = some [1] := by decide

end WindVerif.C20

/-!
### FilePool when a file cannot be opened, and pools that are entered again

Model `Model/FilePoolFail.lean`, proofs `Proofs/FilePoolFail.lean`.  `open()` is
`self.file_handles = {f: open(f, mode) for f in self._files}`: when the k-th `open` raises the assignment does not happen and
the k handles opened so far are referenced by nobody — the pool never closes them.  This is the existing behaviour; it is
stated here (`enter_fail_state`, `leaked_stay_open`), not repaired.
-/
namespace WindVerif.C20
open WindVerif.FilePoolFail

/-- `open()` succeeds iff no path of the pool is missing -/
theorem enter_ok_iff (s : FP) : (fpEnter s).2 = .ok () ↔ ∀ p ∈ s.files, p ∉ s.missing :=
  WindVerif.FilePoolFail.enter_ok_iff s

/-- a failing `open()` raises `FileNotFoundError`, leaves the mapping as it was, and leaks exactly the handles of the paths
before the first missing one (they stay open) -/
theorem enter_fail_state (s : FP) (h : (fpEnter s).2 ≠ .ok ()) :
    ∃ pre p post, s.files = pre ++ p :: post ∧ p ∈ s.missing ∧ (∀ q ∈ pre, q ∉ s.missing) ∧
      (fpEnter s).2 = .error .fileNotFound ∧
      (fpEnter s).1.mapping = s.mapping ∧
      (fpEnter s).1.leaked = s.leaked ++ pre.zip (List.range' s.next pre.length) ∧
      (fpEnter s).1.openH = s.openH ++ List.range' s.next pre.length ∧
      (fpEnter s).1.next = s.next + pre.length ∧
      (fpEnter s).1.files = s.files ∧ (fpEnter s).1.missing = s.missing := by
  have hm : ¬ ∀ p ∈ s.files, p ∉ s.missing := fun h' => h ((WindVerif.FilePoolFail.enter_ok_iff s).mpr h')
  obtain ⟨hpre, he | ⟨p, post, he, hp⟩⟩ := prefixOk_cases s.missing s.files
  · exact absurd (he ▸ hpre) hm
  · rw [fpEnter_fail s hm]
    exact ⟨_, p, post, he, hp, hpre, rfl, rfl, rfl, rfl, rfl, rfl, rfl⟩

/-- a successful `open()`: the mapping's keys are the pool's paths, every handle in it was opened by this call and is open;
for distinct paths the mapping is the paths paired with fresh handles, in order -/
theorem enter_ok_state (s : FP) (h : (fpEnter s).2 = .ok ()) :
    ∃ d, (fpEnter s).1.mapping = some d ∧
      (∀ q, q ∈ d.map (·.1) ↔ q ∈ s.files) ∧
      (∀ ph ∈ d, s.next ≤ ph.2 ∧ ph.2 < (fpEnter s).1.next ∧ ph.2 ∈ (fpEnter s).1.openH) ∧
      (s.files.Nodup → d = s.files.zip (List.range' s.next s.files.length)) :=
  WindVerif.FilePoolFail.enter_ok_state s h

/-- any number of `__enter__` / `__exit__` rounds on a closed pool whose (distinct) files all exist: all calls succeed;
afterwards the mapping is reset, no handle of the rounds is open and nothing was leaked (the state is the old one but for the
count of handles ever opened) -/
theorem rounds_closed (n : Nat) (s : FP) (hm : s.mapping = none) (hok : ∀ p ∈ s.files, p ∉ s.missing)
    (hn : s.files.Nodup) (hb : ∀ h : Nat, h ∈ s.openH → h < s.next) :
    rounds n s = ({ s with next := s.next + n * s.files.length }, List.replicate (2 * n) (.ok ())) :=
  WindVerif.FilePoolFail.rounds_closed n s hm hok hn hb

/-- a fresh pool whose FIRST path is missing: `__enter__` raises and nothing is leaked; after the file has appeared the same
pool object serves any number of rounds, and then every handle is closed, the mapping reset, nothing leaked -/
theorem reenter_after_failure (p : Path) (rest missing : List Path) (n : Nat)
    (hp : p ∈ missing) (honly : ∀ q ∈ missing, q = p) (hn : (p :: rest).Nodup) :
    let s1 := fpEnter (FP.new (p :: rest) missing)
    s1.2 = .error .fileNotFound ∧ s1.1.mapping = none ∧ s1.1.openH = [] ∧ s1.1.leaked = [] ∧
    let s3 := rounds n (fpCreate s1.1 p)
    s3.2 = List.replicate (2 * n) (.ok ()) ∧ s3.1.mapping = none ∧ s3.1.openH = [] ∧ s3.1.leaked = [] ∧
      s3.1.next = n * (p :: rest).length :=
  WindVerif.FilePoolFail.reenter_after_failure p rest missing n hp honly hn

/-- whatever the history (failed and successful enters, exits, files appearing and disappearing): `close()` on an open pool
succeeds, resets the mapping and closes every handle the mapping held; exactly the leaked handles stay open -/
theorem exit_closes_all (files missing : List Path) (ops : List Op) (m : Dict)
    (hm : (run (FP.new files missing) ops).mapping = some m) :
    let s' := fpExit (run (FP.new files missing) ops)
    s'.2 = .ok () ∧ s'.1.mapping = none ∧ (∀ ph ∈ m, ph.2 ∉ s'.1.openH) ∧
      (∀ h, h ∈ s'.1.openH ↔ h ∈ vals (run (FP.new files missing) ops).leaked) ∧
      s'.1.leaked = (run (FP.new files missing) ops).leaked :=
  WindVerif.FilePoolFail.exit_closes_all files missing ops m hm

/-- existing behaviour, stated: a leaked handle is never closed by the pool -/
theorem leaked_stay_open (files missing : List Path) (ops : List Op) :
    ∀ ph ∈ (run (FP.new files missing) ops).leaked, ph.2 ∈ (run (FP.new files missing) ops).openH :=
  WindVerif.FilePoolFail.leaked_stay_open files missing ops

/-- `close()` on a pool that is not open (never opened, or its `open()` failed) raises `AttributeError`, nothing changes -/
theorem exit_not_open (s : FP) (hm : s.mapping = none) : (fpExit s).2 = .error .attributeError ∧ (fpExit s).1 = s := by
  rw [exit_none s hm]
  exact ⟨rfl, rfl⟩

/-- non-vacuity.  The second of three files is missing: the first handle is leaked; the file appears, the pool is entered
again and left: handle 0 is still open, the three new ones are closed -/
example : fpEnter (FP.new [10, 11, 12] [11]) =
    ({ files := [10, 11, 12], missing := [11], mapping := none, openH := [0], leaked := [(10, 0)], next := 1 },
      .error .fileNotFound) := by rfl
example : run (FP.new [10, 11, 12] [11]) [.enter, .create 11, .enter] =
    { files := [10, 11, 12], missing := [], mapping := some [(10, 1), (11, 2), (12, 3)], openH := [0, 1, 2, 3],
      leaked := [(10, 0)], next := 4 } := by decide
example : run (FP.new [10, 11, 12] [11]) [.enter, .create 11, .enter, .exit] =
    { files := [10, 11, 12], missing := [], mapping := none, openH := [0], leaked := [(10, 0)], next := 4 } := by decide
/-- the hypotheses of `reenter_after_failure` / `rounds_closed` on a concrete pool, and its conclusion for two rounds -/
example : (10 : Path) ∈ [10] ∧ (∀ q ∈ ([10] : List Path), q = 10) ∧ ([10, 11] : List Path).Nodup := by decide
example : (rounds 2 (fpCreate (fpEnter (FP.new [10, 11] [10])).1 10)).1 =
    { files := [10, 11], missing := [], mapping := none, openH := [], leaked := [], next := 4 } := by decide
/-- a path given twice: the handle that is overwritten in the dict is leaked although `open()` succeeded -/
example : run (FP.new [10, 10] []) [.enter, .exit] =
    { files := [10, 10], missing := [], mapping := none, openH := [0], leaked := [(10, 0)], next := 2 } := by decide

end WindVerif.C20

/-!
### TmpPool: entering and leaving the context as steps of the history (repair D21)

Model `Model/TmpPoolCtx.lean`, proofs `Proofs/TmpPoolCtx.lean`.  The history starts at the constructed pool (`Pool.new`: one
empty list, the owner references it); `enter` / `exit` are operations (`COp`, `applyC mp`, `runC mp`; `mp` is the pool's
`multi_proc` flag).  With `multi_proc`, `__enter__` rebinds the owner's list to a NEW manager list holding a copy of the old
content (`enter`; before the repair the new list was empty: `enterFresh`), `__exit__` flushes and rebinds the owner's list to a
new empty list.  `EnterAlone ops`: no `enter` / `exit` after a `fork` (the context is entered and left by a lone owner; children
are forked inside it).  `InvC` is `Inv` with "list object 0" replaced by "the owner's list object".
-/
namespace WindVerif.C20
open WindVerif.TmpPool WindVerif.TmpPoolCtx

/-- entering the context changes neither what the pool lists nor the disk -/
theorem enter_listing (mp : Bool) (s : Pool) (l : List Path) (h : s.listOf 0 = some l) :
    (enter mp s).listOf 0 = some l ∧ (enter mp s).fs = s.fs :=
  WindVerif.TmpPoolCtx.enter_listing mp s l h

theorem invC_new : InvC Pool.new :=
  invC_of_shape (shape_new false)

/-- `Inv` (one list object, every reference 0) is a special case of `InvC` -/
theorem invC_of_inv {s : Pool} (h : Inv s) : InvC s := by
  obtain ⟨l, -, hs⟩ := h.shape
  exact invC_of_shape hs

/-- every operation keeps the invariant; `enter` / `exit` when the owner is the only process -/
theorem invC_step (mp : Bool) (s : Pool) (op : COp) (h : InvC s)
    (hc : op = .enter ∨ op = .exit → s.refs.length = 1) : InvC (applyC mp s op) :=
  (invC_iff _).mpr (shape_step mp op ((invC_iff _).mp h) hc nofun).1

theorem invC_run (mp : Bool) (ops : List COp) (ha : EnterAlone ops) : InvC (runC mp Pool.new ops) :=
  WindVerif.TmpPoolCtx.invC_run mp ops ha

/-- after any history without outside interference in which the context is entered / left only by a lone owner, the pool
lists exactly the existing files -/
theorem listed_eq_existing_ctx (mp : Bool) (ops : List COp) (ha : EnterAlone ops) (hn : NoUnlinkC ops) :
    ∃ l, (runC mp Pool.new ops).listOf 0 = some l ∧ ∀ p, p ∈ l ↔ p ∈ (runC mp Pool.new ops).fs :=
  WindVerif.TmpPoolCtx.listed_eq_existing_ctx mp ops ha hn

/-- `__exit__` in any consistent state succeeds: nothing is left on disk; the owner and every other process list nothing -/
theorem exitCtx_nothing_left (mp : Bool) {s : Pool} (h : InvC s) :
    ∃ s', exitCtx mp s = .ok s' ∧ s'.fs = [] ∧ s'.listOf 0 = some [] ∧
      s'.refs.length = s.refs.length ∧ ∀ pid, pid < s.refs.length → s'.listOf pid = some [] :=
  WindVerif.TmpPoolCtx.exitCtx_nothing_left mp h

/-- after any history in which the context is entered / left only by a lone owner (files created before `__enter__`, children
forked inside the context creating files, files deleted from outside, an earlier `exit`, …): `__exit__` succeeds, no file of
the pool exists and nothing is listed -/
theorem nothing_left_exit_ctx (mp : Bool) (ops : List COp) (ha : EnterAlone ops) :
    ∃ s', exitCtx mp (runC mp Pool.new ops) = .ok s' ∧ s'.fs = [] ∧ s'.listOf 0 = some [] :=
  WindVerif.TmpPoolCtx.nothing_left_exit_ctx mp ops ha

/-- D21: files created before the context is entered are removed when it is left (`n` files before, `m` after) -/
theorem created_before_enter_removed (mp : Bool) (n m : Nat) :
    ∃ s', exitCtx mp (runC mp Pool.new
        (List.replicate n (.create 0) ++ [.enter] ++ List.replicate m (.create 0))) = .ok s' ∧
      s'.fs = [] ∧ s'.listOf 0 = some [] :=
  WindVerif.TmpPoolCtx.created_before_enter_removed mp n m

/-- … and before it is left these files are exactly the listed ones -/
theorem created_before_enter_listed (mp : Bool) (n m : Nat) :
    ∃ l, (runC mp Pool.new (List.replicate n (.create 0) ++ [.enter] ++ List.replicate m (.create 0))).listOf 0 = some l ∧
      ∀ p, p ∈ l ↔ p ∈ (runC mp Pool.new
        (List.replicate n (.create 0) ++ [.enter] ++ List.replicate m (.create 0))).fs :=
  WindVerif.TmpPoolCtx.listed_eq_existing_ctx mp _ (creates_enterAlone n m) (creates_noUnlink n m)

/-- the defect D21 (pre-repair `__enter__`), concrete: a `multi_proc` pool, a file is created, `enterFresh`, then the owner's
flush (what `__exit__` does): the file is not listed after `enterFresh` and still exists at the end -/
theorem enterFresh_forgets :
    let s1 := enterFresh true (runC true Pool.new [.create 0])
    s1.listOf 0 = some [] ∧ s1.fs = [0] ∧
      ∃ s', s1.flush 0 = .ok s' ∧ s'.fs = [0] ∧ s'.listOf 0 = some [] :=
  WindVerif.TmpPoolCtx.enterFresh_forgets

/-- the defect D21 in general: whatever was listed is forgotten by the pre-repair `__enter__` and stays on disk -/
theorem enterFresh_forgets_general (s : Pool) (l : List Path) (h : s.listOf 0 = some l) (hne : l ≠ []) :
    (enterFresh true s).listOf 0 = some [] ∧ (enterFresh true s).listOf 0 ≠ s.listOf 0 ∧
      (enterFresh true s).fs = s.fs := by
  obtain ⟨h1, h2⟩ := enterFresh_listing s l h
  refine ⟨h1, ?_, h2⟩
  rw [h1, h]
  exact fun hc => hne (Option.some.inj hc).symm

/-- a documented limit: the context entered while a child exists.  The child keeps the old list object; the file it creates
is not seen by the owner's `__exit__` and stays on disk -/
theorem enter_with_child_splits :
    let s := runC true Pool.new [.fork 0, .enter, .create 1]
    s.listOf 0 = some [] ∧ s.listOf 1 = some [0] ∧ ∃ s', exitCtx true s = .ok s' ∧ s'.fs = [0] :=
  WindVerif.TmpPoolCtx.enter_with_child_splits

/-- histories without `enter` / `exit` are the histories of `run` (so the theorems above extend those about `run`) -/
theorem runC_ofOp (mp : Bool) (s : Pool) (ops : List Op) : runC mp s (ops.map COp.ofOp) = run s ops :=
  WindVerif.TmpPoolCtx.runC_ofOp mp s ops

/-- non-vacuity: an `EnterAlone` history without `unlink`: a file before the context, forks after the enter, files created by
the children, a flush by a child, a failing `remove`; its state, and the state after `__exit__` -/
example : EnterAlone [.create 0, .enter, .fork 0, .create 1, .fork 1, .create 2, .remove 1 0, .create 0, .remove 2 7] ∧
    NoUnlinkC [.create 0, .enter, .fork 0, .create 1, .fork 1, .create 2, .remove 1 0, .create 0, .remove 2 7] := by decide
example : (runC true Pool.new [.create 0, .enter, .fork 0, .create 1, .fork 1, .create 2, .remove 1 0, .create 0,
      .remove 2 7]).fs = [1, 2, 3] ∧
    (runC true Pool.new [.create 0, .enter, .fork 0, .create 1, .fork 1, .create 2, .remove 1 0, .create 0,
      .remove 2 7]).listOf 0 = some [1, 2, 3] ∧
    (runC true Pool.new [.create 0, .enter, .fork 0, .create 1, .fork 1, .create 2, .remove 1 0, .create 0,
      .remove 2 7]).refs = [1, 1, 1] := by decide
/-- a pool that is entered, left and entered again, children only in the last round -/
example : EnterAlone [.create 0, .enter, .create 0, .exit, .create 0, .enter, .fork 0, .create 1, .unlink 2] := by decide
example : (runC true Pool.new [.create 0, .enter, .create 0, .exit, .create 0, .enter, .fork 0, .create 1, .unlink 2]).fs = [3] ∧
    (runC true Pool.new [.create 0, .enter, .create 0, .exit, .create 0, .enter, .fork 0, .create 1, .unlink 2]).listOf 1 =
      some [2, 3] := by decide
/-- `enter` after a `fork` is not `EnterAlone` (the history of `enter_with_child_splits`) -/
example : ¬ EnterAlone [.fork 0, .enter, .create 1] := by decide
/-- the side condition of `invC_step` on a concrete state, and the hypothesis of `enter_listing` -/
example : (runC true Pool.new [.create 0, .create 0]).refs.length = 1 ∧
    (runC true Pool.new [.create 0, .create 0]).listOf 0 = some [0, 1] := by decide
/-- D21 for two files before and two after the enter: all four exist before `__exit__` -/
example : (runC true Pool.new (List.replicate 2 (.create 0) ++ [.enter] ++ List.replicate 2 (.create 0))).fs = [0, 1, 2, 3] := by
  decide

end WindVerif.C20

/-!
### TmpPool: removals that the operating system refuses or that are interrupted

Model `Model/TmpPoolRefuse.lean`, proofs `Proofs/TmpPoolRefuse.lean`.  The pool (`Pool` of `Model/TmpPool.lean`) is carried beside a set of
*protected* paths (`PoolR.prot`): `os.remove` of an existing protected path raises (`PermissionError`; an interrupt is the same
transition).  `removeR` / `flushR` return the state after the call and how it ended (`Res`): a refused `remove` leaves before the
list is touched, a refused `flush` leaves the loop before the list is cleared.  Histories `ROp` (`applyR`, `runR`): the calls
by any process, files deleted by somebody else (`unlink`, not subject to the protection), `protect p` / `unprotect p` /
`unprotectAll`.  `InvR` is `Inv` of the pool.  `removeUnlistFirst` is a seeded variant (unlist first, then unlink).
-/
namespace WindVerif.C20
open WindVerif.TmpPool WindVerif.TmpPoolRefuse

/-- `remove(p)` refused: nothing changed; the file is protected and still exists -/
theorem refused_remove_keeps (s : PoolR) (pid : Nat) (p : Path) (h : (removeR s pid p).2 = .refused) :
    (removeR s pid p).1 = s ∧ p ∈ s.prot ∧ p ∈ s.pool.fs :=
  WindVerif.TmpPoolRefuse.refused_remove_keeps s pid p h

/-- … and in a consistent state it is still listed, so a later `flush()` / `__exit__` will remove it -/
theorem refused_remove_still_listed {s : PoolR} (h : InvR s) (pid : Nat) (p : Path)
    (hr : (removeR s pid p).2 = .refused) :
    p ∈ (removeR s pid p).1.pool.fs ∧ ∃ l, (removeR s pid p).1.pool.listOf 0 = some l ∧ p ∈ l := by
  obtain ⟨he, -, hfs⟩ := WindVerif.TmpPoolRefuse.refused_remove_keeps s pid p hr
  rw [he]
  obtain ⟨l, hl, -, hall⟩ := existing_listed_of_inv h
  exact ⟨hfs, l, hl, hall p hfs⟩

/-- `remove(p)` is refused exactly when a process of the pool asks for a protected existing file -/
theorem removeR_refused_iff (s : PoolR) (pid : Nat) (p : Path) :
    (removeR s pid p).2 = .refused ↔ s.pool.listOf pid ≠ none ∧ p ∈ s.prot ∧ p ∈ s.pool.fs :=
  WindVerif.TmpPoolRefuse.removeR_refused_iff s pid p

/-- when `os.remove` is not refused, `removeR` is `Pool.remove` (with what `applyOp` does on `ValueError`) -/
theorem removeR_not_refused (s : PoolR) (pid : Nat) (p : Path) (h : ¬ (p ∈ s.prot ∧ p ∈ s.pool.fs)) :
    removeR s pid p =
      match s.pool.remove pid p with
      | .ok s' => ({ s with pool := s' }, .ok)
      | .error .valueError => ({ s with pool := s.pool.unlink p }, .valueError)
      | .error .badProcess => (s, .badProcess) :=
  WindVerif.TmpPoolRefuse.removeR_not_refused s pid p h

/-- when no listed file is protected and existing, `flushR` is `Pool.flush` -/
theorem flushR_not_refused (s : PoolR) (pid : Nat)
    (h : ∀ l, s.pool.listOf pid = some l → ∀ x ∈ l, ¬ (x ∈ s.prot ∧ x ∈ s.pool.fs)) :
    flushR s pid =
      match s.pool.flush pid with
      | .ok s' => ({ s with pool := s' }, .ok)
      | .error _ => (s, .badProcess) :=
  WindVerif.TmpPoolRefuse.flushR_not_refused s pid h

theorem invR_new : InvR PoolR.new :=
  WindVerif.TmpPoolRefuse.invR_new

/-- every operation — refused ones included — keeps the invariant -/
theorem invR_step (s : PoolR) (op : ROp) (h : InvR s) : InvR (applyR s op) :=
  WindVerif.TmpPoolRefuse.invR_step s op h

theorem invR_run (ops : List ROp) : InvR (runR ops) :=
  WindVerif.TmpPoolRefuse.invR_run ops

/-- after any history every process sees one listing and every existing file of the pool is in it: nothing can be forgotten -/
theorem existing_listed_R (ops : List ROp) :
    ∃ l, (runR ops).pool.listOf 0 = some l ∧
      (∀ pid, pid < (runR ops).pool.refs.length → (runR ops).pool.listOf pid = some l) ∧
      ∀ p ∈ (runR ops).pool.fs, p ∈ l :=
  WindVerif.TmpPoolRefuse.existing_listed_R ops

/-- a consistent state in which no existing file is protected: `flush()` by any process succeeds and leaves nothing -/
theorem flushR_nothing_left {s : PoolR} (h : InvR s) {pid : Nat} (hp : pid < s.pool.refs.length)
    (hprot : ∀ p ∈ s.pool.fs, p ∉ s.prot) :
    ∃ s', flushR s pid = (s', .ok) ∧ s'.pool.fs = [] ∧ s'.pool.listOf 0 = some [] ∧ s'.prot = s.prot :=
  WindVerif.TmpPoolRefuse.flushR_nothing_left h hp hprot

/-- after any history (refused removals, refused flushes, files deleted by others, children): once the directory allows
removals again, leaving the context (`flush()` by the owner) succeeds, no file of the pool exists and nothing is listed -/
theorem nothing_left_after_unprotect (ops : List ROp) :
    ∃ s', flushR (unprotectAll (runR ops)) 0 = (s', .ok) ∧ s'.pool.fs = [] ∧ s'.pool.listOf 0 = some [] :=
  WindVerif.TmpPoolRefuse.nothing_left_after_unprotect ops

theorem nothing_left_after_unprotect_any (ops : List ROp) (pid : Nat) (hp : pid < (runR ops).pool.refs.length) :
    ∃ s', flushR (unprotectAll (runR ops)) pid = (s', .ok) ∧ s'.pool.fs = [] ∧ s'.pool.listOf 0 = some [] :=
  WindVerif.TmpPoolRefuse.nothing_left_after_unprotect_any ops pid hp

/-- a refused `flush()` leaves every process's listing exactly as it was (and the protected set); on disk only listed files
before the refused one are gone, none of them protected-and-existing; the refused file is protected and still exists -/
theorem flush_refused_keeps_list (s : PoolR) (pid : Nat) (h : (flushR s pid).2 = .refused) :
    (flushR s pid).1.pool.heap = s.pool.heap ∧ (flushR s pid).1.pool.refs = s.pool.refs ∧
    (flushR s pid).1.pool.fresh = s.pool.fresh ∧ (flushR s pid).1.prot = s.prot ∧
    (∀ pid', (flushR s pid).1.pool.listOf pid' = s.pool.listOf pid') ∧
    ∃ pre q post, s.pool.listOf pid = some (pre ++ q :: post) ∧ q ∈ s.prot ∧ q ∈ s.pool.fs ∧
      q ∈ (flushR s pid).1.pool.fs ∧ (∀ x ∈ pre, ¬ (x ∈ s.prot ∧ x ∈ s.pool.fs)) ∧
      (flushR s pid).1.pool.fs = s.pool.fs.filter (fun x => !pre.contains x) :=
  WindVerif.TmpPoolRefuse.flush_refused_keeps_list s pid h

/-- `flush()` that ended normally did what `Pool.flush` does -/
theorem flushR_ok (s : PoolR) (pid : Nat) (h : (flushR s pid).2 = .ok) :
    ∃ s', s.pool.flush pid = .ok s' ∧ (flushR s pid).1 = { s with pool := s' } := by
  rcases flushR_cases s pid with ⟨-, he⟩ | ⟨l, hl, -, he⟩ | ⟨_, _, _, -, -, -, -, -, he⟩
  · cases he ▸ h
  · rw [he]
    exact ⟨_, by simp only [Pool.flush, hl], rfl⟩
  · cases he ▸ h

/-- the seeded variant in general: in a consistent state, `removeUnlistFirst` of a protected existing file is refused, the file
still exists and no process lists it any more -/
theorem unlist_first_refused_forgets {s : PoolR} (h : InvR s) {pid : Nat} (hp : pid < s.pool.refs.length) (p : Path)
    (hprot : p ∈ s.prot) (hfs : p ∈ s.pool.fs) :
    (removeUnlistFirst s pid p).2 = .refused ∧ p ∈ (removeUnlistFirst s pid p).1.pool.fs ∧
      ∀ pid' l', (removeUnlistFirst s pid p).1.pool.listOf pid' = some l' → p ∉ l' :=
  WindVerif.TmpPoolRefuse.unlist_first_refused_forgets h hp p hprot hfs

/-- the witness.  A file is created and its directory becomes read-only.  `removeUnlistFirst` is refused, the file exists and
is not listed; when removals are allowed again, leaving the context leaves the file behind.  With `removeR` (the code) the same
history ends with an empty disk -/
theorem unlist_first_forgets :
    let s1 := runR [.create 0, .protect 0]
    let s2 := removeUnlistFirst s1 0 0
    s2.2 = .refused ∧ s2.1.pool.fs = [0] ∧ s2.1.pool.listOf 0 = some [] ∧
    (flushR (unprotectAll s2.1) 0).2 = .ok ∧ (flushR (unprotectAll s2.1) 0).1.pool.fs = [0] ∧
    let t2 := removeR s1 0 0
    t2.2 = .refused ∧ t2.1.pool.fs = [0] ∧ t2.1.pool.listOf 0 = some [0] ∧
    (flushR (unprotectAll t2.1) 0).2 = .ok ∧ (flushR (unprotectAll t2.1) 0).1.pool.fs = [] :=
  WindVerif.TmpPoolRefuse.unlist_first_forgets

/-- non-vacuity.  Three files, the second protected: `remove` of it is refused (hypothesis of `refused_remove_keeps`), of another
one is not (hypothesis of `removeR_not_refused`) -/
example : (removeR (runR [.create 0, .create 0, .create 0, .protect 1]) 0 1).2 = .refused ∧
    ¬ ((0 : Path) ∈ (runR [.create 0, .create 0, .create 0, .protect 1]).prot ∧
       (0 : Path) ∈ (runR [.create 0, .create 0, .create 0, .protect 1]).pool.fs) ∧
    (removeR (runR [.create 0, .create 0, .create 0, .protect 1]) 0 0).2 = .ok := by decide
/-- a refused `flush()` (hypothesis of `flush_refused_keeps_list`): file 0 is gone, 1 and 2 stay, all three stay listed -/
example : (flushR (runR [.create 0, .create 0, .create 0, .protect 1]) 0).2 = .refused ∧
    (flushR (runR [.create 0, .create 0, .create 0, .protect 1]) 0).1.pool.fs = [1, 2] ∧
    (flushR (runR [.create 0, .create 0, .create 0, .protect 1]) 0).1.pool.listOf 0 = some [0, 1, 2] := by decide
/-- a history with a child, a refused flush by the child, a refused remove, a file deleted by somebody else although it is
protected, a protected file that no longer exists; its state, and the state after `unprotectAll` + the owner's flush -/
example : (runR [.create 0, .fork 0, .create 1, .create 0, .protect 1, .protect 2, .flushR 1, .removeR 0 1, .unlink 2,
      .create 1, .removeR 1 2]).pool.fs = [1, 3] ∧
    (runR [.create 0, .fork 0, .create 1, .create 0, .protect 1, .protect 2, .flushR 1, .removeR 0 1, .unlink 2,
      .create 1, .removeR 1 2]).pool.listOf 0 = some [0, 1, 3] ∧
    (runR [.create 0, .fork 0, .create 1, .create 0, .protect 1, .protect 2, .flushR 1, .removeR 0 1, .unlink 2,
      .create 1, .removeR 1 2]).prot = [2, 1] ∧
    (flushR (unprotectAll (runR [.create 0, .fork 0, .create 1, .create 0, .protect 1, .protect 2, .flushR 1, .removeR 0 1,
      .unlink 2, .create 1, .removeR 1 2])) 0).1.pool.fs = [] := by decide
/-- the hypotheses of `flushR_nothing_left` / `flushR_not_refused`: a protected path that does not exist refuses nothing -/
example : (∀ p ∈ (runR [.create 0, .create 0, .protect 0, .unlink 0]).pool.fs,
      p ∉ (runR [.create 0, .create 0, .protect 0, .unlink 0]).prot) ∧
    1 < (runR [.create 0, .fork 0]).pool.refs.length ∧
    (flushR (runR [.create 0, .create 0, .protect 0, .unlink 0]) 0).2 = .ok := by decide
/-- the hypotheses of `unlist_first_refused_forgets` -/
example : (0 : Path) ∈ (runR [.create 0, .protect 0]).prot ∧ (0 : Path) ∈ (runR [.create 0, .protect 0]).pool.fs ∧
    0 < (runR [.create 0, .protect 0]).pool.refs.length := by decide

end WindVerif.C20
