import WindVerif.Proofs.ScanSteps
/-!
# C17 — sorted_combinations is complete and key-ordered; min-combination search exact

The property theorems; what nothing else needs is proved in place, the rest in `Proofs/CombosK.lean`, `Proofs/Combos.lean`,
`Proofs/ScanSteps.lean`.  Elements are the indices `0..n-1`, the key is the sum of
non-negative scores (monotone under appending).  The theorems use only that `heappop` returns an entry of minimal key, so
they do not depend on the tie-breaks among equal keys.
-/
namespace WindVerif.C17
open WindVerif.Generic

/-- `sorted_combinations` yields every non-empty combination exactly once -/
theorem combos_complete (scores : List Nat) :
    ((sortedCombinations scores).map (·.1)).Perm (allCombos scores.length) :=
  WindVerif.Generic.combos_complete scores

/-- the key yielded alongside is the key of the combination -/
theorem combos_keys (scores : List Nat) (p : List Nat × Nat) (hp : p ∈ sortedCombinations scores) :
    p.2 = scoreSum scores p.1 :=
  WindVerif.Generic.combos_keys scores p hp

/-- in non-decreasing key order -/
theorem combos_sorted (scores : List Nat) : ((sortedCombinations scores).map (·.2)).Pairwise (· ≤ ·) :=
  WindVerif.Generic.combos_sorted scores

/-- the search returns exactly the combinations whose score sum is the smallest sum lying in `[i_start, i_end)`, each
once and with that sum; hence the empty list when no combination falls in the interval -/
theorem minComb_spec (scores : List Nat) (iStart iEnd : Int) (c : List Nat) (k : Nat) :
    (c, k) ∈ minCombinations scores iStart iEnd ↔
      (c ∈ allCombos scores.length ∧ k = scoreSum scores c ∧ iStart ≤ (k : Int) ∧ (k : Int) < iEnd ∧
        ∀ c' ∈ allCombos scores.length, iStart ≤ (scoreSum scores c' : Int) → (scoreSum scores c' : Int) < iEnd →
          k ≤ scoreSum scores c') :=
  WindVerif.Generic.minComb_spec scores iStart iEnd c k

theorem minComb_nodup (scores : List Nat) (iStart iEnd : Int) : (minCombinations scores iStart iEnd).Nodup :=
  WindVerif.Generic.minComb_nodup scores iStart iEnd

/-- every non-empty index combination exactly once, whatever the element values are (ties among the queue tuples are broken
through the values, completeness does not depend on it) -/
theorem combosV_complete (val : Nat → Nat) (scores : List Nat) :
    ((sortedCombinationsV val scores).map (·.1)).Perm (allCombos scores.length) :=
  WindVerif.Generic.combosV_complete val scores

theorem combosV_keys (val : Nat → Nat) (scores : List Nat) (p : List Nat × Nat)
    (hp : p ∈ sortedCombinationsV val scores) : p.2 = scoreSum scores p.1 :=
  WindVerif.Generic.combosV_keys val scores p hp

theorem combosV_sorted (val : Nat → Nat) (scores : List Nat) :
    ((sortedCombinationsV val scores).map (·.2)).Pairwise (· ≤ ·) :=
  WindVerif.Generic.combosV_sorted val scores

/-- a direct call on elements with repeats, key = sum: the yielded value tuples are the value tuples of all non-empty index
combinations, each once (as a multiset) -/
theorem combosE_complete (elems : List Nat) :
    ((sortedCombinationsE elems).map (·.1)).Perm
      ((allCombos elems.length).map (fun c => c.map (fun i => elems.getD i 0))) :=
  WindVerif.Generic.combosE_complete elems

/-- the key alongside is the sum of the yielded tuple -/
theorem combosE_keys (elems : List Nat) (p : List Nat × Nat) (hp : p ∈ sortedCombinationsE elems) :
    p.2 = p.1.sum := by
  simp only [sortedCombinationsE, List.mem_map] at hp
  obtain ⟨p', hp', rfl⟩ := hp
  exact combosV_keys _ elems p' hp'

theorem combosE_sorted (elems : List Nat) : ((sortedCombinationsE elems).map (·.2)).Pairwise (· ≤ ·) := by
  have h := combosV_sorted (fun i => elems.getD i 0) elems
  simpa [sortedCombinationsE, List.map_map, Function.comp_def] using h

/-- non-vacuity: `sorted_combinations([1, 2, 1], sum)` — 7 tuples, the repeated value keeps both its occurrences -/
example : (sortedCombinationsE [1, 2, 1]).map (·.1) = [[1], [1], [2], [1, 1], [1, 2], [2, 1], [1, 2, 1]] := by decide +kernel

/-! ### an ARBITRARY key (on index combinations; `sortedCombinationsK`, `Model/GenericK.lean`)

The property quantifies over every key that never decreases when an element is appended (`KeyMono`).  Completeness and the
key alongside hold for any key whatsoever; the key order needs exactly `KeyMono`; the score-sum model above is the instance
`key = scoreSum scores`. -/

/-- every non-empty index combination exactly once, for ANY key and any element values -/
theorem combosK_complete (val : Nat → Nat) (key : List Nat → Nat) (n : Nat) :
    ((sortedCombinationsK val key n).map (·.1)).Perm (allCombos n) :=
  WindVerif.Generic.combosK_complete val key n

/-- the key yielded alongside is the key of the combination -/
theorem combosK_keys (val : Nat → Nat) (key : List Nat → Nat) (n : Nat) (p : List Nat × Nat)
    (hp : p ∈ sortedCombinationsK val key n) : p.2 = key p.1 :=
  WindVerif.Generic.combosK_keys val key n p hp

/-- in non-decreasing key order, for every key that never decreases when an element is appended -/
theorem combosK_sorted (val : Nat → Nat) (key : List Nat → Nat) (n : Nat) (h : KeyMono key) :
    ((sortedCombinationsK val key n).map (·.2)).Pairwise (· ≤ ·) :=
  WindVerif.Generic.combosK_sorted val key n h

/-- the same without `yield_key`: the yielded combinations are in non-decreasing order of their keys -/
theorem combosK_sorted_by_key (val : Nat → Nat) (key : List Nat → Nat) (n : Nat) (h : KeyMono key) :
    (((sortedCombinationsK val key n).map (·.1)).map key).Pairwise (· ≤ ·) := by
  have e : ∀ p ∈ sortedCombinationsK val key n, (key ∘ Prod.fst) p = p.2 :=
    fun p hp => (combosK_keys val key n p hp).symm
  rw [List.map_map, List.map_congr_left e]
  exact combosK_sorted val key n h

/-- the score-sum model of the theorems above is the instance `key = scoreSum scores` -/
theorem combosK_sum (val : Nat → Nat) (scores : List Nat) :
    sortedCombinationsK val (scoreSum scores) scores.length = sortedCombinationsV val scores :=
  WindVerif.Generic.combosK_sum val scores

/-- the hypothesis of `combosK_sorted` is needed: a key that decreases under appending, with an unsorted key sequence -/
theorem combosK_needs_mono :
    ∃ (key : List Nat → Nat) (n : Nat), ¬ KeyMono key ∧
      ¬ ((sortedCombinationsK (fun i => i) key n).map (·.2)).Pairwise (· ≤ ·) :=
  WindVerif.Generic.combosK_needs_mono

/-- non-vacuity of `KeyMono`: the key families of the driver meet it (none of them is the score sum but `keySum`) -/
example : KeyMono (keySpread [5, 1, 2]) ∧ KeyMono (keyMax [5, 1, 2]) ∧ KeyMono (keyDistinct [4, 4, 7]) ∧
    KeyMono keyLen ∧ KeyMono (keyConst 7) ∧ KeyMono (keySum [5, 1, 2]) :=
  ⟨keySpread_mono _, keyMax_mono _, keyDistinct_mono _, keyLen_mono, keyConst_mono _, keySum_mono _⟩

/-- non-vacuity: the spread key (max − min) on the scores [5, 1, 2] — not additive; (0, 2) with key 3 comes before (0, 1)
with key 4, where the score sums are 7 and 6 -/
example : sortedCombinationsK (fun i => i) (keySpread [5, 1, 2]) 3 =
    [([0], 0), ([1], 0), ([2], 0), ([1, 2], 1), ([0, 2], 3), ([0, 1], 4), ([0, 1, 2], 4)] := by decide +kernel

/-- non-vacuity: the number of distinct scores, scores [4, 4, 7] -/
example : sortedCombinationsK (fun i => i) (keyDistinct [4, 4, 7]) 3 =
    [([0], 1), ([1], 1), ([2], 1), ([0, 1], 1), ([0, 2], 2), ([1, 2], 2), ([0, 1, 2], 2)] := by decide +kernel

/-- the counterexample of `combosK_needs_mono` spelled out: keys 2, 1, 2 -/
example : sortedCombinationsK (fun i => i) (fun c => 3 - c.length) 2 = [([0], 2), ([0, 1], 1), ([1], 2)] := by decide +kernel

/-- non-vacuity -/
example : allCombos 2 = [[1], [0], [0, 1]] := by decide +kernel

/-! ### how far `min_combinations_in_interval_iter_sorted` walks into the stream (`Model/ScanSteps.lean`)

`scanSteps iStart iEnd res stream` counts the stream elements the loop pulls (the one on which it breaks included);
`minCombinationsSteps scores iStart iEnd` is the count for the anchored call (stream = `sortedCombinations scores`). -/

/-- the loop with both outputs `(result, elements pulled)` is `minCombScan` together with `scanSteps`: the count is taken
on the very scan the result theorems above speak about -/
theorem scan_steps_result (iStart iEnd : Int) (stream res : List (List Nat × Nat)) :
    minCombScanSteps iStart iEnd res stream = (minCombScan iStart iEnd res stream, scanSteps iStart iEnd res stream) :=
  WindVerif.Generic.scan_steps_result iStart iEnd stream res

/-- never more than the stream holds -/
theorem steps_le_length (iStart iEnd : Int) (stream res : List (List Nat × Nat)) :
    scanSteps iStart iEnd res stream ≤ stream.length :=
  WindVerif.Generic.steps_le_length iStart iEnd stream res

/-- the interval ends at or below the first sum of the stream: the loop breaks on the first element (one element pulled),
nothing is returned -/
theorem early_exit_first (iStart iEnd : Int) (stream : List (List Nat × Nat)) (p : List Nat × Nat)
    (hhead : stream.head? = some p) (hend : iEnd ≤ (p.2 : Int)) :
    scanSteps iStart iEnd [] stream = 1 ∧ minCombScan iStart iEnd [] stream = [] :=
  WindVerif.Generic.early_exit_first iStart iEnd stream p hhead hend

/-- non-vacuity: an inverted interval `[9, 3)` below the sums 5, 7 -/
example : ([([0], 5), ([1], 7)] : List (List Nat × Nat)).head? = some ([0], 5) ∧ (3 : Int) ≤ ((([0], 5) : List Nat × Nat).2 : Int) := by
  decide +kernel

/-- in a stream sorted by sum the first element carries the least sum (so "at or below the first sum" is "at or below the
least sum") -/
theorem sorted_head_least (stream : List (List Nat × Nat)) (p : List Nat × Nat)
    (hsorted : (stream.map (·.2)).Pairwise (· ≤ ·)) (hhead : stream.head? = some p) : ∀ q ∈ stream, p.2 ≤ q.2 := by
  cases stream with
  | nil => simp at hhead
  | cons x r =>
    obtain rfl : x = p := by simpa using hhead
    exact List.forall_mem_cons.2 ⟨Nat.le_refl _, (sorted_cons.1 hsorted).1⟩

/-- the interval ends at or below every sum of a non-empty stream: one element pulled, nothing returned -/
theorem early_exit_below_all (iStart iEnd : Int) (stream : List (List Nat × Nat)) (hne : stream ≠ [])
    (hend : ∀ p ∈ stream, iEnd ≤ (p.2 : Int)) :
    scanSteps iStart iEnd [] stream = 1 ∧ minCombScan iStart iEnd [] stream = [] :=
  WindVerif.Generic.early_exit_below_all iStart iEnd stream hne hend

example : ([([0], 5), ([1], 7)] : List (List Nat × Nat)) ≠ [] ∧
    ∀ p ∈ ([([0], 5), ([1], 7)] : List (List Nat × Nat)), (3 : Int) ≤ (p.2 : Int) := by decide +kernel

/-- sorted stream holding a sum in the interval, `k` the least such sum (`LeastIn`): the loop pulls the elements with a sum
`≤ k` and one more — the first larger sum, on which it breaks — or the whole stream when there is no larger sum -/
theorem exit_after_min_block (iStart iEnd : Int) (l : List (List Nat × Nat)) (k : Nat)
    (hsorted : (l.map (·.2)).Pairwise (· ≤ ·)) (hleast : LeastIn iStart iEnd l k) :
    scanSteps iStart iEnd [] l = min (l.countP (fun p => decide (p.2 ≤ k)) + 1) l.length :=
  WindVerif.Generic.exit_after_min_block iStart iEnd l k hsorted hleast

/-- … a larger sum exists: the sums `≤ k` and the first larger one -/
theorem exit_after_min_block_larger (iStart iEnd : Int) (l : List (List Nat × Nat)) (k : Nat)
    (hsorted : (l.map (·.2)).Pairwise (· ≤ ·)) (hleast : LeastIn iStart iEnd l k) (hlarger : ∃ p ∈ l, k < p.2) :
    scanSteps iStart iEnd [] l = l.countP (fun p => decide (p.2 ≤ k)) + 1 :=
  WindVerif.Generic.exit_after_min_block_larger iStart iEnd l k hsorted hleast hlarger

/-- … no larger sum: the whole stream -/
theorem exit_after_min_block_all (iStart iEnd : Int) (l : List (List Nat × Nat)) (k : Nat)
    (hsorted : (l.map (·.2)).Pairwise (· ≤ ·)) (hleast : LeastIn iStart iEnd l k) (hall : ∀ p ∈ l, p.2 ≤ k) :
    scanSteps iStart iEnd [] l = l.length := by
  rw [exit_after_min_block iStart iEnd l k hsorted hleast]
  have : l.countP (fun p => decide (p.2 ≤ k)) = l.length := by
    rw [List.countP_eq_length]
    intro p hp
    simpa using hall p hp
  omega

/-- every element the loop looks at, except the last one, has a sum `≤` the least sum in the interval -/
theorem inspected_le_min (iStart iEnd : Int) (l : List (List Nat × Nat)) (k : Nat)
    (hsorted : (l.map (·.2)).Pairwise (· ≤ ·)) (hleast : LeastIn iStart iEnd l k) :
    ∀ p ∈ l.take (scanSteps iStart iEnd [] l - 1), p.2 ≤ k := by
  intro p hp
  have hle : scanSteps iStart iEnd [] l - 1 ≤ l.countP (fun p => decide (p.2 ≤ k)) := by
    rw [exit_after_min_block iStart iEnd l k hsorted hleast]; omega
  have hsub : (l.take (scanSteps iStart iEnd [] l - 1)).Sublist (l.take (l.countP (fun p => decide (p.2 ≤ k)))) :=
    (List.take_sublist_take_left hle)
  exact take_countP_le k l hsorted p (hsub.subset hp)

/-- non-vacuity: sums 1, 3, 3, 4, 6 and the interval `[2, 10)`: least sum in the interval 3, a larger sum exists; 4 of the 5
elements are pulled -/
example : (([([0], 1), ([1], 3), ([2], 3), ([0, 1], 4), ([0, 2], 6)] : List (List Nat × Nat)).map (·.2)).Pairwise (· ≤ ·) ∧
    LeastIn 2 10 [([0], 1), ([1], 3), ([2], 3), ([0, 1], 4), ([0, 2], 6)] 3 ∧
    (∃ p ∈ ([([0], 1), ([1], 3), ([2], 3), ([0, 1], 4), ([0, 2], 6)] : List (List Nat × Nat)), 3 < p.2) ∧
    scanSteps 2 10 [] [([0], 1), ([1], 3), ([2], 3), ([0, 1], 4), ([0, 2], 6)] = 4 := by
  unfold LeastIn; decide +kernel

/-- non-vacuity (no larger sum): sums 1, 3, 3 -/
example : LeastIn 2 10 [([0], 1), ([1], 3), ([2], 3)] 3 ∧
    (∀ p ∈ ([([0], 1), ([1], 3), ([2], 3)] : List (List Nat × Nat)), p.2 ≤ 3) ∧
    scanSteps 2 10 [] [([0], 1), ([1], 3), ([2], 3)] = 3 := by
  unfold LeastIn; decide +kernel

/-- sorted stream with NO sum in the interval: the loop pulls the sums below `iEnd` and one more (the first sum `≥ iEnd`),
or the whole stream when every sum is below `iEnd` -/
theorem exit_at_interval_end (iStart iEnd : Int) (l : List (List Nat × Nat))
    (hsorted : (l.map (·.2)).Pairwise (· ≤ ·))
    (hnone : ∀ y ∈ l, ¬ (iStart ≤ (y.2 : Int) ∧ (y.2 : Int) < iEnd)) :
    scanSteps iStart iEnd [] l = min (l.countP (fun p => decide ((p.2 : Int) < iEnd)) + 1) l.length :=
  WindVerif.Generic.exit_at_interval_end iStart iEnd l hsorted hnone

/-- non-vacuity: sums 1, 3, 7, 9 and the interval `[4, 6)`: 3 of the 4 elements are pulled -/
example : (([([0], 1), ([1], 3), ([2], 7), ([0, 1], 9)] : List (List Nat × Nat)).map (·.2)).Pairwise (· ≤ ·) ∧
    (∀ y ∈ ([([0], 1), ([1], 3), ([2], 7), ([0, 1], 9)] : List (List Nat × Nat)), ¬ ((4 : Int) ≤ (y.2 : Int) ∧ (y.2 : Int) < 6)) ∧
    scanSteps 4 6 [] [([0], 1), ([1], 3), ([2], 7), ([0, 1], 9)] = 3 := by decide +kernel

/-- `min_combinations_in_interval_iter_sorted` with an interval that ends at or below the least score (inverted and empty
intervals there included): ONE combination is pulled from `sorted_combinations`, nothing is returned -/
theorem min_combinations_inverted_interval_steps (scores : List Nat) (iStart iEnd : Int) (hne : scores ≠ [])
    (hend : ∀ x ∈ scores, iEnd ≤ (x : Int)) :
    minCombinationsSteps scores iStart iEnd = 1 ∧ minCombinations scores iStart iEnd = [] :=
  WindVerif.Generic.min_combinations_inverted_interval_steps scores iStart iEnd hne hend

/-- the same with the least score named through `List.min?` -/
theorem min_combinations_inverted_interval_steps_min (scores : List Nat) (iStart iEnd : Int) (m : Nat)
    (hmin : scores.min? = some m) (hend : iEnd ≤ (m : Int)) :
    minCombinationsSteps scores iStart iEnd = 1 ∧ minCombinations scores iStart iEnd = [] :=
  WindVerif.Generic.min_combinations_inverted_interval_steps_min scores iStart iEnd m hmin hend

/-- non-vacuity: scores [3, 2, 5], interval `[100, 2)` -/
example : ([3, 2, 5] : List Nat) ≠ [] ∧ (∀ x ∈ ([3, 2, 5] : List Nat), (2 : Int) ≤ (x : Int)) ∧
    ([3, 2, 5] : List Nat).min? = some 2 ∧ minCombinationsSteps [3, 2, 5] 100 2 = 1 := by decide +kernel

/-- any interval: at most all the combinations -/
theorem min_combinations_steps_le (scores : List Nat) (iStart iEnd : Int) :
    minCombinationsSteps scores iStart iEnd ≤ (sortedCombinations scores).length :=
  steps_le_length iStart iEnd _ []

/-- the early exit matters.  `scanStepsNoEarly` tests `i_end <= comb_score` only for sums `≥ i_start`: on the scores
`[1, 1, 1, 1]` and the interval `[100, 0)` it walks all 15 combinations where the loop breaks on the first one; the results
are the same (nothing) -/
theorem early_exit_witness :
    scanSteps 100 0 [] (sortedCombinations [1, 1, 1, 1]) = 1 ∧
    scanStepsNoEarly 100 0 [] (sortedCombinations [1, 1, 1, 1]) = 15 ∧
    (sortedCombinations [1, 1, 1, 1]).length = 15 ∧
    (minCombScanNoEarly 100 0 [] (sortedCombinations [1, 1, 1, 1])).1 = minCombinations [1, 1, 1, 1] 100 0 :=
  WindVerif.Generic.early_exit_witness

end WindVerif.C17
