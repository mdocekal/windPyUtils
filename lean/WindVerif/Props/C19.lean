import WindVerif.Proofs.Generic
import WindVerif.Proofs.GenericEq
import WindVerif.Proofs.BatcherLazy
/-!
# C19 — Generic sequence helpers equal their brute-force definitions

The property theorems; what nothing else needs is proved in place, the rest in `Proofs/Roman.lean` (the greedy table read block
by block, for every `n`), `Proofs/Generic.lean`, `Proofs/GenericEq.lean`, `Proofs/BatcherLazy.lean`.
-/
namespace WindVerif.C19
open WindVerif.Generic

theorem roman_canonical (n : Nat) (h1 : 1 ≤ n) (h2 : n ≤ 3999) : int2roman n = canonical n :=
  WindVerif.Generic.roman_canonical n h1 h2

theorem roman_roundtrip (n : Nat) (h1 : 1 ≤ n) (h2 : n ≤ 3999) : roman2int (int2roman n) = .ok (n : Int) :=
  WindVerif.Generic.roman_roundtrip n h1 h2

/-- and the other way round: on the numerals of 1..3999 `int_2_roman ∘ roman_2_int` is the identity -/
theorem roman_inverse (n : Nat) (h1 : 1 ≤ n) (h2 : n ≤ 3999) :
    ∃ v : Int, roman2int (canonical n) = .ok v ∧ int2roman v.toNat = canonical n :=
  WindVerif.Generic.roman_inverse n h1 h2

theorem argSort_perm (xs : List Int) (rev : Bool) : (argSort xs rev).Perm (List.range xs.length) :=
  WindVerif.Generic.argSort_perm xs rev

theorem argSort_sorted (xs : List Int) : ((argSort xs false).map (keyAt xs)).Pairwise (· ≤ ·) :=
  List.pairwise_map.2 ((argSort_pairwise xs false).imp fun h => by simpa [argLe] using h)

theorem argSort_sorted_rev (xs : List Int) : ((argSort xs true).map (keyAt xs)).Pairwise (· ≥ ·) :=
  List.pairwise_map.2 ((argSort_pairwise xs true).imp fun h => by simpa [argLe] using h)

/-- equal keys keep their index order, also with `reverse=True` -/
theorem argSort_stable (xs : List Int) (rev : Bool) :
    (argSort xs rev).Pairwise (fun i j => keyAt xs i = keyAt xs j → i < j) :=
  WindVerif.Generic.argSort_stable xs rev

theorem subSeq_iff (s1 s2 : List Int) : subSeq s1 s2 = true ↔ s1 <:+: s2 :=
  WindVerif.Generic.subSeq_iff s1 s2

theorem searchSubSeq_empty (s1 s2 : List Int) (h : s1 = [] ∨ s2 = []) : searchSubSeq s1 s2 = .error .valueError := by
  unfold searchSubSeq
  rcases h with rfl | rfl <;> simp

theorem searchSubSeq_spec (s1 s2 : List Int) (h1 : s1 ≠ []) (h2 : s2 ≠ []) :
    ∃ l, searchSubSeq s1 s2 = .ok l ∧
      (∀ o e, (o, e) ∈ l ↔ (e = o + s1.length ∧ e ≤ s2.length ∧ window s2 o s1.length = s1)) ∧
      (l.map (·.1)).Pairwise (· < ·) :=
  WindVerif.Generic.searchSubSeq_spec s1 s2 h1 h2

theorem comparePos_iff (a b : List Int) : comparePos a b = true ↔ a.Perm b :=
  WindVerif.Generic.comparePos_iff a b

theorem batcherLen_ceil (n b : Nat) (hb : 0 < b) : batcherLen n b = n / b + (if n % b = 0 then 0 else 1) :=
  WindVerif.Generic.batcherLen_ceil n b hb

theorem batcher_concat (data : List Int) (b : Nat) (hb : 0 < b) :
    ((List.range (batcherLen data.length b)).map (batchAt data b)).flatten = data := by
  rw [flatten_batches]
  apply List.take_of_length_le
  have := not_congr (lt_batcherLen_iff data.length b (batcherLen data.length b) hb)
  omega

/-- all batches have size `batch_size` except possibly a shorter, non-empty last one -/
theorem batcher_sizes (data : List Int) (b i : Nat) (hb : 0 < b) (hi : i < batcherLen data.length b) :
    (i + 1 < batcherLen data.length b → (batchAt data b i).length = b) ∧
    0 < (batchAt data b i).length ∧ (batchAt data b i).length ≤ b := by
  rw [lt_batcherLen_iff _ _ _ hb] at hi
  rw [lt_batcherLen_iff _ _ _ hb, Nat.succ_mul]
  simp only [batchAt, List.length_take, List.length_drop]
  omega

theorem batcherGet_spec (data : List Int) (b i : Nat) :
    (i < batcherLen data.length b → batcherGet data b i = .ok (batchAt data b i)) ∧
    (batcherLen data.length b ≤ i → batcherGet data b i = .error .indexError) := by
  unfold batcherGet batchAt
  constructor
  · intro h; rw [if_neg (by omega)]
  · intro h; rw [if_pos h]

theorem batcherIter_eq (data : List Int) (b : Nat) (hb : 0 < b) :
    batcherIter data b = (List.range (batcherLen data.length b)).map (batchAt data b) :=
  WindVerif.Generic.batcherIter_eq data b hb

/-- batching a `range(n)` object by arithmetic on its bounds is batching the list `0..n-1` -/
theorem batcherGetRange_spec (n b i : Nat) (hb : 0 < b) (hi : i < batcherLen n b) :
    ∃ s e, batcherGetRange n b i = .ok (s, e) ∧ s ≤ e ∧
      List.range' s (e - s) = ((List.range n).drop (i * b)).take b :=
  WindVerif.Generic.batcherGetRange_spec n b i hb hi

theorem batcherNew_spec (lens : List Nat) (b : Int) :
    batcherNew lens b = .ok () ↔ ((∀ x ∈ lens, ∀ y ∈ lens, x = y) ∧ 0 < b) :=
  WindVerif.Generic.batcherNew_spec lens b

/-- non-vacuity -/
example : int2roman 1994 = "MCMXCIV".toList ∧ canonical 3999 = "MMMCMXCIX".toList := by decide +kernel
example : batcherLen (2 ^ 53 + 1) 1 = 2 ^ 53 + 1 := by decide +kernel
example : comparePos [1, 2, 2] [2, 1, 2] = true ∧ subSeq [1, 2] [0, 1, 2, 3] = true := by decide +kernel

/-- a tuple of two iterables is batched in lock-step and stops with the shorter one: the batches are exactly the batches of the
two inputs cut to the common length, paired up -/
theorem batcherIterPair_spec (xs ys : List Int) (b : Nat) (hb : 0 < b) :
    batcherIterPair xs ys b =
      (batcherIter (xs.take (min xs.length ys.length)) b).zip (batcherIter (ys.take (min xs.length ys.length)) b) :=
  WindVerif.Generic.batcherIterPair_spec xs ys b hb

/-- … and the two batch lists have the same shape (so nothing is lost by the `zip` above) -/
theorem batcherIterPair_shape (xs ys : List Int) (b : Nat) (hb : 0 < b) :
    (batcherIter (xs.take (min xs.length ys.length)) b).map List.length =
      (batcherIter (ys.take (min xs.length ys.length)) b).map List.length :=
  WindVerif.Generic.batcherIterPair_shape xs ys b hb

/-- non-vacuity: `BatcherIter(([1,2,3], [7,8,9,10]), 2)` -/
example : batcherIterPair [1, 2, 3] [7, 8, 9, 10] 2 = [([1, 2], [7, 8]), ([3], [9])] := by decide +kernel

/-! ### sub_seq / search_sub_seq over arbitrary elements: the windows are compared with "identical or equal"

Elements are object identities (`Nat`); `eqv a b` is the outcome of the elements' own `a == b`, an arbitrary relation (not
assumed reflexive, symmetric or transitive); `pyEq eqv a b = (a == b || eqv a b)` is CPython's item comparison inside
`list == list` (definitions in `Model/GenericEq.lean`, proofs in `Proofs/GenericEq.lean`). -/

/-- `list == list`: same length and the items pairwise identical or equal -/
theorem listEq_iff (eqv : Nat → Nat → Bool) (a b : List Nat) :
    listEq eqv a b = true ↔
      (a.length = b.length ∧ ∀ i (ha : i < a.length) (hb : i < b.length), pyEq eqv a[i] b[i] = true) :=
  WindVerif.Generic.listEq_iff eqv a b

/-- `sub_seq` is true iff some window of `s2` equals `s1` in that sense -/
theorem subSeqE_iff (eqv : Nat → Nat → Bool) (s1 s2 : List Nat) :
    subSeqE eqv s1 s2 = true ↔
      ∃ o, o + s1.length ≤ s2.length ∧ listEq eqv s1 (windowN s2 o s1.length) = true :=
  WindVerif.Generic.subSeqE_iff eqv s1 s2

/-- `search_sub_seq` raises (`ValueError`) exactly when one of the sequences is empty -/
theorem searchSubSeqE_error_iff (eqv : Nat → Nat → Bool) (s1 s2 : List Nat) :
    (∃ e, searchSubSeqE eqv s1 s2 = .error e) ↔ (s1 = [] ∨ s2 = []) := by
  rw [searchSubSeqE_eq, ← List.length_eq_zero_iff, ← List.length_eq_zero_iff]
  split <;> rename_i h
  · exact ⟨fun _ => h, fun _ => ⟨_, rfl⟩⟩
  · refine ⟨?_, fun h' => absurd h' h⟩
    rintro ⟨e, he⟩
    split at he <;> cases he

theorem searchSubSeqE_empty (eqv : Nat → Nat → Bool) (s1 s2 : List Nat) (h : s1 = [] ∨ s2 = []) :
    searchSubSeqE eqv s1 s2 = .error .valueError := by
  rw [searchSubSeqE_eq]
  rcases h with rfl | rfl <;> simp

/-- … and otherwise returns exactly the `(start, end)` pairs of the matching windows, ascending, each once -/
theorem searchSubSeqE_spec (eqv : Nat → Nat → Bool) (s1 s2 : List Nat) (h1 : s1 ≠ []) (h2 : s2 ≠ []) :
    ∃ l, searchSubSeqE eqv s1 s2 = .ok l ∧
      (∀ o e, (o, e) ∈ l ↔
        (e = o + s1.length ∧ e ≤ s2.length ∧ listEq eqv s1 (windowN s2 o s1.length) = true)) ∧
      (l.map (·.1)).Pairwise (· < ·) :=
  WindVerif.Generic.searchSubSeqE_spec eqv s1 s2 h1 h2

/-- a pattern that occurs as the same objects is always found, whatever the elements' `==` is (NaN: not equal to itself) -/
theorem subSeqE_of_infix (eqv : Nat → Nat → Bool) (s1 s2 : List Nat) (h : s1 <:+: s2) : subSeqE eqv s1 s2 = true := by
  obtain ⟨s, t, rfl⟩ := h
  refine (subSeqE_iff eqv s1 _).mpr ⟨s.length, by simp, ?_⟩
  rw [windowN_infix]
  exact listEq_refl eqv s1

theorem searchSubSeqE_of_infix (eqv : Nat → Nat → Bool) (s s1 t : List Nat) (h1 : s1 ≠ []) :
    ∃ l, searchSubSeqE eqv s1 (s ++ s1 ++ t) = .ok l ∧ (s.length, s.length + s1.length) ∈ l := by
  have h2 : s ++ s1 ++ t ≠ [] := by simp [h1]
  obtain ⟨l, hl, hm, _⟩ := searchSubSeqE_spec eqv s1 (s ++ s1 ++ t) h1 h2
  refine ⟨l, hl, (hm _ _).mpr ⟨rfl, by simp, ?_⟩⟩
  rw [windowN_infix]
  exact listEq_refl eqv s1

/-- for elements compared by their value (`val` = the payload of an object) the functions over objects are the functions
over values … -/
theorem agree_with_old (val : Nat → Int) (s1 s2 : List Nat) :
    subSeqE (fun a b => val a == val b) s1 s2 = subSeq (s1.map val) (s2.map val) ∧
    searchSubSeqE (fun a b => val a == val b) s1 s2 = searchSubSeq (s1.map val) (s2.map val) :=
  ⟨subSeqE_agree_with_old val s1 s2, searchSubSeqE_agree_with_old val s1 s2⟩

/-- … and every input of the functions over values is of that form -/
theorem lists_are_images (l1 l2 : List Int) :
    ∃ (val : Nat → Int) (s1 s2 : List Nat), s1.map val = l1 ∧ s2.map val = l2 :=
  WindVerif.Generic.lists_are_images l1 l2

/-- testing the first elements with plain `==` before comparing the window is NOT equivalent: object 0 is a NaN, the pattern
`[0]` occurs in `[5, 0]` as the same object -/
theorem first_element_pretest_wrong :
    subSeqE (nanEq 1) [0] [5, 0] = true ∧ subSeqPre (nanEq 1) [0] [5, 0] = false := by decide +kernel

/-- non-vacuity: objects 0 and 1 are NaNs (equal to nothing), 2.. are compared by value; an irreflexive, a non-symmetric
relation; the hypotheses of `searchSubSeqE_spec` / `subSeqE_of_infix` / `searchSubSeqE_of_infix` on concrete inputs -/
example : searchSubSeqE (nanEq 2) [0, 2] [0, 2, 1, 2, 0, 2] = .ok [(0, 2), (4, 6)] ∧
    subSeqE (nanEq 2) [1, 2] [0, 2, 1, 2] = true ∧ subSeqE (nanEq 2) [1, 2] [0, 2, 0, 2] = false :=
  ⟨by rfl, by decide, by decide⟩
example : ([0, 2] : List Nat) ≠ [] ∧ ([0, 2, 1, 2, 0, 2] : List Nat) ≠ [] := by decide +kernel
example : ([0] : List Nat) <:+: [5, 0] := ⟨[5], [], rfl⟩
example : subSeqE (fun a b => decide (a < b)) [1, 2] [0, 2, 3] = true ∧
    subSeqE (fun a b => decide (a < b)) [2, 3] [0, 1, 2] = false := by decide +kernel
example : searchSubSeqE (nanEq 1) [] [0] = .error .valueError ∧ searchSubSeqE (nanEq 1) [0] [] = .error .valueError ∧
    searchSubSeqE (nanEq 1) [0, 0] [0] = .ok [] := ⟨by rfl, by rfl, by rfl⟩

/-! ### BatcherIter as a lazy consumer of its source

`Model/BatcherLazy.lean`: the generator as a state machine advanced one `next()` call at a time over a source `⟨items, fails⟩`
(`fails`: the pull after the last item raises instead of ending the iteration).  `BatcherLazy.take b src k` = the outcomes of the first
`k` calls (`batch l` / `stop` = StopIteration / `raised` = the source's exception) and the state afterwards (`pulled` = number of items
taken from the source so far).  The constructor rejects `batch_size ≤ 0`: hypothesis `0 < b`.  `takeAhead` is the same for a variant
that holds a full batch back until one more item has been pulled. -/

/-- no read-ahead: when the `j`-th full batch is handed over exactly `j * b` items have been pulled, and the batches so far are the
consecutive slices of the source -/
theorem lazy_pulled (items : List Int) (fails : Bool) (b j : Nat) (hb : 0 < b) (hj : j * b ≤ items.length) :
    (BatcherLazy.take b ⟨items, fails⟩ j).2.pulled = j * b ∧
    (BatcherLazy.take b ⟨items, fails⟩ j).1 =
      (List.range j).map (fun i => BatcherLazy.Outcome.batch ((items.drop (i * b)).take b)) :=
  WindVerif.BatcherLazy.lazy_pulled items fails b j hb hj

/-- … and nothing is held back inside the generator between two calls -/
theorem lazy_clean (items : List Int) (fails : Bool) (b j : Nat) (hb : 0 < b) (hj : j * b ≤ items.length) :
    (BatcherLazy.take b ⟨items, fails⟩ j).2 = ⟨j * b, [], false⟩ := by
  rw [BatcherLazy.take_full items fails b hb j hj]

/-- a source that ends normally: calling `next` yields exactly the batches of the list model `batcherIter`, then `stop` for ever, and
the number of items pulled is the length of the source -/
theorem agrees_with_list (items : List Int) (b k : Nat) (hb : 0 < b) :
    (BatcherLazy.take b ⟨items, false⟩ ((batcherIter items b).length + k)).1 =
      (batcherIter items b).map BatcherLazy.Outcome.batch ++ List.replicate k BatcherLazy.Outcome.stop ∧
    (BatcherLazy.take b ⟨items, false⟩ ((batcherIter items b).length + k)).2.pulled = items.length :=
  WindVerif.BatcherLazy.agrees_with_list items b k hb

/-- a source that raises after its items: all `items.length / b` complete batches are handed over first (in particular the last one
when `items.length % b = 0`), then the exception passes through, then `stop` for ever -/
theorem failing_source_batches (items : List Int) (b k : Nat) (hb : 0 < b) :
    (BatcherLazy.take b ⟨items, true⟩ (items.length / b + 1 + k)).1 =
      (List.range (items.length / b)).map (fun i => BatcherLazy.Outcome.batch ((items.drop (i * b)).take b))
        ++ BatcherLazy.Outcome.raised :: List.replicate k BatcherLazy.Outcome.stop ∧
    (BatcherLazy.take b ⟨items, true⟩ (items.length / b + 1 + k)).2.pulled = items.length :=
  WindVerif.BatcherLazy.failing_source_batches items b k hb

/-- the read-ahead variant gives the same batches over a source that ends normally (reading to the end cannot see the difference) … -/
theorem ahead_same_list (items : List Int) (b k : Nat) (hb : 0 < b) :
    (BatcherLazy.takeAhead b ⟨items, false⟩ ((batcherIter items b).length + k)).1 =
      (batcherIter items b).map BatcherLazy.Outcome.batch ++ List.replicate k BatcherLazy.Outcome.stop ∧
    (BatcherLazy.takeAhead b ⟨items, false⟩ ((batcherIter items b).length + k)).1 =
      (BatcherLazy.take b ⟨items, false⟩ ((batcherIter items b).length + k)).1 := by
  have h := BatcherLazy.takeAhead_outcomes b items false items 0 [] k rfl
  simp only [BatcherLazy.aheadOuts, Bool.false_eq_true, if_false, List.length_map, BatcherLazy.aheadGo_batcherIter items b hb] at h
  exact ⟨h, by rw [(agrees_with_list items b k hb).1]; exact h⟩

/-- … but it has pulled one item too many whenever it hands over a batch that is followed by another item -/
theorem ahead_pulled (items : List Int) (fails : Bool) (b j : Nat) (hb : 0 < b) (h1 : 1 ≤ j) (hj : j * b + 1 ≤ items.length) :
    (BatcherLazy.takeAhead b ⟨items, fails⟩ j).2.pulled = j * b + 1 ∧ (BatcherLazy.take b ⟨items, fails⟩ j).2.pulled = j * b := by
  obtain ⟨i, rfl⟩ : ∃ i, j = i + 1 := ⟨j - 1, by omega⟩
  rw [BatcherLazy.takeAhead_state items fails b hb i hj]
  exact ⟨rfl, (lazy_pulled items fails b (i + 1) hb (by omega)).1⟩

/-- … and over a source that raises it hands over all batches of the list but the last one, complete or not -/
theorem ahead_failing_batches (items : List Int) (b k : Nat) (hb : 0 < b) :
    (BatcherLazy.takeAhead b ⟨items, true⟩ ((batcherIter items b).dropLast.length + (1 + k))).1 =
      (batcherIter items b).dropLast.map BatcherLazy.Outcome.batch
        ++ BatcherLazy.Outcome.raised :: List.replicate k BatcherLazy.Outcome.stop := by
  have h := BatcherLazy.takeAhead_outcomes b items true items 0 [] k rfl
  simp only [BatcherLazy.aheadOuts, if_true, List.length_append, List.length_map, List.length_singleton, Nat.add_assoc,
    List.append_assoc, List.singleton_append, BatcherLazy.aheadGo_batcherIter items b hb] at h
  exact h

/-- that is one complete batch fewer than the real code (`failing_source_batches`) when the items fill the batches exactly -/
theorem ahead_failing_count (items : List Int) (b : Nat) (hb : 0 < b) (h0 : items.length % b = 0) (hpos : 0 < items.length) :
    (batcherIter items b).dropLast.length + 1 = items.length / b := by
  rw [List.length_dropLast, batcherIter_eq items b hb, List.length_map, List.length_range, Generic.batcherLen_ceil _ _ hb, if_pos h0,
    Nat.add_zero]
  have : 0 < items.length / b := Nat.div_pos (Nat.le_of_dvd hpos (Nat.dvd_of_mod_eq_zero h0)) hb
  omega

/-- witness, items `[0,1,2,3]`, `b = 2`: after the first batch the variant has pulled 3 items (and holds `2` back), the code 2 -/
theorem ahead_reads_ahead :
    (BatcherLazy.takeAhead 2 ⟨[0, 1, 2, 3], false⟩ 1) = ([.batch [0, 1]], ⟨3, [2], false⟩) ∧
    (BatcherLazy.take 2 ⟨[0, 1, 2, 3], false⟩ 1) = ([.batch [0, 1]], ⟨2, [], false⟩) := by decide +kernel

/-- witness, the same items over a source that raises: the variant hands over `[0,1]` only, the code `[0,1]` and `[2,3]` -/
theorem ahead_loses_batch :
    (BatcherLazy.takeAhead 2 ⟨[0, 1, 2, 3], true⟩ 5).1 = [.batch [0, 1], .raised, .stop, .stop, .stop] ∧
    (BatcherLazy.take 2 ⟨[0, 1, 2, 3], true⟩ 5).1 = [.batch [0, 1], .batch [2, 3], .raised, .stop, .stop] := by decide +kernel

/-- non-vacuity: the hypotheses of `lazy_pulled` / `lazy_clean` / `ahead_pulled` / `ahead_failing_count` on concrete sources, and the
machine on sources with a short last batch, over a failing source, and with `b = 1` -/
example : 0 < 2 ∧ 2 * 2 ≤ ([0, 1, 2, 3, 4] : List Int).length ∧ 1 ≤ 2 ∧ 2 * 2 + 1 ≤ ([0, 1, 2, 3, 4] : List Int).length := by decide +kernel
example : 0 < 2 ∧ ([0, 1, 2, 3] : List Int).length % 2 = 0 ∧ 0 < ([0, 1, 2, 3] : List Int).length := by decide +kernel
example : BatcherLazy.take 2 ⟨[0, 1, 2, 3, 4], false⟩ 2 = ([.batch [0, 1], .batch [2, 3]], ⟨4, [], false⟩) ∧
    BatcherLazy.takeAhead 2 ⟨[0, 1, 2, 3, 4], false⟩ 2 = ([.batch [0, 1], .batch [2, 3]], ⟨5, [4], false⟩) := by decide +kernel
example : BatcherLazy.take 2 ⟨[0, 1, 2, 3, 4], false⟩ 5 =
    ([.batch [0, 1], .batch [2, 3], .batch [4], .stop, .stop], ⟨5, [], true⟩) := by decide +kernel
example : BatcherLazy.take 2 ⟨[0, 1, 2, 3, 4], true⟩ 4 = ([.batch [0, 1], .batch [2, 3], .raised, .stop], ⟨5, [], true⟩) := by decide +kernel
example : (BatcherLazy.take 1 ⟨[7, 8], true⟩ 3).1 = [.batch [7], .batch [8], .raised] ∧
    (BatcherLazy.takeAhead 1 ⟨[7, 8], true⟩ 3).1 = [.batch [7], .raised, .stop] := by decide +kernel
example : (BatcherLazy.take 3 ⟨[], false⟩ 2) = ([.stop, .stop], ⟨0, [], true⟩) ∧
    (BatcherLazy.take 3 ⟨[], true⟩ 2) = ([.raised, .stop], ⟨0, [], true⟩) := by decide +kernel

end WindVerif.C19
