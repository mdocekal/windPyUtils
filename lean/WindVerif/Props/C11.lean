import WindVerif.Proofs.LineFile
import WindVerif.Proofs.LineFileSeq
/-!
# C11 — Line files: indexing, slicing and iteration return exactly the file's lines

The property theorems.  What several of them rest on is proved in `Proofs/LineFile.lean`, `Proofs/LineFileSeq.lean`,
`Proofs/LineFilePure.lean`; a property that nothing else needs is proved here.  `refLines content` is
`content.split('\n')` without the empty piece a final `'\n'` leaves; `Good f ls` says the file object presents the
list `ls` — a statement that does not mention the handle's cursor, which is why interleaved random accesses and several
live iterations cannot disturb each other: every read re-establishes `Good` (`SameButCursor`) and returns `ls[p]`.
The buffered and the memory-mapped variant are both tied to this one model by the correspondence check.
-/
namespace WindVerif.C11
open WindVerif.LineFile

/-- the built index has one entry per `'\n'`-delimited line (an unterminated last line counts, a final `'\n'` adds none),
every offset is on a character boundary and is the start of the corresponding line -/
theorem indexFile_spec (content : Str) :
    (indexFile content).length = (refLines content).length ∧
    ∀ i, i < (refLines content).length →
      ∃ o, (indexFile content)[i]? = some o ∧ lineAt content o = (refLines content)[i]? :=
  LineFile.indexFile_spec content

theorem new_good (content : Str) : Good (LF.new content none) (refLines content) :=
  new_custom_good content _ _ (indexFile_lines content)

/-- a caller-supplied offset index (any subset or permutation of line starts) is honoured -/
theorem new_custom_good (content : Str) (offs : List Nat) (ls : List Str)
    (h : offs.map (lineAt content) = ls.map some) : Good (LF.new content (some offs)) ls :=
  LineFile.new_custom_good content offs ls h

theorem new_state (content : Str) (custom : Option (List Nat)) :
    (LF.new content custom).dirty = false ∧ (LF.new content custom).closed = true ∧
    (LF.new content custom).content = content := ⟨rfl, rfl, rfl⟩

theorem open_good (f : LF) (ls : List Str) (h : Good f ls) :
    Good f.open ls ∧ f.open.closed = false ∧ f.open.dirty = f.dirty ∧ f.open.content = f.content :=
  LineFile.open_good f ls h

/-- reading position `p` returns `ls[p]` whatever the cursor is, and moves nothing but the cursor -/
theorem getPos_spec (f : LF) (ls : List Str) (h : Good f ls) (p : Nat) (l : Str) (hp : ls[p]? = some l) :
    ∃ f', f.getPos p = .ok (f', l) ∧ SameButCursor f f' :=
  LineFile.getPos_spec f ls h p l hp

/-- `f[i]` for an `int`: like a list, positive and negative `i`; `IndexError` outside; `RuntimeError` when closed -/
theorem getInt_spec (f : LF) (ls : List Str) (h : Good f ls) (i : Int) :
    (f.closed = true → f.getInt i = .error .runtimeError) ∧
    (f.closed = false → match Py.index ls.length i with
      | some p => ∃ f' l, ls[p]? = some l ∧ f.getInt i = .ok (f', l) ∧ SameButCursor f f'
      | none => f.getInt i = .error .indexError) :=
  LineFile.getInt_spec f ls h i

/-- an iterable of indices selects like a list -/
theorem getIter_spec (f : LF) (ls : List Str) (h : Good f ls) (hc : f.closed = false) (sel : List Int) :
    (∀ ps, sel.mapM (Py.index ls.length) = some ps →
      ∃ f' out, f.getIter sel = .ok (f', out) ∧ out.map some = ps.map (ls[·]?) ∧ SameButCursor f f') ∧
    (sel.mapM (Py.index ls.length) = none → f.getIter sel = .error .indexError) :=
  LineFile.getIter_spec f ls h hc sel

/-- `range(len)[slice]` only enumerates valid positions -/
theorem sliceIndices_lt (len : Nat) (s : Py.Slice) (idx : List Nat) (h : Py.sliceIndices len s = some idx) :
    ∀ p ∈ idx, p < len :=
  LineFile.sliceIndices_lt len s idx h

/-- a slice selects the positions `range(len)[slice]` enumerates -/
theorem getSlice_spec (f : LF) (ls : List Str) (h : Good f ls) (hc : f.closed = false) (s : Py.Slice) :
    (∀ idx, Py.sliceIndices ls.length s = some idx → (∀ p ∈ idx, p < ls.length) →
      ∃ f' out, f.getSlice s = .ok (f', out) ∧ out.map some = idx.map (ls[·]?) ∧ SameButCursor f f') ∧
    (Py.sliceIndices ls.length s = none → f.getSlice s = .error .valueError) :=
  LineFile.getSlice_spec f ls h hc s

/-- one step of an iteration that has started: the `pos`-th line whatever happened to the handle in between (random
accesses, other iterations), then `StopIteration` -/
theorem iterNext_spec (f : LF) (ls : List Str) (h : Good f ls) (it : Iter) (hs : it.started = true)
    (ht : it.total = ls.length) :
    (∀ l, ls[it.pos]? = some l →
      ∃ f', f.iterNext it = .ok (f', { it with pos := it.pos + 1 }, some l) ∧ SameButCursor f f') ∧
    (it.total ≤ it.pos → f.iterNext it = .ok (f, it, none)) :=
  LineFile.iterNext_spec f ls h it hs ht

/-- the first step fixes the length (and needs an open file) -/
theorem iterNext_start (f : LF) (it : Iter) (hs : it.started = false) :
    (f.closed = true → f.iterNext it = .error .runtimeError) ∧
    (f.closed = false → f.iterNext it = f.iterNext ⟨true, 0, f.lines.length⟩) :=
  ⟨fun hc => by simp [LF.iterNext, hs, hc], fun hc => by simp [LF.iterNext, hs, hc]⟩

theorem good_of_same (f f' : LF) (ls : List Str) (h : Good f ls) (hs : SameButCursor f f') : Good f' ls :=
  LineFile.good_of_same f f' ls h hs

/-- non-vacuity: multi-byte content, an empty line, no final newline -/
example : refLines "é\n\nz".toList = ["é".toList, [], "z".toList] ∧ lineAt "é\n\nz".toList 3 = some [] ∧
    lineAt "é\n\nz".toList 1 = none := by decide +kernel

/-!
## The inherited `collections.abc.Sequence` interface: `index`, `count`, `in`, `reversed`

Model `Model/LineFileSeq.lean` (the mixin methods as `_collections_abc.py` writes them, over `f[i]` and the overridden
`__iter__`), proofs `Proofs/LineFileSeq.lean`, reference `Core/PyListSeq.lean` (`Py.pyListIndex` = `list.index`).
-/

/-- what `list.index(v, start, stop)` returns: the first position in `[start', min(stop', len))` that holds `v`, where a
negative bound counts from the end and is clamped to 0 (`Py.idxLo` / `Py.idxHi`) -/
theorem pyListIndex_eq_some_iff {α} [DecidableEq α] (l : List α) (v : α) (start stop : Option Int) (k : Nat) :
    Py.pyListIndex l v start stop = some k ↔
      Py.idxLo l.length start ≤ k ∧ k < Py.idxHi l.length stop ∧ l[k]? = some v ∧
      ∀ j, Py.idxLo l.length start ≤ j → j < k → l[j]? ≠ some v :=
  Py.pyListIndex_eq_some_iff l v start stop k

/-- … and when it raises `ValueError` -/
theorem pyListIndex_eq_none_iff {α} [DecidableEq α] (l : List α) (v : α) (start stop : Option Int) :
    Py.pyListIndex l v start stop = none ↔
      ∀ j, Py.idxLo l.length start ≤ j → j < Py.idxHi l.length stop → l[j]? ≠ some v :=
  Py.pyListIndex_eq_none_iff l v start stop

/-- `f.index(v, start, stop)` on an opened file is `ls.index(v, start, stop)` of the presented list — the same position,
and `ValueError` exactly when the list raises it — for every `start` / `stop`, negative and out of range included -/
theorem lfIndex_spec (f : LF) (ls : List Str) (h : Good f ls) (hc : f.closed = false) (v : Str)
    (start stop : Option Int) :
    match Py.pyListIndex ls v start stop with
    | some k => ∃ f', lfIndex f v start stop = .ok (f', k) ∧ SameButCursor f f'
    | none => lfIndex f v start stop = .error .valueError :=
  LineFile.lfIndex_spec f ls h hc v start stop

/-- on a closed file `index` raises `RuntimeError` as soon as it reads an item — not when the normalised bounds are
empty (`stop` given and `start' ≥ stop'`): then the loop is not entered and it is `ValueError` -/
theorem lfIndex_closed (f : LF) (hc : f.closed = true) (v : Str) (start stop : Option Int) :
    lfIndex f v start stop =
      if seqBelow (seqStop f.lines.length stop) (seqStart f.lines.length start) then .error .runtimeError
      else .error .valueError := by
  unfold lfIndex lfIndexGo
  rw [getInt_closed hc]

/-- the fuel of the `index` loop suffices on every file -/
theorem lfIndexGo_fuel (v : Str) (stop : Option Int) (fuel : Nat) (f : LF) (p : Nat) (h : f.lines.length - p < fuel) :
    lfIndexGo f v stop fuel p = lfIndexGo f v stop (f.lines.length - p + 1) p :=
  LineFile.lfIndexGo_fuel v stop fuel f p h

/-- `f.count(v)` on an opened file: `ls.count(v)` -/
theorem lfCount_spec (f : LF) (ls : List Str) (h : Good f ls) (hc : f.closed = false) (v : Str) :
    ∃ f', lfCount f v = .ok (f', ls.count v) ∧ SameButCursor f f' :=
  LineFile.lfCount_spec f ls h hc v

theorem lfCount_closed (f : LF) (hc : f.closed = true) (v : Str) : lfCount f v = .error .runtimeError := by
  rw [lfCount, if_pos hc]

/-- `v in f` on an opened file: `v in ls` -/
theorem lfContains_iff (f : LF) (ls : List Str) (h : Good f ls) (hc : f.closed = false) (v : Str) :
    ∃ f' b, lfContains f v = .ok (f', b) ∧ (b = true ↔ v ∈ ls) ∧ SameButCursor f f' :=
  LineFile.lfContains_iff f ls h hc v

theorem lfContains_closed (f : LF) (hc : f.closed = true) (v : Str) : lfContains f v = .error .runtimeError := by
  rw [lfContains, if_pos hc]

/-- `list(reversed(f))` on an opened file: the presented list reversed -/
theorem lfReversed_spec (f : LF) (ls : List Str) (h : Good f ls) (hc : f.closed = false) :
    ∃ f', lfReversed f = .ok (f', ls.reverse) ∧ SameButCursor f f' :=
  LineFile.lfReversed_spec f ls h hc

/-- on a closed file `reversed` raises `RuntimeError` at its first item; without lines there is no first item:
`list(reversed(f)) == []` -/
theorem lfReversed_closed (f : LF) (hc : f.closed = true) :
    (f.lines ≠ [] → lfReversed f = .error .runtimeError) ∧ (f.lines = [] → lfReversed f = .ok (f, [])) := by
  refine ⟨fun hne => ?_, fun he => by rw [lfReversed, he]; rfl⟩
  obtain ⟨n, hn⟩ := Nat.exists_eq_add_one_of_ne_zero (mt List.eq_nil_of_length_eq_zero hne)
  rw [lfReversed, hn, lfReversedGo, getInt_closed hc]

/-- non-vacuity: the hypotheses on a concrete opened file (three lines, a duplicate, multi-byte content) … -/
example : Good (LF.new "é
b
é
".toList (some [0, 3, 5])).open ["é".toList, "b".toList, "é".toList] ∧
    (LF.new "é
b
é
".toList (some [0, 3, 5])).open.closed = false :=
  ⟨(LineFile.open_good _ _ (LineFile.new_custom_good _ _ _ (by decide +kernel))).1, rfl⟩

/-- … and what the inherited methods compute on it: `index` with a negative start, an empty range, an absent value;
`count`, `in`, `reversed`; and the closed file (`RuntimeError`, but `ValueError` for empty bounds) -/
example :
    let f := (LF.new "é
b
é
".toList (some [0, 3, 5])).open
    (lfIndex f "é".toList none none).toOption.map (·.2) = some 0 ∧
    (lfIndex f "é".toList (some (-2)) none).toOption.map (·.2) = some 2 ∧
    (lfIndex f "é".toList (some 1) (some (-1))).toOption.map (·.2) = none ∧
    Py.pyListIndex ["é".toList, "b".toList, "é".toList] "é".toList (some (-2)) none = some 2 ∧
    Py.pyListIndex ["é".toList, "b".toList, "é".toList] "é".toList (some 1) (some (-1)) = none ∧
    (lfCount f "é".toList).toOption.map (·.2) = some 2 ∧
    (lfContains f "b".toList).toOption.map (·.2) = some true ∧
    (lfContains f "x".toList).toOption.map (·.2) = some false ∧
    (lfReversed f).toOption.map (·.2) = some ["é".toList, "b".toList, "é".toList] ∧
    (match lfIndex f.close "é".toList none none with | .error .runtimeError => true | _ => false) = true ∧
    (match lfIndex f.close "é".toList (some 2) (some 1) with | .error .valueError => true | _ => false) = true := by
  decide +kernel

end WindVerif.C11
