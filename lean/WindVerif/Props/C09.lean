import WindVerif.Proofs.Sorted
import WindVerif.Proofs.SortedCopy
import WindVerif.Proofs.SortedMixins
import WindVerif.Proofs.SortedPartial
/-!
# C09 — SortedSet / SortedMap stay sorted, duplicate-free and equivalent to set / dict

The property theorems; the longer proofs are in `Proofs/Sorted.lean`.  `Strict` = strictly ascending.  For the set, the content after
each operation is characterised by membership (`y ∈ setAdd s v ↔ y = v ∨ y ∈ s`, …), which together with `Strict` and
`strict_unique` determines the list — i.e. iteration equals the sorted elements of the builtin set driven by the same
operations.  For the map, `mapLookup` is the dict it stands for.  A foreign probe (a value whose comparison with a
number raises `TypeError`) is reported absent by pure functions of the state, so nothing can be corrupted.
-/
namespace WindVerif.C09
open WindVerif.Sorted

/-- two strictly ascending lists with the same elements are the same list: the iteration order of a sorted set is
determined by its content -/
theorem strict_unique (a b : List Int) (ha : Strict a) (hb : Strict b) (h : ∀ y, y ∈ a ↔ y ∈ b) : a = b :=
  Sorted.strict_unique a b ha hb h

/-- on a strictly ascending list the real `bisect_left` loop returns the number of smaller elements -/
theorem bisect_exact (a : List Int) (x : Int) (h : Strict a) :
    bisectLeftNum a x = (a.filter (· < x)).length :=
  Sorted.bisect_exact a x h

theorem insertionsIndex_num (a : List Int) (x : Int) (h : Strict a) :
    insertionsIndex a (.num x) = .ok ((a.filter (· < x)).length, decide (x ∈ a)) :=
  Sorted.insertionsIndex_num a x h

theorem setInit_strict (vals : List Int) : Strict (setInit vals) :=
  Sorted.setInit_strict vals

theorem setInit_mem (vals : List Int) (y : Int) : y ∈ setInit vals ↔ y ∈ vals :=
  Sorted.setInit_mem vals y

theorem setAdd_strict (s : List Int) (v : Int) (h : Strict s) : Strict (setAdd s v) :=
  Sorted.setAdd_strict s v h

theorem setAdd_mem (s : List Int) (v y : Int) (h : Strict s) : y ∈ setAdd s v ↔ (y = v ∨ y ∈ s) :=
  Sorted.setAdd_mem s v y h

theorem setDiscard_strict (s : List Int) (v : Int) (h : Strict s) : Strict (setDiscard s v) :=
  Sorted.setDiscard_strict s v h

theorem setDiscard_mem (s : List Int) (v y : Int) (h : Strict s) : y ∈ setDiscard s v ↔ (y ≠ v ∧ y ∈ s) :=
  Sorted.setDiscard_mem s v y h

theorem setContains_num (s : List Int) (v : Int) (h : Strict s) : setContains s (.num v) = decide (v ∈ s) :=
  Sorted.setContains_num s v h

/-- a probe that cannot be ordered against the content is reported absent (and nothing is modified: `setContains` is a
pure function of the content) -/
theorem setContains_foreign (s : List Int) : setContains s .foreign = false := by
  cases s <;> rfl

theorem setRemove_spec (s : List Int) (v : Int) (h : Strict s) :
    (v ∈ s → setRemove s v = .ok (setDiscard s v)) ∧ (v ∉ s → setRemove s v = .error .keyError) := by
  unfold setRemove
  rw [setContains_num s v h]
  exact ⟨fun hm => by rw [decide_eq_true hm]; rfl, fun hm => by rw [decide_eq_false hm]; rfl⟩

theorem setPop_spec (s : List Int) (h : Strict s) :
    match s with
    | [] => setPop s = .error .keyError
    | v :: r => setPop s = .ok (r, v) :=
  Sorted.setPop_spec s h

theorem setClear_spec (s : List Int) (h : Strict s) : setClear (s.length + 1) s = [] :=
  Sorted.setClear_spec s h

theorem mapInit_wf (pairs : List (Int × Nat)) : MapWf (mapInit pairs) :=
  ⟨strict_mergeSort (fun p : Int × Nat => p.1) (dictOf [] pairs) (dictOf_nodup [] pairs .nil), by simp [mapInit]⟩

/-- initial pairs behave like `dict(pairs)`: the last pair of a key wins -/
theorem mapInit_lookup (pairs : List (Int × Nat)) (k : Int) :
    mapLookup (mapInit pairs) k = pairs.reverse.lookup k :=
  Sorted.mapInit_lookup pairs k

theorem mapGet_num (m : SMap) (k : Int) (h : MapWf m) :
    mapGet m (.num k) = (match mapLookup m k with | some v => .ok v | none => .error .keyError) :=
  Sorted.mapGet_num m k h

theorem mapGet_foreign (m : SMap) : mapGet m .foreign = .error .keyError :=
  Sorted.mapGet_foreign m

theorem mapContains_num (m : SMap) (k : Int) (h : MapWf m) : mapContains m (.num k) = (mapLookup m k).isSome := by
  rw [mapContains, mapGet_num m k h]
  cases mapLookup m k <;> rfl

theorem mapContains_foreign (m : SMap) : mapContains m .foreign = false := by
  rw [mapContains, mapGet_foreign]

theorem mapDel_foreign (m : SMap) : mapDel m .foreign = .error .keyError := by
  unfold mapDel
  rcases mapIndex_foreign m with h | h <;> rw [h]

theorem mapPop_foreign (m : SMap) : mapPop m .foreign = .error .keyError := by
  rw [mapPop, mapGet_foreign]

theorem mapSet_wf (m : SMap) (k : Int) (v : Nat) (h : MapWf m) : MapWf (mapSet m k v) :=
  Sorted.mapSet_wf m k v h

theorem mapSet_lookup (m : SMap) (k k' : Int) (v : Nat) (h : MapWf m) :
    mapLookup (mapSet m k v) k' = if k' = k then some v else mapLookup m k' :=
  Sorted.mapSet_lookup m k k' v h

theorem mapDel_spec (m : SMap) (k : Int) (h : MapWf m) :
    match mapLookup m k with
    | some _ => ∃ m', mapDel m (.num k) = .ok m' ∧ MapWf m' ∧
        ∀ k', mapLookup m' k' = if k' = k then none else mapLookup m k'
    | none => mapDel m (.num k) = .error .keyError :=
  Sorted.mapDel_spec m k h

theorem mapPop_spec (m : SMap) (k : Int) (h : MapWf m) :
    match mapLookup m k with
    | some v => ∃ m', mapPop m (.num k) = .ok (m', v) ∧ mapDel m (.num k) = .ok m'
    | none => mapPop m (.num k) = .error .keyError :=
  Sorted.mapPop_spec m k h

/-- `popitem` removes the smallest key -/
theorem mapPopitem_spec (m : SMap) (h : MapWf m) :
    match m.keys, m.vals with
    | k :: ks, v :: vs => mapPopitem m = .ok (⟨ks, vs⟩, k, v)
    | _, _ => mapPopitem m = .error .keyError :=
  Sorted.mapPopitem_spec m h

theorem mapSetdefault_spec (m : SMap) (k : Int) (v : Nat) (h : MapWf m) :
    match mapLookup m k with
    | some w => mapSetdefault m k v = (m, w)
    | none => mapSetdefault m k v = (mapSet m k v, v) := by
  rw [mapSetdefault, mapGet_num m k h]
  cases mapLookup m k <;> rfl

theorem mapUpdate_wf (m : SMap) (ps : List (Int × Nat)) (h : MapWf m) : MapWf (mapUpdate m ps) :=
  Sorted.mapUpdate_wf m ps h

theorem mapUpdate_lookup (m : SMap) (ps : List (Int × Nat)) (k : Int) (h : MapWf m) :
    mapLookup (mapUpdate m ps) k = (match ps.reverse.lookup k with | some v => some v | none => mapLookup m k) :=
  Sorted.mapUpdate_lookup m ps k h

/-- iteration lists the items in strictly ascending key order -/
theorem mapItems_spec (m : SMap) (h : MapWf m) :
    (mapItems m).map (·.1) = m.keys ∧ (mapItems m).map (·.2) = m.vals ∧ Strict ((mapItems m).map (·.1)) :=
  Sorted.mapItems_spec m h

inductive SetOp | add (v : Int) | discard (v : Int) | pop | clear

def applySetOp (s : List Int) : SetOp → List Int
  | .add v => setAdd s v
  | .discard v => setDiscard s v
  | .pop => match setPop s with | .ok (s', _) => s' | .error _ => s
  | .clear => setClear (s.length + 1) s

/-- every history of set operations keeps the list strictly ascending -/
theorem set_history_strict (init : List Int) (ops : List SetOp) :
    Strict (ops.foldl applySetOp (setInit init)) := by
  suffices h : ∀ s, Strict s → Strict (ops.foldl applySetOp s) from h _ (WindVerif.Sorted.setInit_strict init)
  induction ops with
  | nil => intro s hs; exact hs
  | cons op ops ih =>
    intro s hs
    apply ih
    cases op with
    | add v => exact WindVerif.Sorted.setAdd_strict s v hs
    | discard v => exact WindVerif.Sorted.setDiscard_strict s v hs
    | pop =>
      have := WindVerif.Sorted.setPop_spec s hs
      cases s with
      | nil => simp [applySetOp, setPop]; exact hs
      | cons v r =>
        simp only at this
        simp only [applySetOp, this]
        exact (List.pairwise_cons.mp hs).2
    | clear =>
      simp only [applySetOp, WindVerif.Sorted.setClear_spec s hs]
      exact List.Pairwise.nil

/-- non-vacuity: concrete states meet the hypotheses -/
example : setAdd [1, 3] 2 = [1, 2, 3] ∧ setContains [1, 3] .foreign = false ∧ setDiscard [1, 2, 3] 2 = [1, 3] := by decide +kernel
example : Strict [1, 3] := by decide
example : MapWf ⟨[1, 2], [7, 6]⟩ := ⟨by decide, rfl⟩
example : mapLookup (mapInit [(1, 5), (2, 6), (1, 7)]) 1 = some 7 := by
  rw [WindVerif.Sorted.mapInit_lookup]; decide

/-- constructing a sorted set from the content of a sorted set gives that content again -/
theorem setInit_of_strict (s : List Int) (h : Strict s) : setInit s = s :=
  Sorted.setInit_of_strict s h

/-- constructing a sorted map from a well-formed sorted map (a `Mapping`: its `keys()` and `values()` are taken as they are,
i.e. its items) gives that map again -/
theorem mapInit_items (m : SMap) (h : MapWf m) : mapInit (mapItems m) = m :=
  Sorted.mapInit_items m h

/-- non-vacuity: a copy of the map built from unsorted pairs with a repeated key -/
example : mapInit (mapItems (mapInit [(5, 1), (2, 7), (5, 3)])) = mapInit [(5, 1), (2, 7), (5, 3)] :=
  mapInit_items _ (mapInit_wf _)

example : Strict (setInit [3, 1, 3, 2]) ∧ setInit (setInit [3, 1, 3, 2]) = setInit [3, 1, 3, 2] :=
  ⟨setInit_strict _, setInit_of_strict _ (setInit_strict _)⟩

/-! ### The inherited `collections.abc` interface (`Mapping` / `MutableMapping`, the views, `Set` / `MutableSet`)

Models in `Model/SortedMixins.lean` (the mixin methods as CPython 3.12 `_collections_abc.py` writes them, on top of the
primitive operations), the longer proofs in `Proofs/SortedMixins.lean`.  The other operand of a set operation is a builtin set, given
as the duplicate-free list of its elements in its iteration order. -/

/-- `get(key, default)` is the dict lookup, or the default; the default for a foreign-typed key -/
theorem mapGetD_spec (m : SMap) (d : Nat) (h : MapWf m) :
    (∀ k, mapGetD m (.num k) d = (mapLookup m k).getD d) ∧ mapGetD m .foreign d = d :=
  Sorted.mapGetD_spec m d h

/-- `pop(key, default)` of an absent key (also of a foreign-typed one): the state is unchanged, the default comes back -/
theorem mapPopD_absent (m : SMap) (d : Nat) (h : MapWf m) :
    (∀ k, mapLookup m k = none → mapPopD m (.num k) d = (m, d)) ∧ mapPopD m .foreign d = (m, d) :=
  Sorted.mapPopD_absent m d h

/-- `pop(key, default)` of a present key is `del m[key]` and returns the value: the new state is well formed and stands for
the dict without the key -/
theorem mapPopD_present (m : SMap) (k : Int) (v d : Nat) (h : MapWf m) (hk : mapLookup m k = some v) :
    ∃ m', mapDel m (.num k) = .ok m' ∧ mapPopD m (.num k) d = (m', v) ∧ MapWf m' ∧
      ∀ k', mapLookup m' k' = if k' = k then none else mapLookup m k' :=
  Sorted.mapPopD_present m k v d h hk

/-- `key in m.keys()` -/
theorem mapKeysContains_iff (m : SMap) (h : MapWf m) :
    (∀ k, mapKeysContains m (.num k) = true ↔ (mapLookup m k).isSome = true) ∧
    mapKeysContains m .foreign = false :=
  ⟨fun k => by rw [mapKeysContains, mapContains_num m k h], mapContains_foreign m⟩

/-- `(key, value) in m.items()` -/
theorem mapItemsContains_iff (m : SMap) (v : Nat) (h : MapWf m) :
    (∀ k, mapItemsContains m (.num k) v = true ↔ mapLookup m k = some v) ∧
    mapItemsContains m .foreign v = false := by
  refine ⟨fun k => ?_, by rw [mapItemsContains, mapGet_foreign]⟩
  rw [mapItemsContains, mapGet_num m k h]
  cases mapLookup m k <;> simp

/-- `value in m.values()` -/
theorem mapValuesContains_iff (m : SMap) (v : Nat) (h : MapWf m) :
    mapValuesContains m v = true ↔ ∃ k, mapLookup m k = some v :=
  Sorted.mapValuesContains_iff m v h

/-- iterating the items view yields the items in key order -/
theorem mapIterItems_eq (m : SMap) (h : MapWf m) : mapIterItems m = mapItems m :=
  Sorted.mapIterItems_eq m h

/-- `m == d` for a dict `d` (given by its items, distinct keys) holds exactly when both stand for the same finite map -/
theorem mapEq_iff (m : SMap) (other : List (Int × Nat)) (h : MapWf m) (ho : (other.map (·.1)).Nodup) :
    mapEq m other = true ↔ ∀ k, mapLookup m k = other.lookup k :=
  Sorted.mapEq_iff m other h ho

/-- `clear()` (a loop of `popitem`) empties the map; `len + 1` rounds of the loop suffice -/
theorem mapClear_spec (m : SMap) (h : MapWf m) :
    mapClear (m.keys.length + 1) m = ⟨[], []⟩ ∧ MapWf (mapClear (m.keys.length + 1) m) :=
  Sorted.mapClear_spec m h

/-- in a well-formed state the only error `self[key]` can give is `KeyError` (the mixins catch nothing else) -/
theorem mapGet_error_wf (m : SMap) (p : Probe) (e : Err) (h : MapWf m) (he : mapGet m p = .error e) :
    e = .keyError := by
  cases p with
  | foreign => rw [mapGet_foreign] at he; cases he; rfl
  | num k =>
    rw [mapGet_num m k h] at he
    split at he
    · cases he
    · cases he; rfl

/-- after `self[key]` succeeded, `del self[key]` succeeds (in any state) -/
theorem mapDel_ok_of_get_ok (m : SMap) (p : Probe) (v : Nat) (h : mapGet m p = .ok v) :
    ∃ m', mapDel m p = .ok m' :=
  Sorted.mapDel_ok_of_get_ok m p v h

/-- `s <= t` -/
theorem setLe_iff (s t : List Int) (h : Strict s) : setLe s t = true ↔ ∀ y, y ∈ s → y ∈ t :=
  Sorted.setLe_iff s t h

/-- `s == t` -/
theorem setEq_iff (s t : List Int) (h : Strict s) (ht : t.Nodup) : setEq s t = true ↔ ∀ y, y ∈ s ↔ y ∈ t := by
  rw [setEq, Bool.and_eq_true, beq_iff_eq, setLe_iff s t h]
  constructor
  · rintro ⟨hlen, hsub⟩ y
    exact ⟨hsub y, fun hy => Cache.subset_of_nodup_length (strict_nodup h) hsub (Nat.le_of_eq hlen.symm) hy⟩
  · intro hm
    exact ⟨((List.perm_ext_iff_of_nodup (strict_nodup h) ht).2 hm).length_eq, fun y => (hm y).1⟩

/-- `s.isdisjoint(t)` -/
theorem setIsDisjoint_iff (s t : List Int) (h : Strict s) :
    setIsDisjoint s t = true ↔ ∀ y, ¬ (y ∈ s ∧ y ∈ t) := by
  rw [setIsDisjoint, List.all_eq_true]
  simp only [setContains_num s _ h, Bool.not_eq_eq_eq_not, Bool.not_true, decide_eq_false_iff_not, not_and]
  exact ⟨fun hd y hs ht => hd y ht hs, fun hd y ht hs => hd y hs ht⟩

/-- `s & t` -/
theorem setAnd_spec (s t : List Int) (h : Strict s) :
    Strict (setAnd s t) ∧ ∀ y, y ∈ setAnd s t ↔ (y ∈ s ∧ y ∈ t) := by
  refine ⟨setInit_strict _, fun y => ?_⟩
  rw [setAnd, setInit_mem, List.mem_filter, setContains_num s y h, decide_eq_true_eq]
  exact And.comm

/-- `s | t` -/
theorem setOr_spec (s t : List Int) :
    Strict (setOr s t) ∧ ∀ y, y ∈ setOr s t ↔ (y ∈ s ∨ y ∈ t) :=
  ⟨setInit_strict _, fun y => by rw [setOr, setInit_mem, List.mem_append]⟩

/-- `s - t` -/
theorem setSub_spec (s t : List Int) :
    Strict (setSub s t) ∧ ∀ y, y ∈ setSub s t ↔ (y ∈ s ∧ y ∉ t) :=
  ⟨setInit_strict _, fun y => by rw [setSub, setInit_mem, List.mem_filter]; simp⟩

/-- `s ^ t` -/
theorem setXor_spec (s t : List Int) (h : Strict s) :
    Strict (setXor s t) ∧ ∀ y, y ∈ setXor s t ↔ ((y ∈ s ∧ y ∉ t) ∨ (y ∈ t ∧ y ∉ s)) :=
  ⟨setInit_strict _, fun y => by rw [setXor, (setOr_spec _ _).2, (setSub_spec s t).2, setRSub_mem s t y h]⟩

/-- `s |= t` (element-wise `add`) -/
theorem setIor_spec (s t : List Int) (h : Strict s) :
    Strict (setIor s t) ∧ ∀ y, y ∈ setIor s t ↔ (y ∈ s ∨ y ∈ t) :=
  Sorted.setIor_spec s t h

/-- `s &= t` (element-wise `discard` of `s - t`) -/
theorem setIand_spec (s t : List Int) (h : Strict s) :
    Strict (setIand s t) ∧ ∀ y, y ∈ setIand s t ↔ (y ∈ s ∧ y ∈ t) := by
  refine ⟨(setIsub_spec s _ h).1, fun y => ?_⟩
  rw [setIand, ← setIsub, (setIsub_spec s _ h).2, (setSub_spec s t).2]
  exact ⟨fun ⟨h1, h2⟩ => ⟨h1, Classical.byContradiction fun hn => h2 ⟨h1, hn⟩⟩, fun ⟨h1, h2⟩ => ⟨h1, fun hc => hc.2 h2⟩⟩

/-- `s -= t` (element-wise `discard`) -/
theorem setIsub_spec (s t : List Int) (h : Strict s) :
    Strict (setIsub s t) ∧ ∀ y, y ∈ setIsub s t ↔ (y ∈ s ∧ y ∉ t) :=
  Sorted.setIsub_spec s t h

/-- `s ^= t` (element-wise `discard` / `add`; the elements of a set come once) -/
theorem setIxor_spec (s t : List Int) (h : Strict s) (ht : t.Nodup) :
    Strict (setIxor s t) ∧ ∀ y, y ∈ setIxor s t ↔ ((y ∈ s ∧ y ∉ t) ∨ (y ∈ t ∧ y ∉ s)) :=
  Sorted.setIxor_spec s t h ht

/-- the in-place operators leave exactly the list the pure operator builds -/
theorem setIor_eq (s t : List Int) (h : Strict s) : setIor s t = setOr s t :=
  eq_of_same_spec (setIor_spec s t h) (setOr_spec s t)

theorem setIand_eq (s t : List Int) (h : Strict s) : setIand s t = setAnd s t :=
  eq_of_same_spec (setIand_spec s t h) (setAnd_spec s t h)

theorem setIsub_eq (s t : List Int) (h : Strict s) : setIsub s t = setSub s t :=
  eq_of_same_spec (setIsub_spec s t h) (setSub_spec s t)

theorem setIxor_eq (s t : List Int) (h : Strict s) (ht : t.Nodup) : setIxor s t = setXor s t :=
  eq_of_same_spec (setIxor_spec s t h ht) (setXor_spec s t h)

/-- non-vacuity: concrete states meet the hypotheses, and the in-place operators computed on them -/
example : MapWf ⟨[1, 2, 5], [7, 6, 7]⟩ ∧ mapLookup ⟨[1, 2, 5], [7, 6, 7]⟩ 2 = some 6 ∧ mapLookup ⟨[1, 2, 5], [7, 6, 7]⟩ 3 = none :=
  ⟨⟨by decide, rfl⟩, by decide +kernel⟩
example : mapGetD ⟨[1, 2, 5], [7, 6, 7]⟩ (.num 3) 9 = 9 ∧ mapGetD ⟨[1, 2, 5], [7, 6, 7]⟩ .foreign 9 = 9 ∧
    mapGetD ⟨[1, 2, 5], [7, 6, 7]⟩ (.num 2) 9 = 6 ∧ (mapPopD ⟨[1, 2, 5], [7, 6, 7]⟩ (.num 2) 9).2 = 6 ∧
    (mapPopD ⟨[1, 2, 5], [7, 6, 7]⟩ (.num 2) 9).1.keys = [1, 5] ∧ mapValuesContains ⟨[1, 2, 5], [7, 6, 7]⟩ 6 = true ∧
    mapItemsContains ⟨[1, 2, 5], [7, 6, 7]⟩ (.num 5) 7 = true ∧ (mapClear 4 ⟨[1, 2, 5], [7, 6, 7]⟩).keys = [] := by decide +kernel
example : ([(5, 7), (1, 7), (2, 6)].map (·.1)).Nodup ∧ dictEq [(1, 7), (2, 6), (5, 7)] [(5, 7), (1, 7), (2, 6)] = true := by decide +kernel
example : Strict [1, 3, 4] ∧ [4, 9, 3].Nodup := by decide
example : setLe [1, 3] [3, 4, 1] = true ∧ setEq [1, 3] [3, 1] = true ∧ setIsDisjoint [1, 3] [2, 4] = true ∧
    setIor [1, 3, 4] [4, 9, 3] = [1, 3, 4, 9] ∧ setIsub [1, 3, 4] [4, 9, 3] = [1] ∧ setIxor [1, 3, 4] [4, 9, 3] = [1, 9] := by decide +kernel
example : setIand [1, 3, 4] [4, 9, 3] = setAnd [1, 3, 4] [4, 9, 3] ∧ setIxor [1, 3, 4] [4, 9, 3] = setXor [1, 3, 4] [4, 9, 3] :=
  ⟨setIand_eq _ _ (by decide), setIxor_eq _ _ (by decide) (by decide)⟩

/-! ### bulk operations fed by a source that fails in the middle (definitions and the longer proofs in `Proofs/SortedPartial.lean`)

`setIorPartial s xs k` / `mapUpdatePartial m ps k`: the state when the source of `s |= xs` / `m.update(ps)` raises after
having delivered `k` items — the inherited loops have called `add` / `__setitem__` for exactly these, one at a time. -/

theorem setIorPartial_zero (s xs : List Int) : setIorPartial s xs 0 = s := rfl

/-- one at a time: the state after `k+1` items is the state after `k` items with `xs[k]` added -/
theorem setIorPartial_succ (s xs : List Int) (k : Nat) (hk : k < xs.length) :
    setIorPartial s xs (k + 1) = setAdd (setIorPartial s xs k) xs[k] := by
  unfold setIorPartial
  rw [List.take_succ_eq_append_getElem hk, List.foldl_append]
  rfl

/-- a source that does not fail: the whole `__ior__` -/
theorem setIorPartial_all (s xs : List Int) : setIorPartial s xs xs.length = setIor s xs := by
  unfold setIorPartial setIor
  rw [List.take_length]

/-- at every moment (every `k`; for `k ≥ len(xs)` the prefix is the whole source) the values are strictly ascending —
sorted and duplicate-free — and are exactly the old values plus the delivered prefix -/
theorem ior_prefix (s xs : List Int) (k : Nat) (h : Strict s) :
    Strict (setIorPartial s xs k) ∧ ∀ y, y ∈ setIorPartial s xs k ↔ (y ∈ s ∨ y ∈ xs.take k) :=
  Sorted.ior_prefix s xs k h

theorem ior_prefix_nodup (s xs : List Int) (k : Nat) (h : Strict s) : (setIorPartial s xs k).Nodup :=
  strict_nodup (ior_prefix s xs k h).1

/-- a delivered prefix of members changes nothing (what the harness feeds before the source raises) -/
theorem ior_existing_noop (s xs : List Int) (k : Nat) (h : Strict s) (hm : ∀ y ∈ xs.take k, y ∈ s) :
    setIorPartial s xs k = s :=
  Sorted.ior_existing_noop s xs k h hm

theorem mapUpdatePartial_zero (m : SMap) (ps : List (Int × Nat)) : mapUpdatePartial m ps 0 = m := rfl

/-- one at a time: the state after `k+1` pairs is the state after `k` pairs with `ps[k]` stored -/
theorem mapUpdatePartial_succ (m : SMap) (ps : List (Int × Nat)) (k : Nat) (hk : k < ps.length) :
    mapUpdatePartial m ps (k + 1) = mapSet (mapUpdatePartial m ps k) ps[k].1 ps[k].2 := by
  unfold mapUpdatePartial
  rw [List.take_succ_eq_append_getElem hk, mapUpdate_eq_foldl, mapUpdate_eq_foldl, List.foldl_append]
  rfl

theorem mapUpdatePartial_all (m : SMap) (ps : List (Int × Nat)) : mapUpdatePartial m ps ps.length = mapUpdate m ps := by
  unfold mapUpdatePartial
  rw [List.take_length]

/-- at every moment the state is well formed (keys strictly ascending, one value per key) and stands for the old content
overridden by the delivered pairs in order (a later pair for the same key wins) -/
theorem update_prefix (m : SMap) (ps : List (Int × Nat)) (k : Nat) (h : MapWf m) :
    MapWf (mapUpdatePartial m ps k) ∧
    ∀ key, mapLookup (mapUpdatePartial m ps k) key =
      (match (ps.take k).reverse.lookup key with | some v => some v | none => mapLookup m key) :=
  Sorted.update_prefix m ps k h

/-- delivered pairs whose keys are present with exactly the stored values change nothing -/
theorem update_existing_noop (m : SMap) (ps : List (Int × Nat)) (k : Nat) (h : MapWf m)
    (hm : ∀ p ∈ ps.take k, mapLookup m p.1 = some p.2) : mapUpdatePartial m ps k = m :=
  (mapUpdate_eq_foldl m _).trans (foldl_fixed _ m _ (fun p hp => mapSet_of_lookup m p.1 p.2 h (hm p hp)))

/-- the seeded variant "extend the list with everything, then sort and de-duplicate" (`iorBulkPartial`: the values are
appended as they arrive, the failure of the source comes before the sort): values `[1,5,9]`, source `9,7,3,5` and then the
failure leave `[1,5,9,9,7,3,5]`, neither sorted nor duplicate-free, where the loop of `add` calls leaves `[1,3,5,7,9]` -/
theorem ior_bulk_wrong :
    Strict [1, 5, 9] ∧
    iorBulkPartial [1, 5, 9] [9, 7, 3, 5] 4 = [1, 5, 9, 9, 7, 3, 5] ∧
    ¬ Strict (iorBulkPartial [1, 5, 9] [9, 7, 3, 5] 4) ∧
    ¬ (iorBulkPartial [1, 5, 9] [9, 7, 3, 5] 4).Nodup ∧
    setIorPartial [1, 5, 9] [9, 7, 3, 5] 4 = [1, 3, 5, 7, 9] :=
  Sorted.ior_bulk_wrong

/-- already one delivered member shows the difference -/
theorem ior_bulk_wrong_member :
    iorBulkPartial [1, 5, 9] [5, 1] 1 = [1, 5, 9, 5] ∧ ¬ Strict (iorBulkPartial [1, 5, 9] [5, 1] 1) ∧
    setIorPartial [1, 5, 9] [5, 1] 1 = [1, 5, 9] := by decide +kernel

/-- non-vacuity: a set and a source whose first two items are members (the third is not), a map and a source whose first
two pairs are stored as they are (the third is not); the states after 2 and after 3 items -/
example : Strict [1, 5, 9] ∧ (∀ y ∈ [5, 1, 7].take 2, y ∈ [1, 5, 9]) ∧
    setIorPartial [1, 5, 9] [5, 1, 7] 2 = [1, 5, 9] ∧ setIorPartial [1, 5, 9] [5, 1, 7] 3 = [1, 5, 7, 9] := by
  decide +kernel
example : MapWf ⟨[1, 2, 5], [7, 6, 7]⟩ ∧ (∀ p ∈ [(5, 7), (1, 7), (2, 8)].take 2, mapLookup ⟨[1, 2, 5], [7, 6, 7]⟩ p.1 = some p.2) ∧
    mapItems (mapUpdatePartial ⟨[1, 2, 5], [7, 6, 7]⟩ [(5, 7), (1, 7), (2, 8)] 2) = [(1, 7), (2, 6), (5, 7)] ∧
    mapItems (mapUpdatePartial ⟨[1, 2, 5], [7, 6, 7]⟩ [(5, 7), (1, 7), (2, 8), (3, 0)] 4) = [(1, 7), (2, 8), (3, 0), (5, 7)] :=
  ⟨⟨by decide, rfl⟩, by decide +kernel⟩

end WindVerif.C09
