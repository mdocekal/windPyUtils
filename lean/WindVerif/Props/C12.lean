import WindVerif.Proofs.LineFile
import WindVerif.Proofs.SaveEndings
import WindVerif.Proofs.RecFileM
import WindVerif.Proofs.LineFileSeq
import WindVerif.Proofs.RecFileSeq
/-!
# C12 — Mutable line files act as a list of lines; save writes it; source untouched

The property theorems.  What several of them rest on is proved in `Proofs/LineFile.lean`, `Proofs/LineFileSeq.lean`;
a property that nothing else needs is proved here.  Every edit maps the presented list `ls` to the result of the
corresponding Python list operation (`Py.index` / `Py.insertPos` are Python's index conventions), fails with `IndexError`
exactly where a list does (and then there is no new state, so `dirty` cannot change), sets `dirty`, and never touches
`content` (the source file).
-/
namespace WindVerif.C12
open WindVerif.LineFile

theorem setItem_spec (f : LF) (ls : List Str) (h : Good f ls) (i : Int) (s : Str) :
    match Py.index ls.length i with
    | some p => ∃ f', f.setItem i s = .ok f' ∧ Good f' (ls.set p s) ∧ f'.dirty = true ∧ f'.content = f.content ∧
        f'.closed = f.closed
    | none => f.setItem i s = .error .indexError := by
  unfold LF.setItem
  rw [h.1]
  cases hi : Py.index ls.length i with
  | none => rfl
  | some p => exact ⟨_, rfl, good_set h p s true, rfl, rfl, rfl⟩

theorem delItem_spec (f : LF) (ls : List Str) (h : Good f ls) (i : Int) :
    match Py.index ls.length i with
    | some p => ∃ f', f.delItem i = .ok f' ∧ Good f' (ls.eraseIdx p) ∧ f'.dirty = true ∧ f'.content = f.content ∧
        f'.closed = f.closed
    | none => f.delItem i = .error .indexError :=
  LineFile.delItem_spec f ls h i

theorem insert_spec (f : LF) (ls : List Str) (h : Good f ls) (i : Int) (s : Str) :
    Good (f.insert i s) (Py.insertAt ls (Py.insertPos ls.length i) s) ∧ (f.insert i s).dirty = true ∧
    (f.insert i s).content = f.content ∧ (f.insert i s).closed = f.closed := by
  refine ⟨?_, rfl, rfl, rfl⟩
  unfold LF.insert
  rw [h.1]
  exact good_insertAt h _ s true

theorem append_spec (f : LF) (ls : List Str) (h : Good f ls) (s : Str) :
    Good (f.append s) (ls ++ [s]) ∧ (f.append s).dirty = true ∧ (f.append s).content = f.content ∧
    (f.append s).closed = f.closed := by
  have := insert_spec f ls h (f.lines.length : Int) s
  have hp : Py.insertPos ls.length (f.lines.length : Int) = ls.length := by
    unfold Py.insertPos; rw [h.1]; simp
  rw [hp] at this
  simpa [LF.append, Py.insertAt] using this

theorem extend_spec (f : LF) (ls : List Str) (h : Good f ls) (ss : List Str) :
    Good (f.extend ss) (ls ++ ss) ∧ (ss ≠ [] → (f.extend ss).dirty = true) ∧ (f.extend ss).content = f.content ∧
    (f.extend ss).closed = f.closed := by
  induction ss generalizing f ls with
  | nil => simpa [LF.extend] using h
  | cons s r ih =>
    obtain ⟨a1, a2, a3, a4⟩ := append_spec f ls h s
    obtain ⟨b1, b2, b3, b4⟩ := ih (f.append s) (ls ++ [s]) a1
    unfold LF.extend  -- by hand: unifying through the recursion of `LF.extend` is slow to check
    refine ⟨by simpa using b1, fun _ => ?_, b3.trans a3, b4.trans a4⟩
    -- the first `append` sets `dirty`; the later ones keep it
    cases r with
    | nil => simpa [LF.extend] using a2
    | cons t r' => exact b2 (List.cons_ne_nil t r')

theorem pop_spec (f : LF) (ls : List Str) (h : Good f ls) (hc : f.closed = false) (i : Int) :
    match Py.index ls.length i with
    | some p => ∃ f' l, ls[p]? = some l ∧ f.pop i = .ok (f', l) ∧ Good f' (ls.eraseIdx p) ∧ f'.dirty = true ∧
        f'.content = f.content
    | none => f.pop i = .error .indexError :=
  LineFile.pop_spec f ls h hc i

theorem reverse_spec (f : LF) (ls : List Str) (h : Good f ls) (hc : f.closed = false) :
    ∃ f', f.reverse = .ok f' ∧ Good f' ls.reverse ∧ f'.content = f.content ∧ f'.closed = false ∧
      (2 ≤ ls.length → f'.dirty = true) := by
  obtain ⟨f', e, g, k, c, d, -⟩ :=
    reverseGo_spec ls.length (ls.length + 1) f [] ls [] (by simpa using h) hc rfl (by simp) (by omega)
  exact ⟨f', by rw [LF.reverse, h.1]; exact e, by simpa using g, k, c, d⟩

/-- iteration over the whole current view yields exactly the presented list -/
theorem view_spec (f : LF) (ls : List Str) (h : Good f ls) (hc : f.closed = false) :
    ∃ f', f.view = .ok (f', ls) ∧ SameButCursor f f' :=
  LineFile.view_spec f ls h hc

/-- `save` writes exactly the lines, each followed by the chosen line ending; the source content is untouched -/
theorem save_spec (f : LF) (ls : List Str) (h : Good f ls) (hc : f.closed = false) (le : Str) :
    ∃ f', f.save le = .ok (f', (ls.map (fun l => rstripNL l ++ le)).flatten) ∧ SameButCursor f f' :=
  LineFile.save_spec f ls h hc le

/-- reopening what `save` wrote with the default ending gives the same list (lines without line breaks) -/
theorem reopen_roundtrip (ls : List Str) (h : ∀ l ∈ ls, '\n' ∉ l) :
    refLines ((ls.map (fun l => rstripNL l ++ ['\n'])).flatten) = ls :=
  LineFile.reopen_roundtrip ls h

theorem new_state (content : Str) (custom : Option (List Nat)) :
    (LF.new content custom).dirty = false ∧ (LF.new content custom).closed = true ∧
    (LF.new content custom).content = content := ⟨rfl, rfl, rfl⟩

/-- `f[i]` for an `int`: like a list, positive and negative `i`; `IndexError` outside; `RuntimeError` when closed -/
theorem getInt_spec (f : LF) (ls : List Str) (h : Good f ls) (i : Int) :
    (f.closed = true → f.getInt i = .error .runtimeError) ∧
    (f.closed = false → match Py.index ls.length i with
      | some p => ∃ f' l, ls[p]? = some l ∧ f.getInt i = .ok (f', l) ∧ SameButCursor f f'
      | none => f.getInt i = .error .indexError) :=
  LineFile.getInt_spec f ls h i

/-- non-vacuity -/
example : ((⟨"a\nb\n".toList, [.off 0, .off 2], 0, false, false⟩ : LF).setItem (-1) "X".toList).toOption.map (·.lines) =
    some [.off 0, .str "X".toList] := by decide +kernel

/-- `f.remove(v)` (the model of `Model/LineFile.lean`, `remove_spec` below) is `del f[f.index(v)]` with the inherited
`Sequence.index` of C11 -/
theorem remove_eq_del_index (f : LF) (v : Str) :
    f.remove v = match lfIndex f v none none with
      | .error e => .error e
      | .ok (f', p) => f'.delItem (p : Int) :=
  LineFile.remove_eq_del_index f v

theorem remove_spec (f : LF) (ls : List Str) (h : Good f ls) (hc : f.closed = false) (s : Str) :
    (s ∈ ls → ∃ f', f.remove s = .ok f' ∧ Good f' (ls.erase s) ∧ f'.dirty = true ∧ f'.content = f.content) ∧
    (s ∉ ls → f.remove s = .error .valueError) :=
  LineFile.remove_spec f ls h hc s

theorem remove_closed (f : LF) (hc : f.closed = true) (v : Str) : f.remove v = .error .runtimeError := by
  rw [LF.remove, if_pos hc]

/-- `f.clear()` on an opened file: the file presents the empty list (and is dirty unless it was empty already, in which
case nothing changes); the source content is untouched -/
theorem clear_spec (f : LF) (ls : List Str) (h : Good f ls) (hc : f.closed = false) :
    ∃ f', f.clear = .ok f' ∧ Good f' [] ∧ f'.content = f.content ∧ f'.closed = false ∧
      (ls ≠ [] → f'.dirty = true) ∧ (ls = [] → f' = f) :=
  LineFile.clear_spec f ls h hc

/-- a closed file: the first `self.pop()` raises `RuntimeError` (before it could raise `IndexError`, even without lines) -/
theorem clear_closed (f : LF) (hc : f.closed = true) : f.clear = .error .runtimeError := by
  unfold LF.clear LF.clearGo
  rw [LF.pop, getInt_closed hc]

/-- the fuel of the `clear` loop suffices on every file: more changes nothing -/
theorem clearGo_fuel (fuel : Nat) (f : LF) (h : f.lines.length < fuel) :
    f.clearGo fuel = f.clearGo (f.lines.length + 1) :=
  LineFile.clearGo_fuel fuel f h

/-- non-vacuity: an opened file of two lines with an inserted third; `clear` leaves no line and sets `dirty`; on the
closed file it raises `RuntimeError`; on an opened file without lines it changes nothing -/
example :
    let f := ((LF.new "a\nb\n".toList (some [0, 2])).open).insert 1 "x".toList
    (f.clear.toOption.map (fun g => (g.lines, g.dirty, g.content))) = some ([], true, "a\nb\n".toList) ∧
    (match f.close.clear with | .error .runtimeError => true | _ => false) = true ∧
    ((LF.new [] (some [])).open.clear.toOption.map (fun g => (g.lines, g.dirty))) = some ([], false) ∧
    (f.remove "x".toList).toOption.map (·.lines) = some [.off 0, .off 2] := by
  decide +kernel

example : Good (LF.new "a\nb\n".toList (some [0, 2])).open ["a".toList, "b".toList] :=
  LineFile.save_or_default_witness_good.1

end WindVerif.C12

/-!
## The record variant (`BaseMutableRecordFile`, model `Model/RecFile.lean`, proofs `Proofs/RecFileM.lean`)

A mutable record file presents `list(f)` = `load` of every position (`records`; `none` = that position raises).  `f[i] = r`,
`insert`, `append` store the text `r.save()`; the presented list changes as the Python list does (the new element is
`load(save(r))`, which is `r` for a format with a round trip); `del` / `pop` / `reverse` as on a list; `save` copies
untouched source lines verbatim and writes `save(r).rstrip("\n")` for edited positions.  Valid for ANY record format.
-/
namespace WindVerif.C12
open WindVerif.RecFile

/-- a position that still holds `src i` is written as source line `i` verbatim -/
theorem save_untouched (f : RecFile) (p i : Nat) (l ending : RecFile.Str) (hp : f.slots[p]? = some (.src i))
    (hl : f.source[i]? = some l) (hnl : '\n' ∉ l) :
    f.lineAt p = some l ∧ (f.saveLines ending)[p]? = some (l ++ ending) :=
  RecFile.save_untouched f p i l ending hp hl hnl

/-- a position written with record `r` is written as `strip (save r)` (`strip` = `rstrip("\n")`) -/
theorem save_edited {R : Type} (F : Fmt R) (f f' : RecFile) (i : Int) (p : Nat) (r : R) (ending : RecFile.Str)
    (hi : Py.index f.slots.length i = some p) (hs : f.setRec F i r = .ok f') :
    f'.lineAt p = some (strip (F.save r)) ∧ (f'.saveLines ending)[p]? = some (strip (F.save r) ++ ending) :=
  RecFile.save_edited F f f' i p r ending hi hs

/-- … and so is an inserted record, at the position Python's `list.insert` chooses -/
theorem save_inserted {R : Type} (F : Fmt R) (f : RecFile) (i : Int) (r : R) (ending : RecFile.Str) :
    (f.insertRec F i r).lineAt (Py.insertPos f.slots.length i) = some (strip (F.save r)) ∧
    ((f.insertRec F i r).saveLines ending)[Py.insertPos f.slots.length i]? = some (strip (F.save r) ++ ending) :=
  RecFile.save_inserted F f i r ending

/-- `f[i]`: the presented record; `IndexError` outside the range (negative indices as Python); a line that does not load
raises -/
theorem rec_get_spec {R : Type} (F : Fmt R) (f : RecFile) (i : Int) :
    f.getRec F i = match Py.index (f.records F).length i with
      | none => .error .indexError
      | some p => match (f.records F)[p]? with
        | some (some r) => .ok r
        | _ => .error .loadError :=
  RecFile.getRec_spec F f i

theorem rec_set_spec {R : Type} (F : Fmt R) (f : RecFile) (i : Int) (r : R) :
    match Py.index (f.records F).length i with
    | some p => ∃ f', f.setRec F i r = .ok f' ∧ f'.records F = (f.records F).set p (F.load (F.save r)) ∧
        f'.source = f.source
    | none => f.setRec F i r = .error .indexError :=
  RecFile.records_setRec F f i r

theorem rec_insert_spec {R : Type} (F : Fmt R) (f : RecFile) (i : Int) (r : R) :
    (f.insertRec F i r).records F =
      Py.insertAt (f.records F) (Py.insertPos (f.records F).length i) (F.load (F.save r)) ∧
    (f.insertRec F i r).source = f.source :=
  RecFile.records_insertRec F f i r

theorem rec_append_spec {R : Type} (F : Fmt R) (f : RecFile) (r : R) :
    (f.appendRec F r).records F = f.records F ++ [F.load (F.save r)] ∧ (f.appendRec F r).source = f.source :=
  RecFile.records_appendRec F f r

theorem rec_del_spec {R : Type} (F : Fmt R) (f : RecFile) (i : Int) :
    match Py.index (f.records F).length i with
    | some p => ∃ f', f.delRec i = .ok f' ∧ f'.records F = (f.records F).eraseIdx p ∧ f'.source = f.source
    | none => f.delRec i = .error .indexError :=
  RecFile.records_delRec F f i

/-- `pop(i)` returns the record and removes the position; a position that does not load raises and stays -/
theorem rec_pop_spec {R : Type} (F : Fmt R) (f : RecFile) (i : Int) :
    match Py.index (f.records F).length i with
    | some p => (match (f.records F)[p]? with
      | some (some r) => ∃ f', f.popRec F i = .ok (r, f') ∧ f'.records F = (f.records F).eraseIdx p ∧
          f'.source = f.source
      | _ => f.popRec F i = .error .loadError)
    | none => f.popRec F i = .error .indexError :=
  RecFile.records_popRec F f i

/-- `reverse()` (the swap loop of `MutableSequence`) presents the reversed list and does not raise, when every position
loads and the records survive `save` + `load` -/
theorem rec_reverse_spec {R : Type} (F : Fmt R) (f : RecFile) (rs : List R) (hrs : f.records F = rs.map some)
    (hrt : ∀ r ∈ rs, F.load (F.save r) = some r) :
    ∃ f', f.reverse F = (f', none) ∧ f'.records F = (f.records F).reverse ∧ f'.source = f.source :=
  RecFile.records_reverse F f rs hrs hrt

/-- LIST SEMANTICS: for a format with an in-memory round trip on the domain `P`, a file in the invariant of a history of
edits (`Inv`: stored texts are `save r` with `P r`) whose source lines load into the domain, and any operation with
records of the domain: the presented list afterwards is the Python list operation applied to the presented list before -/
theorem records_list_semantics {R : Type} (F : Fmt R) (P : R → Prop) (hmem : F.OkMem P) (f : RecFile)
    (hf : Inv F P f) (hl : Loads F P f.source) (op : Op R) (hop : ∀ r ∈ op.recs, P r) :
    (f.step F op).records F = op.onList (f.records F) :=
  RecFile.records_list_semantics F P hmem f hf hl op hop

/-- … for every history, starting from the freshly opened file -/
theorem records_history {R : Type} (F : Fmt R) (P : R → Prop) (hmem : F.OkMem P) (source : List RecFile.Str)
    (hsrc : ∀ l ∈ source, '\n' ∉ l) (hl : Loads F P source) (ops : List (Op R))
    (hops : ∀ op ∈ ops, ∀ r ∈ op.recs, P r) :
    ((RecFile.open source).run F ops).records F = ops.foldl (fun l op => op.onList l) (source.map F.load) := by
  rw [← WindVerif.RecFile.records_open F source]
  exact WindVerif.RecFile.records_run F P hmem ops _ (WindVerif.RecFile.inv_open F P source hsrc) hl hops

/-- `f.remove(r)` when every position loads: the first record equal to `r` is removed — the position, whatever text it
holds —, `ValueError` and no change when there is none -/
theorem rec_remove_spec {R : Type} [DecidableEq R] (F : Fmt R) (f : RecFile) (rs : List R)
    (hrs : f.records F = rs.map some) (r : R) :
    (r ∈ rs → ∃ f', f.removeRec F r = .ok f' ∧ f'.records F = (rs.erase r).map some ∧ f'.source = f.source ∧
      f'.slots = f.slots.eraseIdx (rs.idxOf r)) ∧
    (r ∉ rs → f.removeRec F r = .error .valueError) :=
  RecFile.removeRec_spec F f rs hrs r

/-- `f.clear()` when every position loads: nothing is left, nothing is raised, the source is as before -/
theorem rec_clear_spec {R : Type} (F : Fmt R) (f : RecFile) (rs : List R) (hrs : f.records F = rs.map some) :
    f.clearRec F = (⟨f.source, []⟩, none) :=
  RecFile.clearRec_spec F f rs hrs

/-- `clear()` on ANY record file pops from the end as long as the last position loads (`pop` loads what it removes): with
`_lines = pre ++ suf`, every position of `suf` loading and `pre` empty or ending in a position that does not load, `pre`
stays — and the exception of `load` for its last position is raised unless `pre` is empty -/
theorem rec_clear_general {R : Type} (F : Fmt R) (fuel : Nat) (f : RecFile) (pre suf : List Slot)
    (hs : f.slots = pre ++ suf) (hsuf : ∀ s ∈ suf, ∃ x, F.load (f.raw s) = some x)
    (hpre : pre = [] ∨ ∃ init last, pre = init ++ [last] ∧ F.load (f.raw last) = none)
    (hf : pre.length + suf.length < fuel) :
    f.clearGo F fuel = (⟨f.source, pre⟩, if pre = [] then none else some .loadError) :=
  RecFile.clearGo_spec F fuel f pre suf hs hsuf hpre hf

/-- the fuel of the `clear` loop suffices on every record file -/
theorem rec_clearGo_fuel {R : Type} (F : Fmt R) (fuel : Nat) (f : RecFile) (h : f.slots.length < fuel) :
    f.clearGo F fuel = f.clearGo F (f.slots.length + 1) :=
  RecFile.clearGo_fuel F fuel f h

/-- LIST SEMANTICS with `remove` and `clear` (`Op2` = the operations of `Op`, `remove r`, `clear`): the presented record
list after an operation is the Python list operation applied to the presented list before (`list.remove` deletes the first
equal element; when it raises `ValueError` the list — and the file — stay as they are) -/
theorem records_list_semantics2 {R : Type} [DecidableEq R] (F : Fmt R) (P : R → Prop) (hmem : F.OkMem P) (f : RecFile)
    (hf : Inv F P f) (hl : Loads F P f.source) (op : Op2 R) (hop : ∀ r ∈ op.recs, P r) :
    (f.step2 F op).records F = op.onList (f.records F) :=
  RecFile.records_list_semantics2 F P hmem f hf hl op hop

/-- … for every history, starting from the freshly opened file -/
theorem records_history2 {R : Type} [DecidableEq R] (F : Fmt R) (P : R → Prop) (hmem : F.OkMem P)
    (source : List RecFile.Str) (hsrc : ∀ l ∈ source, '\n' ∉ l) (hl : Loads F P source) (ops : List (Op2 R))
    (hops : ∀ op ∈ ops, ∀ r ∈ op.recs, P r) :
    ((RecFile.open source).run2 F ops).records F = ops.foldl (fun l op => op.onList l) (source.map F.load) := by
  rw [← WindVerif.RecFile.records_open F source]
  exact WindVerif.RecFile.records_run2 F P hmem ops _ (WindVerif.RecFile.inv_open F P source hsrc) hl hops

/-- non-vacuity: `remove` of a record whose first occurrence is a needlessly quoted source line, then `clear` of a file
whose position 1 does not load (one field only): the positions behind it are popped, it stays and `load` raises -/
example :
    let F := csvFmt ',' 2
    let f := (RecFile.open ["x,y".toList, "\"a\",\"b\"".toList, "a,b".toList])
    (f.removeRec F ["a".toList, "b".toList]).toOption.map (·.slots) = some [.src 0, .src 2] ∧
    f.records F = [["x".toList, "y".toList], ["a".toList, "b".toList], ["a".toList, "b".toList]].map some ∧
    f.clearRec F = (⟨f.source, []⟩, none) ∧
    (RecFile.open ["x,y".toList, "lonely".toList, "a,b".toList]).clearRec F =
      (⟨["x,y".toList, "lonely".toList, "a,b".toList], [.src 0, .src 1]⟩, some .loadError) := by
  decide +kernel

/-- non-vacuity: a csv file of three lines (one field needlessly quoted), `f[1] = …`, `insert(0, …)`, `reverse()`:
the stored slots, the presented records and the saved text -/
example :
    let F := csvFmt ',' 2
    let f := (RecFile.open ["a,\"b\"".toList, "c,d".toList, "e,\"f,g\"".toList]).run F
      [.set 1 ["x".toList, "y,z".toList], .insert 0 ["i".toList, []], .reverse]
    f.slots = [.txt "e,\"f,g\"\r\n".toList, .txt "x,\"y,z\"\r\n".toList, .txt "a,b\r\n".toList, .txt "i,\r\n".toList] ∧
    f.records F = [some ["e".toList, "f,g".toList], some ["x".toList, "y,z".toList], some ["a".toList, "b".toList],
      some ["i".toList, []]] ∧
    f.saveText ['\n'] = "e,\"f,g\"\r\nx,\"y,z\"\r\na,b\r\ni,\r\n".toList := by
  decide +kernel

/-- an untouched line is copied verbatim (the needless quotes stay), an edited one is re-serialised -/
example :
    let F := csvFmt ',' 2
    let f := (RecFile.open ["a,\"b\"".toList, "c,d".toList]).run F [.set 1 ["x".toList, "y".toList]]
    f.saveText ['\n'] = "a,\"b\"\nx,y\r\n".toList := by
  decide +kernel

/-- the hypotheses of `save_untouched` / `save_edited` / `rec_reverse_spec` on that file: position 0 still points to source
line 0, which carries no line break; `f[-1] = …` succeeds at position 1; every position loads and survives `save` + `load` -/
example :
    let F := csvFmt ',' 2
    let f := RecFile.open ["a,\"b\"".toList, "c,d".toList]
    f.slots[0]? = some (.src 0) ∧ f.source[0]? = some "a,\"b\"".toList ∧ '\n' ∉ "a,\"b\"".toList ∧
    Py.index f.slots.length (-1) = some 1 ∧
    (f.setRec F (-1) ["x".toList, "y".toList]).toOption = some ⟨f.source, [.src 0, .txt "x,y\r\n".toList]⟩ ∧
    f.records F = [["a".toList, "b".toList], ["c".toList, "d".toList]].map some ∧
    (∀ r ∈ [["a".toList, "b".toList], ["c".toList, "d".toList]], F.load (F.save r) = some r) := by
  decide +kernel

end WindVerif.C12

namespace WindVerif.C12
open WindVerif.LineFile

/-- with the empty ending the saved text is the concatenation of the lines (each without trailing line breaks) -/
theorem save_empty_ending (f : LF) (ls : List Str) (h : Good f ls) (hc : f.closed = false) :
    ∃ f', f.save [] = .ok (f', (ls.map rstripNL).flatten) ∧ SameButCursor f f' :=
  LineFile.save_empty_ending f ls h hc

/-- … for lines that carry no line break it is the plain concatenation -/
theorem save_empty_ending_nonl (f : LF) (ls : List Str) (h : Good f ls) (hc : f.closed = false)
    (hnl : ∀ l ∈ ls, '\n' ∉ l) :
    ∃ f', f.save [] = .ok (f', ls.flatten) ∧ SameButCursor f f' := by
  have hid : ls.map rstripNL = ls :=
    (List.map_congr_left fun l hl => rstripNL_nonl (hnl l hl)).trans (List.map_id ls)
  simpa only [hid] using save_empty_ending f ls h hc

/-- the saved text has the sum of the line lengths plus `n` times the length of the ending — in characters and in bytes
(utf-8) -/
theorem save_ending_length (f : LF) (ls : List Str) (h : Good f ls) (hc : f.closed = false) (le : Str) :
    ∃ f' out, f.save le = .ok (f', out) ∧
      out.length = (ls.map (fun l => (rstripNL l).length)).sum + ls.length * le.length ∧
      byteLen out = (ls.map (fun l => byteLen (rstripNL l))).sum + ls.length * byteLen le :=
  LineFile.save_ending_length f ls h hc le

/-- the seeded variant (`line_ending = line_ending or "\n"`) agrees with `save` for every non-empty ending … -/
theorem saveOrDefault_nonempty (f : LF) (le : Str) (hne : le ≠ []) : f.saveOrDefault le = f.save le := by
  rw [LF.saveOrDefault, if_neg hne]

/-- … and differs on the empty one: lines `a`, `b` are saved as `ab`, the variant writes `a\nb\n` -/
theorem save_or_default_wrong :
    let f := (LF.new "a\nb\n".toList (some [0, 2])).open
    (f.save []).toOption.map (·.2) = some "ab".toList ∧
    (f.saveOrDefault []).toOption.map (·.2) = some "a\nb\n".toList ∧
    (f.save []).toOption.map (·.2) ≠ (f.saveOrDefault []).toOption.map (·.2) :=
  LineFile.save_or_default_wrong 

/-- non-vacuity: the file of the witness is opened and presents the lines `a`, `b` (no line breaks in them); with a
two-character ending and a non-ASCII line the saved text and its two lengths -/
example : Good (LF.new "a\nb\n".toList (some [0, 2])).open ["a".toList, "b".toList] ∧
    (LF.new "a\nb\n".toList (some [0, 2])).open.closed = false ∧ (∀ l ∈ ["a".toList, "b".toList], '\n' ∉ l) :=
  ⟨LineFile.save_or_default_witness_good.1, LineFile.save_or_default_witness_good.2, by decide +kernel⟩
example :
    let f := ((LF.new "a\nb\n".toList (some [0, 2])).open).insert 1 "é".toList
    (f.save "\r\n".toList).toOption.map (fun r => (r.2, r.2.length, byteLen r.2)) = some ("a\r\né\r\nb\r\n".toList, 9, 10) := by
  decide +kernel

end WindVerif.C12
