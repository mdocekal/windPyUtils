import WindVerif.Proofs.RecordFile
import WindVerif.Proofs.JsonRecords
import WindVerif.Proofs.RecFileM
import WindVerif.Proofs.RecFileSeq
/-!
# C13 — Records survive save/load and record files are sequences of records

Property theorems only; the proofs are in `Proofs/Records.lean` (csv, buffer, JSON glue), `Proofs/Json.lean` (the JSON model),
`Proofs/JsonRecords.lean` (`JsonRecord` over it) and `Proofs/RecordFile.lean` (record files as line files).  CSV/TSV: the writer (QUOTE_MINIMAL, excel dialect) followed by the
reader state machine is the identity on field lists without line breaks — also for the line as a saved record file holds it
(trailing `\r`) and for a bare row —, a saved row is a single line, and the class-level buffer is reset after every row.
JSON: under the stated library assumption (`json_glue`), and — the assumption discharged — for the executable model of
`json.dumps(…, separators=(',', ':'))` / `json.loads` in `Model/Json.lean` (`json_encode_single_line`, `json_decode_encode`,
`json_record_roundtrip`).  Record files are the line files of C11/C12 with `load` applied per line, so
index / slice / iteration / edit / save / reopen follow from C11, C12 and the round trips here.
-/
namespace WindVerif.C13
open WindVerif.Records

/-- `load(save(r))` at the level of the field strings: any fields without line breaks (delimiters, quotes, blanks,
backslashes, non-ASCII, empty, a lone empty field) survive writer + reader -/
theorem csv_roundtrip (d : Char) (hd : IsDelim d) (fs : List Str) (h : ∀ f ∈ fs, Clean f) :
    parseRow d (writeRow d fs) = .ok fs :=
  WindVerif.Records.csv_roundtrip d hd fs h

/-- the same for the line as a saved record file holds it: `save` strips the final `\n` and writes its own, so the reader
sees the row with a trailing `\r` -/
theorem csv_roundtrip_cr (d : Char) (hd : IsDelim d) (fs : List Str) (h : ∀ f ∈ fs, Clean f) :
    parseRow d (writeRow d fs).dropLast = .ok fs :=
  WindVerif.Records.csv_roundtrip_cr d hd fs h

/-- and for a row without any terminator (a file written by other means), except that the empty row has no fields -/
theorem csv_roundtrip_bare (d : Char) (hd : IsDelim d) (fs : List Str) (h : ∀ f ∈ fs, Clean f) (hne : fs ≠ []) :
    parseRow d ((writeRow d fs).dropLast.dropLast) = .ok fs :=
  WindVerif.Records.csv_roundtrip_bare d hd fs h hne

/-- `save(r)` occupies a single line: the only line break is the final terminator -/
theorem csv_single_line (d : Char) (hd : IsDelim d) (fs : List Str) (h : ∀ f ∈ fs, Clean f) :
    ∃ body, writeRow d fs = body ++ ['\r', '\n'] ∧ '\n' ∉ body ∧ '\r' ∉ body :=
  WindVerif.Records.csv_single_line d hd fs h

/-- the shared class-level buffer: whatever the sequence of saves (across record classes), each returns exactly its own
row and leaves the buffer empty at position 0 -/
theorem buffer_reset (rows : List (Char × List Str)) :
    (saveMany ⟨[], 0⟩ rows).2 = rows.map (fun r => writeRow r.1 r.2) ∧ (saveMany ⟨[], 0⟩ rows).1 = ⟨[], 0⟩ :=
  WindVerif.Records.buffer_reset rows

theorem json_glue {V} (L : JsonLib V) (names : List Str) (r : List (Str × V)) (hr : r.map (·.1) = names) :
    jsonLoad L names (jsonSave L r) = some r ∧ '\n' ∉ jsonSave L r ∧ '\r' ∉ jsonSave L r :=
  WindVerif.Records.json_glue L names r hr

/-- the modelled `json.dumps(v, separators=(',', ':'))` (`ensure_ascii=True`) never emits a line break: its output is
printable ASCII (`WindVerif.Json.encode_printable`) -/
theorem json_encode_single_line (v : WindVerif.Json.JVal) (h : WindVerif.Json.WF v) :
    '\n' ∉ WindVerif.Json.encode v ∧ '\r' ∉ WindVerif.Json.encode v :=
  WindVerif.Json.encode_single_line v h

/-- the modelled `json.loads` inverts the modelled `json.dumps` on well-formed values (float lexemes of the shape of
`repr(float)`, dicts with pairwise distinct keys) -/
theorem json_decode_encode (v : WindVerif.Json.JVal) (h : WindVerif.Json.WF v) :
    WindVerif.Json.decode (WindVerif.Json.encode v) = some v :=
  WindVerif.Json.decode_encode v h

/-- `json_glue` without the library assumption: a `JsonRecord` (pairwise distinct field names, well-formed values) survives
save/load through the modelled `json` module, and the saved text is a single line -/
theorem json_record_roundtrip (names : List Str) (hn : names.Nodup) (r : List (Str × WindVerif.Json.JVal))
    (hr : r.map (·.1) = names) (hv : ∀ kv ∈ r, WindVerif.Json.WF kv.2) :
    jsonRecordLoad names (jsonRecordSave r) = some r ∧ '\n' ∉ jsonRecordSave r ∧ '\r' ∉ jsonRecordSave r :=
  WindVerif.Records.json_record_roundtrip names hn r hr hv

/-- a mutable record file that is edited, saved and reopened yields the same records: the `'\n'`-delimited lines of the saved
file (C11's reference `refLines`), each parsed by the record class, are exactly the records stored (C12's `save_spec` gives
the saved bytes, `savedLine` is one of its lines for a record stored through `__setitem__`/`insert`) -/
theorem record_file_roundtrip (d : Char) (hd : IsDelim d) (rs : List (List Str)) (h : ∀ r ∈ rs, ∀ f ∈ r, Clean f) :
    (WindVerif.LineFile.refLines ((rs.map (savedLine d)).flatten)).map (parseRow d) = rs.map Except.ok :=
  WindVerif.Records.record_file_roundtrip d hd rs h

/-- non-vacuity: delimiter, quote and a lone empty field -/
example : writeRow ',' ["a,b".toList, "q\"".toList] = "\"a,b\",\"q\"\"\"\r\n".toList ∧ writeRow ',' [[]] = "\"\"\r\n".toList := by
  decide +kernel
example : Clean "a,b \"x\"".toList := by unfold Clean; decide +kernel

end WindVerif.C13

/-!
## Mutable record files, for any record format with a round trip (model `Model/RecFile.lean`, proofs `Proofs/RecFileM.lean`)

`Fmt` is a record class (`load`, `save`); `Fmt.Ok` / `Fmt.OkMem` / `Fmt.OneLine` say that on a domain `P` of records the
saved text loads back — as the saved file holds it (`rstrip("\n")`: for csv the `"\r"` of `"\r\n"` stays) and as the memory
holds it — and occupies one line.  `Inv` is the invariant of a history of edits, `Loads` says every source line loads into
the domain.  Instances: csv / tsv with `k` string fields (from `csv_roundtrip_cr`, not re-proved) and json.
-/
namespace WindVerif.C13
open WindVerif.RecFile
open WindVerif.Records (IsDelim Clean)

/-- every edit keeps the invariant and never writes the source -/
theorem recfile_inv_step {R : Type} (F : Fmt R) (P : R → Prop) (hmem : F.OkMem P) {f : RecFile} (hf : Inv F P f)
    (op : Op R) (hop : ∀ r ∈ op.recs, P r) (hl : op = .reverse → Loads F P f.source) :
    Inv F P (f.step F op) ∧ (f.step F op).source = f.source :=
  WindVerif.RecFile.inv_step F P hmem hf op hop hl

/-- the freshly opened file is in the invariant: from a list of lines, and from the characters of a file (read through the
offset index of `Model/LineFile.lean`) -/
theorem recfile_inv_open {R : Type} (F : Fmt R) (P : R → Prop) (source : List RecFile.Str)
    (h : ∀ l ∈ source, '\n' ∉ l) (content : RecFile.Str) :
    Inv F P (RecFile.open source) ∧ Inv F P (RecFile.ofContent content) ∧
    readLines content = WindVerif.LineFile.refLines content :=
  ⟨WindVerif.RecFile.inv_open F P source h, WindVerif.RecFile.inv_ofContent F P content,
    WindVerif.RecFile.readLines_eq content⟩

/-- save (ending `"\n"`) + reopen of a file in the invariant presents the same records -/
theorem recfile_reopen_state {R : Type} (F : Fmt R) (P : R → Prop) (hok : F.Ok P) (hmem : F.OkMem P)
    (h1 : F.OneLine P) (f : RecFile) (hf : Inv F P f) :
    (RecFile.ofContent (f.saveText ['\n'])).records F = f.records F :=
  WindVerif.RecFile.reopen_of_inv F P hok hmem h1 f hf

/-- EDIT, SAVE, REOPEN for every sequence of `set` / `insert` / `append` / `del` / `pop` / `reverse` with records of the
domain (if `reverse` occurs, every source line must load into the domain: `reverse` re-serialises what it loads) -/
theorem recfile_reopen_roundtrip {R : Type} (F : Fmt R) (P : R → Prop) (hok : F.Ok P) (hmem : F.OkMem P)
    (h1 : F.OneLine P) (source : List RecFile.Str) (hsrc : ∀ l ∈ source, '\n' ∉ l) (ops : List (Op R))
    (hops : ∀ op ∈ ops, ∀ r ∈ op.recs, P r) (hl : Op.reverse ∈ ops → Loads F P source) :
    (RecFile.ofContent (((RecFile.open source).run F ops).saveText ['\n'])).records F =
      ((RecFile.open source).run F ops).records F :=
  WindVerif.RecFile.reopen_roundtrip F P hok hmem h1 source hsrc ops hops hl

/-- `reverse()` re-serialises: on a file all of whose `n` positions load, every position except the middle one (`n` odd)
holds afterwards the `save()` text of the record presented before at the mirrored position; the middle one is not written -/
theorem reverse_reserialises {R : Type} (F : Fmt R) (f : RecFile) (rs : List R) (hrs : f.records F = rs.map some)
    (j : Nat) (hj : j < f.slots.length) :
    (2 * j + 1 ≠ f.slots.length → ∃ r, (f.records F)[f.slots.length - 1 - j]? = some (some r) ∧
      (f.reverse F).1.slots[j]? = some (.txt (F.save r))) ∧
    (2 * j + 1 = f.slots.length → (f.reverse F).1.slots[j]? = f.slots[j]?) :=
  WindVerif.RecFile.reverse_reserialises F f rs hrs j hj

/-- the csv / tsv format with `k` string fields has the three round-trip properties on records of `k` fields without line
breaks (from `csv_roundtrip_cr`, `csv_roundtrip`, `rstripNL_writeRow`) -/
theorem csvFmt_ok (d : Char) (hd : IsDelim d) (k : Nat) :
    (csvFmt d k).Ok (csvP k) ∧ (csvFmt d k).OkMem (csvP k) ∧ (csvFmt d k).OneLine (csvP k) :=
  ⟨WindVerif.RecFile.csvFmt_ok d hd k, WindVerif.RecFile.csvFmt_okMem d hd k, WindVerif.RecFile.csvFmt_oneLine d hd k⟩

/-- a mutable csv / tsv record file: edit with records whose fields carry no line breaks, save, reopen — the same records -/
theorem csv_recfile_reopen (d : Char) (hd : IsDelim d) (k : Nat) (content : RecFile.Str)
    (ops : List (Op (List RecFile.Str))) (hops : ∀ op ∈ ops, ∀ r ∈ op.recs, csvP k r)
    (hl : Op.reverse ∈ ops → Loads (csvFmt d k) (csvP k) (readLines content)) :
    (RecFile.ofContent (((RecFile.ofContent content).run (csvFmt d k) ops).saveText ['\n'])).records (csvFmt d k) =
      ((RecFile.ofContent content).run (csvFmt d k) ops).records (csvFmt d k) :=
  WindVerif.RecFile.csv_recfile_reopen d hd k content ops hops hl

/-- the same for `JsonRecord` over the modelled `json` module (pairwise distinct field names, well-formed values) -/
theorem json_recfile_reopen (names : List RecFile.Str) (hn : names.Nodup) (content : RecFile.Str)
    (ops : List (Op (List (RecFile.Str × WindVerif.Json.JVal)))) (hops : ∀ op ∈ ops, ∀ r ∈ op.recs, jsonP names r)
    (hl : Op.reverse ∈ ops → Loads (jsonFmt names) (jsonP names) (readLines content)) :
    (RecFile.ofContent (((RecFile.ofContent content).run (jsonFmt names) ops).saveText ['\n'])).records (jsonFmt names) =
      ((RecFile.ofContent content).run (jsonFmt names) ops).records (jsonFmt names) :=
  WindVerif.RecFile.json_recfile_reopen names hn content ops hops hl

/-!
### the inherited `Sequence` / `MutableSequence` interface of record files: `index`, `count`, `in`, `remove`, `clear`

Model `Model/RecFileSeq.lean` (the mixin methods of `_collections_abc.py` over `f[i]` / the overridden `__iter__`, which
return *loaded records*; they are compared with `==`), proofs `Proofs/RecFileSeq.lean`; `Py.pyListIndex` = `list.index`
(`Core/PyListSeq.lean`, characterised in C11).
-/

/-- `f.index(r, start, stop)` on a file all of whose positions load is `rs.index(r, start, stop)` of the presented
records `rs` — the same position, `ValueError` exactly when the list raises it -/
theorem recfile_index_spec {R : Type} [DecidableEq R] (F : Fmt R) (f : RecFile) (rs : List R)
    (hrs : f.records F = rs.map some) (r : R) (start stop : Option Int) :
    f.indexRec F r start stop = match Py.pyListIndex rs r start stop with
      | some k => .ok k
      | none => .error .valueError :=
  WindVerif.RecFile.indexRec_spec F f rs hrs r start stop

/-- … and on ANY file: a position `k` inside the bounds that does not load, with only loading records different from `r`
between the start and `k`, makes `index` raise the exception of `load` for position `k` (as `f[k]` does) -/
theorem recfile_index_load_error {R : Type} [DecidableEq R] (F : Fmt R) (f : RecFile) (r : R)
    (start stop : Option Int) (k : Nat)
    (h1 : WindVerif.LineFile.seqStart f.slots.length start ≤ k)
    (h2 : WindVerif.LineFile.seqBelow (WindVerif.LineFile.seqStop f.slots.length stop) k = true)
    (h3 : (f.records F)[k]? = some none)
    (h4 : ∀ j, WindVerif.LineFile.seqStart f.slots.length start ≤ j → j < k →
      ∃ x, (f.records F)[j]? = some (some x) ∧ x ≠ r) :
    f.indexRec F r start stop = .error (.loadError k) :=
  WindVerif.RecFile.indexRec_load_error F f r start stop k h1 h2 h3 h4

/-- the fuel of the `index` loop suffices on every record file -/
theorem recfile_indexGo_fuel {R : Type} [DecidableEq R] (F : Fmt R) (f : RecFile) (r : R) (stop : Option Int)
    (fuel p : Nat) (h : f.slots.length - p < fuel) :
    f.indexGo F r stop fuel p = f.indexGo F r stop (f.slots.length - p + 1) p :=
  WindVerif.RecFile.indexGo_fuel F f r stop fuel p h

/-- `f.count(r)` when every position loads: `rs.count(r)` -/
theorem recfile_count_spec {R : Type} [DecidableEq R] (F : Fmt R) (f : RecFile) (rs : List R)
    (hrs : f.records F = rs.map some) (r : R) : f.countRec F r = .ok (rs.count r) :=
  WindVerif.RecFile.countRec_spec F f rs hrs r

/-- `r in f` when every position loads: membership in the presented records -/
theorem recfile_contains_spec {R : Type} [DecidableEq R] (F : Fmt R) (f : RecFile) (rs : List R)
    (hrs : f.records F = rs.map some) (r : R) : f.containsRec F r = .ok (decide (r ∈ rs)) :=
  WindVerif.RecFile.containsRec_spec F f rs hrs r

/-- `r in f` / `f.count(r)` on ANY file are scans of the presented list (`containsList` / `countList`: `True` at the first
equal record resp. the number of equal records; the exception of `load` at the first position met that does not load) -/
theorem recfile_contains_count_general {R : Type} [DecidableEq R] (F : Fmt R) (f : RecFile) (r : R) :
    f.containsRec F r = containsList r (f.records F) 0 ∧ f.countRec F r = countList r (f.records F) 0 0 :=
  ⟨WindVerif.RecFile.containsRec_eq F f r, WindVerif.RecFile.countRec_eq F f r⟩

/-- `f.remove(r)` when every position loads: the first record equal to `r` is removed; `ValueError` when there is none -/
theorem recfile_remove_spec {R : Type} [DecidableEq R] (F : Fmt R) (f : RecFile) (rs : List R)
    (hrs : f.records F = rs.map some) (r : R) :
    (r ∈ rs → ∃ f', f.removeRec F r = .ok f' ∧ f'.records F = (rs.erase r).map some ∧ f'.source = f.source ∧
      f'.slots = f.slots.eraseIdx (rs.idxOf r)) ∧
    (r ∉ rs → f.removeRec F r = .error .valueError) :=
  WindVerif.RecFile.removeRec_spec F f rs hrs r

/-- `f.clear()` when every position loads: nothing is left, nothing is raised, the source is as before -/
theorem recfile_clear_spec {R : Type} (F : Fmt R) (f : RecFile) (rs : List R) (hrs : f.records F = rs.map some) :
    f.clearRec F = (⟨f.source, []⟩, none) :=
  WindVerif.RecFile.clearRec_spec F f rs hrs

/-- COMPARISON IS ON RECORDS, NOT ON TEXTS: a file whose position 0 holds ANY text that loads as `a` (say a needlessly
quoted source line) — `index(a)` is `0` and `remove(a)` removes position 0, whatever equal records follow -/
theorem index_first_equal {R : Type} [DecidableEq R] (F : Fmt R) (f : RecFile) (a : R) (s : Slot) (rest : List Slot)
    (hs : f.slots = s :: rest) (hl : F.load (f.raw s) = some a) :
    f.indexRec F a none none = .ok 0 ∧ f.removeRec F a = .ok { f with slots := rest } :=
  WindVerif.RecFile.index_first_equal F f a s rest hs hl

/-- … in particular after `append(a)`: the appended record (stored in canonical form at the end) is found at position 0,
and `remove(a)` deletes the source line, not the appended text -/
theorem index_first_equal_append {R : Type} [DecidableEq R] (F : Fmt R) (f : RecFile) (a : R) (s : Slot)
    (rest : List Slot) (hs : f.slots = s :: rest) (hl : F.load (f.raw s) = some a) :
    (f.appendRec F a).indexRec F a none none = .ok 0 ∧
    (f.appendRec F a).removeRec F a = .ok { f with slots := rest ++ [.txt (F.save a)] } :=
  WindVerif.RecFile.index_first_equal_append F f a s rest hs hl

/-- every edit, `remove` and `clear` included, keeps the invariant and never writes the source (`remove` may be given
any record: it only compares) -/
theorem recfile_inv_step2 {R : Type} [DecidableEq R] (F : Fmt R) (P : R → Prop) (hmem : F.OkMem P) {f : RecFile}
    (hf : Inv F P f) (op : Op2 R) (hop : ∀ r ∈ op.recs, P r) (hl : op = .base .reverse → Loads F P f.source) :
    Inv F P (f.step2 F op) ∧ (f.step2 F op).source = f.source :=
  WindVerif.RecFile.inv_step2 F P hmem hf op hop hl

/-- … for a whole history -/
theorem recfile_inv_run2 {R : Type} [DecidableEq R] (F : Fmt R) (P : R → Prop) (hmem : F.OkMem P) (ops : List (Op2 R))
    (f : RecFile) (hf : Inv F P f) (hops : ∀ op ∈ ops, ∀ r ∈ op.recs, P r)
    (hl : Op2.base .reverse ∈ ops → Loads F P f.source) :
    Inv F P (f.run2 F ops) ∧ (f.run2 F ops).source = f.source :=
  WindVerif.RecFile.inv_run2 F P hmem ops f hf hops hl

/-- the presented records after a history with `remove` / `clear` are the Python list operations applied in turn -/
theorem recfile_records_run2 {R : Type} [DecidableEq R] (F : Fmt R) (P : R → Prop) (hmem : F.OkMem P)
    (ops : List (Op2 R)) (f : RecFile) (hf : Inv F P f) (hl : Loads F P f.source)
    (hops : ∀ op ∈ ops, ∀ r ∈ op.recs, P r) :
    (f.run2 F ops).records F = ops.foldl (fun l op => op.onList l) (f.records F) :=
  WindVerif.RecFile.records_run2 F P hmem ops f hf hl hops

/-- EDIT, SAVE, REOPEN with `remove` and `clear` in the history (`Op2`; if `reverse` occurs, every source line must load
into the domain) -/
theorem recfile_reopen_roundtrip2 {R : Type} [DecidableEq R] (F : Fmt R) (P : R → Prop) (hok : F.Ok P)
    (hmem : F.OkMem P) (h1 : F.OneLine P) (source : List RecFile.Str) (hsrc : ∀ l ∈ source, '\n' ∉ l)
    (ops : List (Op2 R)) (hops : ∀ op ∈ ops, ∀ r ∈ op.recs, P r) (hl : Op2.base .reverse ∈ ops → Loads F P source) :
    (RecFile.ofContent (((RecFile.open source).run2 F ops).saveText ['\n'])).records F =
      ((RecFile.open source).run2 F ops).records F :=
  WindVerif.RecFile.reopen_roundtrip2 F P hok hmem h1 source hsrc ops hops hl

/-- the csv / tsv instance (`k` string fields) -/
theorem csv_recfile_reopen2 (d : Char) (hd : IsDelim d) (k : Nat) (source : List RecFile.Str)
    (hsrc : ∀ l ∈ source, '\n' ∉ l) (ops : List (Op2 (List RecFile.Str)))
    (hops : ∀ op ∈ ops, ∀ r ∈ op.recs, csvP k r)
    (hl : Op2.base .reverse ∈ ops → Loads (csvFmt d k) (csvP k) source) :
    (RecFile.ofContent (((RecFile.open source).run2 (csvFmt d k) ops).saveText ['\n'])).records (csvFmt d k) =
      ((RecFile.open source).run2 (csvFmt d k) ops).records (csvFmt d k) :=
  WindVerif.RecFile.reopen_roundtrip2 (csvFmt d k) (csvP k) (WindVerif.RecFile.csvFmt_ok d hd k)
    (WindVerif.RecFile.csvFmt_okMem d hd k) (WindVerif.RecFile.csvFmt_oneLine d hd k) source hsrc ops hops hl

/-! non-vacuity of the inherited interface: a source whose line 0 is the NON-canonical text `"a","b"` of the record
`(a, b)`, line 1 another record; `append((a, b))` stores the canonical `a,b\r\n` at the end -/

/-- `index((a, b))` is 0 (not 2), `count` is 2, `remove((a, b))` deletes the source line and keeps the appended text; the
saved file then holds the canonical form; an absent record: `ValueError`; bounds as `list.index` -/
example :
    let F := csvFmt ',' 2
    let a := ["a".toList, "b".toList]
    let f := (RecFile.open ["\"a\",\"b\"".toList, "c,d".toList]).appendRec F a
    f.slots = [.src 0, .src 1, .txt "a,b\r\n".toList] ∧
    (f.indexRec F a none none).toOption = some 0 ∧
    (f.indexRec F a (some 1) none).toOption = some 2 ∧
    (f.indexRec F a (some (-2)) (some (-1))).toOption = none ∧
    Py.pyListIndex [a, ["c".toList, "d".toList], a] a (some 1) none = some 2 ∧
    Py.pyListIndex [a, ["c".toList, "d".toList], a] a (some (-2)) (some (-1)) = none ∧
    (f.countRec F a).toOption = some 2 ∧ (f.containsRec F a).toOption = some true ∧
    (f.containsRec F ["a".toList, "x".toList]).toOption = some false ∧
    (f.removeRec F a).toOption.map (·.slots) = some [.src 1, .txt "a,b\r\n".toList] ∧
    (f.removeRec F a).toOption.map (·.saveText ['\n']) = some "c,d\na,b\r\n".toList ∧
    (f.removeRec F ["a".toList, "x".toList]).toOption = none ∧
    f.records F = [a, ["c".toList, "d".toList], a].map some := by
  decide +kernel

/-- the hypotheses of `index_first_equal` on that file -/
example :
    let F := csvFmt ',' 2
    let f := RecFile.open ["\"a\",\"b\"".toList, "c,d".toList]
    f.slots = .src 0 :: [.src 1] ∧ F.load (f.raw (.src 0)) = some ["a".toList, "b".toList] := by
  decide +kernel

/-- a position that does not load (one field only) before the record looked for: `index`, `count`, `in`, `remove` raise
the exception of `load` for position 1; with a start behind it `index` finds the record; `clear` pops position 2, then
stops at position 1 -/
example :
    let F := csvFmt ',' 2
    let a := ["a".toList, "b".toList]
    let f := RecFile.open ["c,d".toList, "lonely".toList, "a,b".toList]
    errOf (f.indexRec F a none none) = some (.loadError 1) ∧ errOf (f.countRec F a) = some (.loadError 1) ∧
    errOf (f.containsRec F a) = some (.loadError 1) ∧ errOf (f.removeRec F a) = some (.loadError 1) ∧
    (f.indexRec F a (some 2) none).toOption = some 2 ∧
    (f.containsRec F ["c".toList, "d".toList]).toOption = some true ∧
    f.clearRec F = (⟨f.source, [.src 0, .src 1]⟩, some .loadError) := by
  decide +kernel

/-- a history with `remove` and `clear`: the written records are in the domain, the source lines load -/
example :
    let F := csvFmt ',' 2
    let f := (RecFile.open ["\"a\",\"b\"".toList, "c,d".toList]).run2 F
      [.base (.append ["a".toList, "b".toList]), .remove ["a".toList, "b".toList], .base .reverse]
    f.records F = [["a".toList, "b".toList], ["c".toList, "d".toList]].map some ∧
    f.saveText ['\n'] = "a,b\r\nc,d\r\n".toList ∧
    (f.step2 F .clear).slots = [] := by
  decide +kernel

/-! non-vacuity: a 3-line csv source with a needlessly quoted field; `f[1] = …`, `insert(0, …)`, `reverse()`, save, reopen -/

/-- the characters of the source are read as these three lines -/
example : readLines "a,\"b\"\nc,d\ne,\"f,g\"\n".toList = ["a,\"b\"".toList, "c,d".toList, "e,\"f,g\"".toList] := by
  rw [WindVerif.RecFile.readLines_eq]; decide +kernel

/-- every source line loads into the domain (the hypothesis `Loads` that `reverse` needs) -/
example : Loads (csvFmt ',' 2) (csvP 2) ["a,\"b\"".toList, "c,d".toList, "e,\"f,g\"".toList] := by
  intro l hl
  simp only [List.mem_cons, List.not_mem_nil, or_false] at hl
  rcases hl with rfl | rfl | rfl
  · exact ⟨["a".toList, "b".toList], by decide +kernel, by unfold csvP Clean; decide +kernel⟩
  · exact ⟨["c".toList, "d".toList], by decide +kernel, by unfold csvP Clean; decide +kernel⟩
  · exact ⟨["e".toList, "f,g".toList], by decide +kernel, by unfold csvP Clean; decide +kernel⟩

/-- the written records are in the domain -/
example : ∀ op ∈ ([.set 1 ["x".toList, "y,z".toList], .insert 0 ["i".toList, []], .reverse] : List (Op (List RecFile.Str))),
    ∀ r ∈ op.recs, csvP 2 r := by
  intro op hop
  simp only [List.mem_cons, List.not_mem_nil, or_false] at hop
  rcases hop with rfl | rfl | rfl <;> intro r hr <;> simp only [Op.recs, List.mem_cons, List.not_mem_nil, or_false] at hr
  · subst hr; unfold csvP Clean; decide +kernel
  · subst hr; unfold csvP Clean; decide +kernel

/-- the concrete run: the saved text, and what reading its lines back presents (the text is split by `refLines`, which
`readLines_eq` proves equal to reading through the offset index) -/
example :
    let F := csvFmt ',' 2
    let f := (RecFile.open ["a,\"b\"".toList, "c,d".toList, "e,\"f,g\"".toList]).run F
      [.set 1 ["x".toList, "y,z".toList], .insert 0 ["i".toList, []], .reverse]
    f.saveText ['\n'] = "e,\"f,g\"\r\nx,\"y,z\"\r\na,b\r\ni,\r\n".toList ∧
    (RecFile.open (WindVerif.LineFile.refLines (f.saveText ['\n']))).records F = f.records F ∧
    f.records F = [some ["e".toList, "f,g".toList], some ["x".toList, "y,z".toList], some ["a".toList, "b".toList],
      some ["i".toList, []]] := by
  decide +kernel

/-- `reverse` on an odd-length file leaves the middle position unwritten -/
example : ((RecFile.open ["a,b".toList, "c,\"d\"".toList, "e,f".toList]).reverse (csvFmt ',' 2)) =
    (⟨["a,b".toList, "c,\"d\"".toList, "e,f".toList], [.txt "e,f\r\n".toList, .src 1, .txt "a,b\r\n".toList]⟩, none) := by
  decide +kernel

/-- a line with too few fields raises in the middle of `reverse`: the first swap stays -/
example : ((RecFile.open ["a,b".toList, "c".toList, "e,f".toList, "g,h,i".toList]).reverse (csvFmt ',' 2)) =
    (⟨["a,b".toList, "c".toList, "e,f".toList, "g,h,i".toList],
      [.txt "g,h\r\n".toList, .src 1, .src 2, .txt "a,b\r\n".toList]⟩, some .loadError) := by
  decide +kernel

end WindVerif.C13
