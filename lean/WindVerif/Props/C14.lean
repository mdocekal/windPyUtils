import WindVerif.Proofs.Storage
import WindVerif.Proofs.StorageSession
import WindVerif.Proofs.StorageSeq
/-!
# C14 — TextFileStorage: what is stored under an id is what any process reads back

Property theorems about the interleaving model `Model/Storage.lean` (proved in `Proofs/Storage*.lean`; properties that
nothing else needs are proved in place): any number of
processes with their own copy of the storage object, arbitrary scripts of store / read / len / is_contiguous / iterate /
close operations (`close` = `close()` or leaving the `with storage:` block; the process goes on, its next store re-opens its
file in append mode, read handles are re-opened on demand) (`NoFlush`: `flush()` is a separate theorem, it requires
everybody else to be done), pre-sized index or not, and
**every interleaving** of their visible operations (`Reach presize scripts s`).  `resultOf scripts s i k` is the k-th
operation of process `i` together with its result once it has one.
-/
namespace WindVerif.C14
open WindVerif.Storage

/-- published ⇒ durable, under every interleaving of any number of writers and readers: an index entry always points at a
complete line (text and terminator) in an existing file -/
theorem published_durable (presize : Nat) (scripts : List (List Op)) (hnf : NoFlush scripts) (s : St)
    (hr : Reach presize scripts s) (g : Nat) (l : List (Option Nat)) (h : entryLine s g = some l) :
    ∃ t, l = [some t, none] :=
  WindVerif.Storage.published_durable presize scripts hnf s hr g l h

/-- an index entry, once published, never changes, and neither does the line it points at (files are append-only) -/
theorem published_stable (presize : Nat) (scripts : List (List Op)) (hnf : NoFlush scripts) (s : St)
    (hr : Reach presize scripts s) (sched : List Nat) (s' : St) (hs : run s sched = some s') (g : Nat)
    (l : List (Option Nat)) (h : entryLine s g = some l) : entryLine s' g = some l ∧ s'.index[g]? = s.index[g]? :=
  WindVerif.Storage.published_stable presize scripts hnf s hr sched s' hs g l h

/-- what is stored under an id is what any process reads back: a finished read of `g` either raised `IndexError` or
returned exactly the complete line of the text of a store of `g` that succeeded — never empty, partial or another id's -/
theorem read_spec (presize : Nat) (scripts : List (List Op)) (hnf : NoFlush scripts) (s : St)
    (hr : Reach presize scripts s) (i k g : Nat) (r : Res) (h : resultOf scripts s i k = some (.read g, r)) :
    r = .indexError ∨ ∃ j k' t, resultOf scripts s j k' = some (.store g t, .ok) ∧ r = .text [some t, none] :=
  WindVerif.Storage.read_spec presize scripts hnf s hr i k g r h

/-- storing twice under one id: at most one store of `g` succeeds, every other finished one raised `ValueError` -/
theorem store_once (presize : Nat) (scripts : List (List Op)) (hnf : NoFlush scripts) (s : St)
    (hr : Reach presize scripts s) (i k j k' g t t' : Nat) (r r' : Res)
    (h1 : resultOf scripts s i k = some (.store g t, r)) (h2 : resultOf scripts s j k' = some (.store g t', r'))
    (hne : (i, k) ≠ (j, k')) : (r = .ok ∨ r = .valueError) ∧ ¬ (r = .ok ∧ r' = .ok) :=
  WindVerif.Storage.store_once presize scripts hnf s hr i k j k' g t t' r r' h1 h2 hne

/-- a successful store makes the id stored; a failed one (ValueError) found it stored -/
theorem store_result (presize : Nat) (scripts : List (List Op)) (hnf : NoFlush scripts) (s : St)
    (hr : Reach presize scripts s) (i k g t : Nat) (r : Res) (h : resultOf scripts s i k = some (.store g t, r)) :
    stored s g = true :=
  WindVerif.Storage.store_result presize scripts hnf s hr i k g t r h

/-- the counters, whenever nobody is inside a critical section: `len()` is the number of stored ids and `_waiting_for` is
the smallest id that is not stored -/
theorem counters_quiescent (presize : Nat) (scripts : List (List Op)) (hnf : NoFlush scripts) (s : St)
    (hr : Reach presize scripts s) (hq : s.lock = none) :
    s.cnt = ((List.range s.index.length).filter (stored s)).length ∧ (∀ g, g < s.wf → stored s g = true) ∧
    stored s s.wf = false :=
  WindVerif.Storage.counters_quiescent presize scripts hnf s hr hq

/-- `is_contiguous()` (evaluated in such a state) is true exactly when the stored ids are `0 .. len-1` -/
theorem contiguous_iff (presize : Nat) (scripts : List (List Op)) (hnf : NoFlush scripts) (s : St)
    (hr : Reach presize scripts s) (hq : s.lock = none) :
    (s.wf = s.cnt) ↔ (∀ g, stored s g = true ↔ g < s.cnt) :=
  WindVerif.Storage.contiguous_iff presize scripts hnf s hr hq

/-- iteration (which holds the lock throughout) yields every stored text in id order, skipping gaps -/
theorem iter_spec (presize : Nat) (scripts : List (List Op)) (hnf : NoFlush scripts) (s s' : St)
    (hr : Reach presize scripts s) (i : Nat) (p : Proc) (hp : s.procs[i]? = some p) (hpc : p.pc = .iRel)
    (hs : step s i = some s') :
    ∃ p', s'.procs[i]? = some p' ∧
      p'.results = p.results ++ [.texts ((List.range s.index.length).filterMap (entryLine s))] :=
  WindVerif.Storage.iter_spec presize scripts hnf s s' hr i p hp hpc hs

/-- `flush()`: running the flushing process through its critical section (it holds the lock, nobody else can interfere with
the shared state) removes every listed file and leaves the storage in its initial state -/
theorem flush_clears (s : St) (i : Nat) (p : Proc) (hp : s.procs[i]? = some p) (hpc : p.pc = .fPathsGet)
    (hlock : s.lock = some i) (hk : p.tmp = 0) :
    ∃ sched s' p', run s sched = some s' ∧ (∀ j ∈ sched, j = i) ∧ s'.procs[i]? = some p' ∧ p'.pc = .fRel ∧
      s'.paths = [] ∧ s'.index = [] ∧ s'.cnt = 0 ∧ s'.wf = 0 ∧
      (∀ w, some w ∈ s.paths → fileOf s' w = none) :=
  WindVerif.Storage.flush_clears s i p hp hpc hlock hk

/-- non-vacuity: a reader asks for id 1 before the writer's store (`IndexError`) and again after it (the complete line) -/
example : ((run (start (init 0 [[.store 1 5], [.read 1, .read 1]]))
    ([1, 1, 1] ++ List.replicate 19 0 ++ List.replicate 8 1)).map (fun s => s.procs.map (·.results))) =
    some [[.ok], [.indexError, .text [some 5, none]]] := by decide +kernel
example : NoFlush [[.store 1 5], [.read 1, .read 1]] := by unfold NoFlush; decide

/-- `close()` is local: a `close` step changes nothing but the closing process's handles and results — index, paths,
counters, lock, files and every other process are unchanged; the closing process keeps its identifier (so its next store
re-opens the same file), has no handle left and has recorded `ok` -/
theorem close_local (s s' : St) (i : Nat) (p : Proc) (hp : s.procs[i]? = some p) (hpc : p.pc = .xClose)
    (hs : step s i = some s') :
    s'.index = s.index ∧ s'.paths = s.paths ∧ s'.cnt = s.cnt ∧ s'.wf = s.wf ∧ s'.lock = s.lock ∧ s'.files = s.files ∧
    (∀ j, j ≠ i → s'.procs[j]? = s.procs[j]?) ∧
    ∃ p', s'.procs[i]? = some p' ∧ p'.results = p.results ++ [.ok] ∧ p'.ident = p.ident ∧ p'.wOpen = false ∧
      p'.rOpen = [] :=
  WindVerif.Storage.close_local hp hpc hs

/-- the session goes on: when the operation after a `close` is a store and the process already has a file, that store starts
with the append branch of `open()` (`open(self._file_paths[self._process_identifier], "a")`) -/
theorem close_then_store_reopens (s s' : St) (i : Nat) (p : Proc) (hp : s.procs[i]? = some p) (hpc : p.pc = .xClose)
    (hs : step s i = some s') (g t : Nat) (rest : List Op) (hsc : p.script = .store g t :: rest)
    (hid : p.ident.isSome = true) :
    ∃ p', s'.procs[i]? = some p' ∧ p'.pc = .oPathsGet ∧ p'.gid = g ∧ p'.text = t ∧ p'.script = rest := by
  have hi := (List.getElem?_eq_some_iff.1 hp).1
  simp only [step, getProc_eq, hp, hpc, Option.some.injEq] at hs
  subst hs
  refine ⟨_, List.getElem?_set_self hi, ?_⟩
  obtain ⟨w, hw⟩ := Option.isSome_iff_exists.1 hid
  simp [finish, fetch, hsc, hw]

/-- a store — the first one of a session and every later one, in particular the one that re-opened the file in append mode
after a `close` — writes at the end of the process's own file: at the moment the entry is published (`index.setitem`) the
file is what was there when `tell()` was evaluated (`c`, whose length is the offset `tell()` reported) followed by exactly
the line of the text; the new entry is (own file, length of `c`) and denotes that line.  (That no earlier line of the file
changes afterwards is `files_append_only` / `published_stable`.) -/
theorem reopen_appends (presize : Nat) (scripts : List (List Op)) (hnf : NoFlush scripts) (s s' : St)
    (hr : Reach presize scripts s) (i : Nat) (p : Proc) (hp : s.procs[i]? = some p) (hpc : p.pc = .sIdxSet)
    (hs : step s i = some s') :
    ∃ w c, p.ident = some w ∧ fileOf s w = some (c ++ [some p.text, none]) ∧ c.length = p.off ∧
      s'.index[p.gid]? = some (some (w, c.length)) ∧ fileOf s' w = fileOf s w ∧
      entryLine s' p.gid = some [some p.text, none] :=
  WindVerif.Storage.reopen_appends presize scripts hnf s s' hr i p hp hpc hs

/-- files are append-only under every interleaving, sessions included (a handle re-opened with "a" does not truncate):
whatever is in a file stays where it is -/
theorem files_append_only (presize : Nat) (scripts : List (List Op)) (hnf : NoFlush scripts) (s : St)
    (hr : Reach presize scripts s) (sched : List Nat) (s' : St) (hs : run s sched = some s') (w : Nat)
    (c : List (Option Nat)) (h : fileOf s w = some c) : ∃ d, fileOf s' w = some (c ++ d) :=
  WindVerif.Storage.files_append_only presize scripts hnf s hr sched s' hs w c h

/-- non-vacuity: process 0 stores id 0, closes (leaves its `with` block), stores id 1 — which re-opens its file in append
mode —, and process 1 reads both texts (the first one between the store and the close, the second one afterwards through the
read handle it already has) -/
example : ((run (start (init 0 [[.store 0 5, .close, .store 1 6], [.read 0, .read 1]]))
    (List.replicate 23 0 ++ List.replicate 8 1 ++ [0] ++ List.replicate 20 0 ++ List.replicate 6 1)).map
      (fun s => s.procs.map (·.results))) =
    some [[.ok, .ok, .ok], [.text [some 5, none], .text [some 6, none]]] := by decide +kernel
/-- … both lines are in the one file of process 0, the second entry at the offset where the first line ended -/
example : ((run (start (init 0 [[.store 0 5, .close, .store 1 6], [.read 0, .read 1]]))
    (List.replicate 23 0 ++ List.replicate 8 1 ++ [0] ++ List.replicate 20 0 ++ List.replicate 6 1)).map
      (fun s => (s.index, s.files))) =
    some ([some (0, 0), some (0, 2)], [(0, [some 5, none, some 6, none])]) := by decide +kernel
example : NoFlush [[.store 0 5, .close, .store 1 6], [.read 0, .read 1]] := by unfold NoFlush; decide
/-- the hypotheses of `close_local` / `close_then_store_reopens`: after its first store (23 steps) process 0 is about to
close, with a store as the rest of its script and an identifier; the step is enabled and leads to the append branch with
no handle open -/
example : ((run (start (init 0 [[.store 0 5, .close, .store 1 6], [.read 0, .read 1]])) (List.replicate 23 0)).bind
      (fun s => s.procs[0]?)).map (fun p => (p.pc, p.script, p.ident, p.wOpen)) =
    some (.xClose, [.store 1 6], some 0, true) := by decide +kernel
example : ((run (start (init 0 [[.store 0 5, .close, .store 1 6], [.read 0, .read 1]])) (List.replicate 24 0)).bind
      (fun s => s.procs[0]?)).map (fun p => (p.pc, p.script, p.ident, p.wOpen)) =
    some (.oPathsGet, [], some 0, false) := by decide +kernel
/-- the hypotheses of `reopen_appends`: 35 steps of process 0 bring its second store to `index.setitem`, with the offset
`tell()` reported on the re-opened handle = 2 = the length of the file before the second line -/
example : ((run (start (init 0 [[.store 0 5, .close, .store 1 6], [.read 0, .read 1]])) (List.replicate 35 0)).bind
      (fun s => s.procs[0]?)).map (fun p => (p.pc, p.gid, p.off)) = some (.sIdxSet, 1, 2) := by decide +kernel
example : ((run (start (init 0 [[.store 0 5, .close, .store 1 6], [.read 0, .read 1]])) (List.replicate 36 0)).map
      (fun s => (s.index, s.files))) =
    some ([some (0, 0), some (0, 2)], [(0, [some 5, none, some 6, none])]) := by decide +kernel

end WindVerif.C14

/-!
A store whose write raises: the sequential specification (`Model/StorageSeq.lean`).  One process, one operation at a
time; the state is `_index` (id → text or `None`), `_stored_cnt`, `_waiting_for`.
`store g t false` is a `__setitem__` whose `print(data, file=self._file, flush=True)` raises (e.g. a text the encoding of the
file cannot hold): the index has been extended with `None`s, nothing else has happened.  The names carry the prefix `seq_`
(`store_once` and `contiguous_iff` above are the theorems about the interleaving model).
-/
namespace WindVerif.C14
open WindVerif.StorageSeq

/-- a store of a free id whose write raises leaves the storage as it was: result `raised`; the map id → text, every read
(reading `g` raises `IndexError`), `len`, `_waiting_for`, `is_contiguous` and the iteration are unchanged; a following store
of `g` succeeds and is read back -/
theorem seq_failed_store_frees_id (s : St) (g t t' : Nat) (hfree : s.get g = none) :
    (store s g t false).2 = .raised ∧
    (∀ i, (store s g t false).1.get i = s.get i) ∧
    read (store s g t false).1 g = .indexError ∧
    (∀ i, read (store s g t false).1 i = read s i) ∧
    len (store s g t false).1 = len s ∧
    (store s g t false).1.waiting = s.waiting ∧
    contiguous (store s g t false).1 = contiguous s ∧
    iter (store s g t false).1 = iter s ∧
    (store (store s g t false).1 g t' true).2 = .ok ∧
    read (store (store s g t false).1 g t' true).1 g = .text t' :=
  WindVerif.StorageSeq.failed_store_frees_id s g t t' hfree

/-- non-vacuity: id 2 stored, then a store of id 0 raises (id 0 is free) -/
example : (run St.empty [.store 2 7 true]).get 0 = none := by decide +kernel

/-- a successful store of `g`; every further store of `g` (any text, write raising or not) raises `ValueError` and
changes nothing -/
theorem seq_store_once (s : St) (g t t' : Nat) (ok' : Bool) (hfree : s.get g = none) :
    (store s g t true).2 = .ok ∧ read (store s g t true).1 g = .text t ∧
    store (store s g t true).1 g t' ok' = ((store s g t true).1, .valueError) :=
  WindVerif.StorageSeq.store_once s g t t' ok' hfree

/-- a store (successful or not) does not touch the other ids -/
theorem seq_store_other (s : St) (g t i : Nat) (ok : Bool) (hne : i ≠ g) : (store s g t ok).1.get i = s.get i :=
  WindVerif.StorageSeq.store_other s g t i ok hne

/-- after any script (failed stores included) from `TextFileStorage(path, number_of_data=n)`: `len` is the number of ids
holding a text, and the number of texts iterated -/
theorem seq_len_is_count (n : Nat) (ops : List Op) :
    len (run (St.init n) ops) = (storedIds (run (St.init n) ops)).length ∧
    len (run (St.init n) ops) = (iter (run (St.init n) ops)).length :=
  WindVerif.StorageSeq.len_is_count n ops

/-- after any script: `is_contiguous()` is true exactly when the ids holding a text are `0 … len-1` -/
theorem seq_contiguous_iff (n : Nat) (ops : List Op) :
    contiguous (run (St.init n) ops) = true ↔
      ∀ i, ((run (St.init n) ops).get i).isSome = true ↔ i < len (run (St.init n) ops) :=
  WindVerif.StorageSeq.contiguous_iff n ops

/-- after any script: `_waiting_for` is the smallest id that holds no text -/
theorem seq_waiting_is_first_gap (n : Nat) (ops : List Op) :
    (∀ i, i < (run (St.init n) ops).waiting → ((run (St.init n) ops).get i).isSome = true) ∧
    (run (St.init n) ops).get (run (St.init n) ops).waiting = none := by
  have hinv := inv_run ops _ (inv_init n)
  unfold St.get
  rw [hinv.2]
  exact ⟨pl_prefix _, by simpa using pl_stop (run (St.init n) ops).index⟩

/-- iteration yields the texts in the order of their ids: `storedIds` is strictly increasing, holds exactly the ids with a
text, and the iteration is the list of their texts -/
theorem seq_iter_sorted_by_id (s : St) :
    (storedIds s).Pairwise (· < ·) ∧ (∀ i, i ∈ storedIds s ↔ (s.get i).isSome = true) ∧
    (iter s).map some = (storedIds s).map s.get :=
  ⟨storedIds_sorted s, mem_storedIds s, iter_storedIds s⟩

/-- `flush()` gives the initial state: nothing stored, nothing to read or iterate, contiguous; every id can be stored again -/
theorem seq_flush_resets (s : St) (g t : Nat) :
    (step s .flush).1 = St.empty ∧ len (step s .flush).1 = 0 ∧ contiguous (step s .flush).1 = true ∧
    iter (step s .flush).1 = [] ∧ read (step s .flush).1 g = .indexError ∧
    (store (step s .flush).1 g t true).2 = .ok ∧ read (store (step s .flush).1 g t true).1 g = .text t := by
  have h := StorageSeq.store_once St.empty g t 0 true rfl
  exact ⟨rfl, rfl, rfl, rfl, rfl, h.1, h.2.1⟩

/-- the fuel of the `_waiting_for` loop of the model suffices: when it stops, the condition of the `while` is false -/
theorem seq_advance_fuel (idx : List (Option Nat)) (stored w : Nat) :
    ¬ (advance idx stored (stored - w) w < stored ∧ (idx.getD (advance idx stored (stored - w) w) none).isSome = true) :=
  WindVerif.StorageSeq.advance_fuel idx stored w

/-- a session: id 2 stored; a store of id 0 raises — id 0 unreadable, `len` 1, not contiguous, iteration `[7]`; id 0 stored
again with another text, read back; a second store of it raises `ValueError`; id 1 fills the gap (contiguous, iteration in
id order); `flush`, `len` 0 -/
example : results St.empty
    [.store 2 7 true, .store 0 5 false, .read 0, .len, .contiguous, .iter, .store 0 6 true, .read 0, .store 0 8 true,
     .store 1 9 true, .contiguous, .iter, .len, .flush, .len, .read 2] =
    [.ok, .raised, .indexError, .num 1, .bool false, .texts [7], .ok, .text 6, .valueError,
     .ok, .bool true, .texts [6, 9, 7], .num 3, .ok, .num 0, .indexError] := by decide +kernel

/-- the same failed store on a pre-sized index -/
example : results (St.init 3) [.store 1 4 false, .len, .iter, .contiguous, .store 1 4 true, .read 1] =
    [.raised, .num 0, .texts [], .bool true, .ok, .text 4] := by decide +kernel

end WindVerif.C14
