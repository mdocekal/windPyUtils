import WindVerif.Proofs.FMap
/-!
# C05 — FunctorMap and mul_p_map return map(f, data) in input order

Property theorems only (proofs in `Proofs/FMap*.lean`) about the interleaving model `Model/FMap.lean` of `FunctorMap`
(`cfg.mulP = false`: one set of workers, any number of consecutive calls) and `mul_p_map` (`cfg.mulP = true`), for every
number of workers ≥ 1, every list of calls (incl. empty inputs and fewer chunks than workers) and every interleaving
(`Reach cfg s`).  Chunks are indices; the step from chunk indices to `f(x)` values is `Pool.yielded_ordered` (`Proofs/PoolData.lean`).
-/
namespace WindVerif.C05
open WindVerif.FMap

/-- at every moment of a `FunctorMap` call, under every interleaving of the workers, what the caller has received so far
is `0, 1, …, m-1` in this order: nothing lost, duplicated, reordered or invented -/
theorem fmap_prefix (cfg : Cfg) (hw : Wellformed cfg) (s : St) (h : Reach cfg s) (k : Nat) :
    ∃ m, outOf s k = List.range m :=
  FMap.fmap_prefix cfg hw s h k

/-- when the caller's whole program is over (all consecutive calls on one `FunctorMap`, resp. all `mul_p_map` calls), call
number `k+1` has handed over exactly its chunks `0 … n-1` in input order, for every call of the history: the calls are
independent -/
theorem fmap_result (cfg : Cfg) (hw : Wellformed cfg) (s : St) (h : Reach cfg s) (hd : s.ppc = .done)
    (k n : Nat) (hk : cfg.calls[k]? = some n) : outOf s (k + 1) = List.range n :=
  FMap.fmap_result cfg hw s h hd k n hk

/-- no deadlock: as long as the caller has not finished, some thread can move -/
theorem fmap_no_deadlock (cfg : Cfg) (hw : Wellformed cfg) (s : St) (h : Reach cfg s) (hnd : s.ppc ≠ .done) :
    ∃ t, (step s t).isSome :=
  FMap.fmap_no_deadlock cfg hw s h hnd

/-- termination: every schedule is finite — there is a bound on the length of all executions of a configuration (so every
maximal execution ends, and by `fmap_no_deadlock` it ends with the caller finished) -/
theorem fmap_terminates (cfg : Cfg) (hw : Wellformed cfg) :
    ∃ bound, ∀ sched s, run (init cfg) sched = some s → sched.length ≤ bound :=
  FMap.fmap_terminates cfg hw

/-- when everything is over no worker process is left running (every `None` sentinel was consumed by exactly one worker) -/
theorem fmap_workers_exited (cfg : Cfg) (hw : Wellformed cfg) (s : St) (h : Reach cfg s) (hd : s.ppc = .done) :
    (∀ w ∈ s.workers, w.pc = .exited) ∧ s.workQ = [] ∧ s.resQ = [] :=
  FMap.fmap_workers_exited cfg hw s h hd

/-- non-vacuity: two workers, results arriving out of order, still handed over in order -/
example : ((run (init ⟨2, 2, false, [2], false⟩) [.p, .p, .p, .p, .p, .p, .w 1, .w 0, .w 0, .w 1, .p, .p]).map (·.out)) =
    some [(1, 0), (1, 1)] := by decide
example : Wellformed ⟨2, 2, false, [2], false⟩ := by unfold Wellformed; decide

/-- non-vacuity of the `exact` caller (closes the generator at the last item of a call): after the last result of call 1 the
very next step of `P` is already the first `put` of call 2 -/
example : ((run (init ⟨2, 2, false, [2, 1], true⟩) [.p, .p, .p, .w 0, .w 0, .p, .p, .p, .w 0, .w 0, .p]).map
    (fun s => (s.out, s.callNo))) = some ([(1, 0), (1, 1)], 2) := by decide

end WindVerif.C05
