import WindVerif.Proofs.Buffers
import WindVerif.Proofs.RingSeq
import WindVerif.Proofs.BuffersFail
/-!
# C15 — Reorder buffers emit each item once in serial order; ring buffer keeps last N

Property theorems (proofs in `Proofs/Buffers.lean`; what follows from a lemma there in a few lines is proved in place).
Histories: `Ev.feed i` / `Ev.drain` for `Buffer`, a list of serials for `PrintBuffer`, `some x` = put / `none` = clear for
`CircularBuffer`; the item of serial `i` is `f i`.
-/
namespace WindVerif.C15
open WindVerif.Buffers

/-- Every serial fed at most once, drains at arbitrary points: at every moment the concatenated output is exactly the
items of serials `0 … waiting_for-1` in ascending order (so: each once, in order, nothing before all its predecessors,
`waiting_for` = number emitted), everything below `waiting_for` has been fed, the buffer holds exactly the fed serials
that are not yet emitted, and `len` is their number. -/
theorem buffer_emits_in_order (f : Nat → Nat) (evs : List Ev) (hnd : (serials evs).Nodup) :
    let r := runBuf f Buf.empty [] evs
    r.2 = (List.range r.1.wf).map f ∧
    (∀ j, j < r.1.wf → j ∈ serials evs) ∧
    (∀ i, (∃ x, (i, x) ∈ r.1.storage) ↔ (i ∈ serials evs ∧ r.1.wf ≤ i)) ∧
    (∀ i x, (i, x) ∈ r.1.storage → x = f i) ∧
    r.1.len = (serials evs).length - r.1.wf :=
  Buffers.buffer_emits_in_order f evs hnd

/-- right after a drain `waiting_for` is the least serial that has not been fed -/
theorem buffer_wf_after_drain (f : Nat → Nat) (evs : List Ev) (hnd : (serials evs).Nodup) :
    (runBuf f Buf.empty [] (evs ++ [.drain])).1.wf ∉ serials evs :=
  Buffers.buffer_wf_after_drain f evs hnd

/-- feeding a permutation of `0..n-1` and draining at the end emits everything exactly once, in order -/
theorem buffer_complete (f : Nat → Nat) (evs : List Ev) (n : Nat) (hperm : (serials evs).Perm (List.range n)) :
    let r := runBuf f Buf.empty [] (evs ++ [.drain])
    r.2 = (List.range n).map f ∧ r.1.wf = n ∧ r.1.len = 0 :=
  Buffers.buffer_complete f evs n hperm

/-- an already emitted position is rejected with `AttributeError` and changes nothing -/
theorem buffer_put_emitted (b : Buf) (i x : Nat) (h : i < b.wf) : b.put i x = .error .attributeError :=
  if_pos h

theorem buffer_flush (b : Buf) : b.flush = Buf.empty :=
  rfl

/-- Every serial printed at most once (any order): the printed output is always exactly the items of serials
`0 … waiting_for-1` in order, `waiting_for` is the least serial not yet given, and the buffer holds exactly the given
serials above it. -/
theorem printbuffer_in_order (f : Nat → Nat) (sns : List Nat) (hnd : sns.Nodup) :
    let b := runP f PBuf.empty sns
    b.out = (List.range b.wf).map f ∧
    b.wf ∉ sns ∧ (∀ j, j < b.wf → j ∈ sns) ∧
    (∀ i, (∃ x, (i, x) ∈ b.buffer) ↔ (i ∈ sns ∧ b.wf < i)) ∧
    (∀ i x, (i, x) ∈ b.buffer → x = f i) ∧
    b.len = sns.length - b.wf :=
  Buffers.printbuffer_in_order f sns hnd

/-- `print` reports whether it printed: exactly when the serial is the awaited one -/
theorem printbuffer_print_result (b : PBuf) (sn x : Nat) : (b.print sn x).2 = decide (sn = b.wf) := by
  unfold PBuf.print; split <;> simp [*]

/-- `flush()` prints everything stored in ascending serial order, empties the buffer and moves `waiting_for` behind the
biggest stored serial; on an empty buffer it does nothing -/
theorem printbuffer_flush (b : PBuf) (hk : (b.buffer.map (·.1)).Nodup) :
    (b.buffer = [] → b.flush = b) ∧
    (b.buffer ≠ [] →
      ∃ sorted : List (Nat × Nat), sorted.Perm b.buffer ∧ (sorted.map (·.1)).Pairwise (· < ·) ∧
        b.flush.out = b.out ++ sorted.map (·.2) ∧ b.flush.buffer = [] ∧
        (∀ p ∈ b.buffer, p.1 < b.flush.wf) ∧ (∃ p ∈ b.buffer, b.flush.wf = p.1 + 1)) :=
  Buffers.printbuffer_flush b hk

theorem printbuffer_clear (b : PBuf) : b.clear.buffer = [] ∧ b.clear.wf = 0 ∧ b.clear.out = b.out :=
  ⟨rfl, rfl, rfl⟩

/-- after any sequence of put/clear the ring presents exactly the last `min(k, c)` items put since the last clear,
oldest first -/
theorem ring_spec (c : Nat) (hc : 0 < c) (evs : List (Option Nat)) :
    let r := runRing (Ring.new c) [] evs
    r.1.toList = r.2.drop (r.2.length - c) ∧ r.1.size = min r.2.length c ∧ r.1.maxSize = c :=
  Buffers.ring_spec c hc evs

/-- indexing agrees with the presented list and rejects every index outside `0 .. len-1` -/
theorem ring_get_spec (c : Nat) (hc : 0 < c) (evs : List (Option Nat)) (i : Int) :
    let r := (runRing (Ring.new c) [] evs).1
    (0 ≤ i ∧ i < r.size → ∃ x, r.get i = .ok x ∧ r.toList[i.toNat]? = some x) ∧
    (¬ (0 ≤ i ∧ i < r.size) → r.get i = .error .indexError) :=
  Buffers.ring_get_spec c hc evs i

/-- non-vacuity: a concrete out-of-order history -/
example : (runBuf (· + 100) Buf.empty [] [.feed 1, .feed 2, .drain, .feed 0, .drain]).2 = [100, 101, 102] := by decide
example : (serials [Ev.feed 1, .feed 2, .drain, .feed 0, .drain]).Nodup := by decide
example : ((runRing (Ring.new 3) [] [some 1, some 2, some 3, some 4]).1).toList = [2, 3, 4] := by decide

/-! ### The inherited `collections.abc.Sequence` interface of `CircularBuffer`

Models in `Model/RingSeq.lean` (the mixin methods as CPython 3.12 `_collections_abc.py` writes them, on top of `Ring.get` =
`__getitem__` and `Ring.size` = `__len__`), proofs in `Proofs/RingSeq.lean`.  They agree with the builtin list holding the
presented content (`Ring.toList`, characterised by `ring_spec`); the only hypothesis is `0 < max_size`, which the
constructor asserts (`ring_maxSize_pos`: every reachable state meets it). -/

/-- every state reached from `CircularBuffer(c)`, `c > 0`, has a positive `max_size` -/
theorem ring_maxSize_pos (c : Nat) (hc : 0 < c) (evs : List (Option Nat)) :
    0 < (runRing (Ring.new c) [] evs).1.maxSize :=
  Buffers.ring_maxSize_pos c hc evs

/-- `list(ring)` through `Sequence.__iter__` (index until `IndexError`) is the presented list -/
theorem ringIter_spec (r : Ring) (h : 0 < r.maxSize) : ringIter r = r.toList :=
  Buffers.ringIter_spec r h

/-- the iteration loop has ended within `len + 1` steps: more fuel changes nothing -/
theorem ringIter_fuel (r : Ring) (h : 0 < r.maxSize) (extra : Nat) :
    ringIterLoop r (r.size + 1 + extra) 0 = ringIter r :=
  (ringIterLoop_spec r h (r.size + 1 + extra) 0 (by omega)).trans (ringIter_spec r h).symm

/-- `value in ring` -/
theorem ringContains_iff (r : Ring) (v : Nat) (h : 0 < r.maxSize) : ringContains r v = true ↔ v ∈ r.toList :=
  Buffers.ringContains_iff r v h

/-- `reversed(ring)` -/
theorem ringReversed_spec (r : Ring) (h : 0 < r.maxSize) : ringReversed r = .ok r.toList.reverse :=
  Buffers.ringReversed_spec r h

/-- `ring.count(value)` -/
theorem ringCount_spec (r : Ring) (v : Nat) (h : 0 < r.maxSize) : ringCount r v = r.toList.count v :=
  Buffers.ringCount_spec r v h

/-- `ring.index(value, start, stop)` of the mixin agrees with `list.index` of the presented list for ALL arguments (negative,
too big, missing): the same position, or `ValueError` in both -/
theorem ringIndex_spec (r : Ring) (v : Nat) (start stop : Option Int) (h : 0 < r.maxSize) :
    ringIndex r v start stop =
      (match pyListIndex r.toList v start stop with
       | some i => .ok i
       | none => .error .valueError) :=
  Buffers.ringIndex_spec r v start stop h

/-- non-vacuity: a wrapped-around buffer; negative and missing bounds -/
example : 0 < ((runRing (Ring.new 3) [] [some 1, some 2, some 3, some 2]).1).maxSize := by decide
example : let r := (runRing (Ring.new 3) [] [some 1, some 2, some 3, some 2]).1
    ringIter r = [2, 3, 2] ∧ (ringReversed r).toOption = some [2, 3, 2] ∧ ringCount r 2 = 2 ∧ ringContains r 1 = false ∧
    (ringIndex r 2 none none).toOption = some 0 ∧ (ringIndex r 2 (some (-2)) none).toOption = some 2 ∧
    (ringIndex r 2 (some 1) (some (-1))).toOption = none ∧ (ringIndex r 2 (some (-9)) (some 9)).toOption = some 0 ∧
    pyListIndex [2, 3, 2] 2 (some (-2)) none = some 2 ∧ pyListIndex [2, 3, 2] 2 (some 1) (some (-1)) = none := by
  dsimp only; decide

/-! ### `PrintBuffer` with an output stream that can fail: nothing is lost

Model in `Model/BuffersFail.lean`: the stream is an oracle `ok : Nat → Bool` (does the `n`-th attempted write of a value
succeed?), the state `PBufF` is `PBuf` plus the number of attempts; `printF` / `flushF` follow the Python statement
order (write FIRST, then delete and count) and return the state as the raised exception leaves it.  Histories: `EvF.print sn` /
`EvF.flush`, run by `runG` from `GSt.init`; the value of serial `i` is `f i`.  The ghost list `taken` holds the serials whose
value the buffer has taken over (written or stored), `refused` those of the `print` calls that raised at the write of their own
value — such a call has changed nothing (`printbuffer_refused_unchanged`), the value is still with the caller. -/

/-- a `print` call for the awaited serial whose first write fails raises and has changed nothing but the attempt counter (the
caller still has the value and may call again) -/
theorem printbuffer_refused_unchanged {ok : Nat → Bool} {s : PBufF} {sn : Nat} (x : Nat) (h : refuses ok s sn = true) :
    s.printF ok sn x = ({ s with att := s.att + 1 }, .error ()) :=
  printF_refused x h

/-- the fuel `printF` gives to its `while` loop suffices: when the loop ends without an exception its condition is false -/
theorem printbuffer_chase_fuel {ok : Nat → Bool} (fuel : Nat) (s : PBufF) (hf : s.buffer.length < fuel)
    (hr : (PBufF.chaseF ok fuel s).2 = .ok ()) :
    sGet (PBufF.chaseF ok fuel s).1.buffer (PBufF.chaseF ok fuel s).1.wf = none :=
  chaseF_fuel fuel s hf hr

/-- Nothing is lost: every serial number fed at most once, ANY failure oracle, `flush` calls anywhere.  Every serial of a `print`
call is in exactly one of three places, exactly once: among the written values (`outS`: the serials in output order), in the
buffer (with its value), or refused (that call raised at its first write and changed nothing). -/
theorem nothing_lost (ok : Nat → Bool) (f : Nat → Nat) (evs : List EvF) (hnd : (printed evs).Nodup) :
    let g := runG ok f GSt.init evs
    ∃ outS : List Nat,
      g.st.out = outS.map f ∧
      (outS ++ g.st.buffer.map (·.1) ++ g.refused).Perm (printed evs) ∧
      (∀ i x, (i, x) ∈ g.st.buffer → x = f i) ∧
      (∀ i, i ∈ printed evs →
        outS.count i + (g.st.buffer.map (·.1)).count i + g.refused.count i = 1) ∧
      (∀ i, i ∈ g.refused → i ∉ g.taken) :=
  have ⟨⟨outS, h, _⟩, hp⟩ := runG_init_inv ok f evs (fresh_of_nodup ok f evs hnd)
  have ⟨a, b, c⟩ := three_places h.perm hp hnd
  ⟨outS, h.out_eq, a, h.val, b, c⟩

/-- The same with the weakest form of "unique serials": no `print` call for a serial whose value has already been taken, so
calling again after a refusal is allowed (`Fresh`; unique serials imply it: `fresh_of_unique`).  The serials taken are
exactly the written ones and the stored ones, each once; every `print` call has either taken its value or refused it. -/
theorem nothing_lost_retry (ok : Nat → Bool) (f : Nat → Nat) (evs : List EvF) (hf : Fresh ok f GSt.init evs) :
    let g := runG ok f GSt.init evs
    ∃ outS : List Nat,
      g.st.out = outS.map f ∧
      g.taken.Nodup ∧ g.taken.Perm (outS ++ g.st.buffer.map (·.1)) ∧
      (∀ i x, (i, x) ∈ g.st.buffer → x = f i) ∧
      (g.taken ++ g.refused).Perm (printed evs) :=
  have ⟨⟨outS, h, _⟩, hp⟩ := runG_init_inv ok f evs hf
  ⟨outS, h.out_eq, h.nd, h.perm, h.val, hp⟩

theorem fresh_of_unique (ok : Nat → Bool) (f : Nat → Nat) (evs : List EvF) (hnd : (printed evs).Nodup) :
    Fresh ok f GSt.init evs :=
  fresh_of_nodup ok f evs hnd

/-- While no `flush` has been called, the output is the values of serials `0 … waiting_for-1` in order, failures included;
everything below `waiting_for` has been taken, the buffer holds exactly the taken serials from `waiting_for` on (after a failed
write inside `print` this includes `waiting_for` itself: that value is held until `flush`). -/
theorem output_in_order_until_flush (ok : Nat → Bool) (f : Nat → Nat) (evs : List EvF)
    (hf : Fresh ok f GSt.init evs) (hn : noFlush evs) :
    let g := runG ok f GSt.init evs
    g.st.out = (List.range g.st.wf).map f ∧
    (∀ j, j < g.st.wf → j ∈ g.taken) ∧
    (∀ i, (∃ x, (i, x) ∈ g.st.buffer) ↔ (i ∈ g.taken ∧ g.st.wf ≤ i)) ∧
    (∀ i x, (i, x) ∈ g.st.buffer → x = f i) ∧
    g.st.len = g.taken.length - g.st.wf := by
  obtain ⟨⟨outS, h, ho⟩, -⟩ := runG_init_inv ok f evs hf
  cases ho hn
  exact h.in_order

/-- Recovery: when the stream works from some point on, one `flush` does not raise, empties the buffer, and the output then
contains the value of every serial taken exactly once (`outS`: the serials in output order; what had been written stays in
front); without an earlier `flush` the output is in ascending serial order. -/
theorem recovery (ok : Nat → Bool) (f : Nat → Nat) (evs : List EvF) (hf : Fresh ok f GSt.init evs)
    (hok : ∀ n, (runG ok f GSt.init evs).st.att ≤ n → ok n = true) :
    let g := runG ok f GSt.init evs
    let r := g.st.flushF ok
    r.2 = .ok () ∧ r.1.buffer = [] ∧
    ∃ outS : List Nat, r.1.out = outS.map f ∧ outS.Perm g.taken ∧ g.taken.Nodup ∧
      (∃ rest, r.1.out = g.st.out ++ rest) ∧
      (noFlush evs → outS.Pairwise (· < ·)) :=
  flushF_recovers (runG_init_inv ok f evs hf).1 hok

/-- With a stream that never fails the functions of `PBufF` are `print` / `flush` / `clear` of `PBuf` (so the theorems about
`PBuf` are the special case). -/
theorem agrees_when_ok (s : PBufF) (sn x : Nat) :
    (s.printF (fun _ => true) sn x).1.toPBuf = (s.toPBuf.print sn x).1 ∧
    (s.printF (fun _ => true) sn x).2 = .ok (s.toPBuf.print sn x).2 ∧
    (s.flushF (fun _ => true)).1.toPBuf = s.toPBuf.flush ∧
    (s.flushF (fun _ => true)).2 = .ok () ∧
    s.clear.toPBuf = s.toPBuf.clear :=
  ⟨(printF_allOk s sn x).1, (printF_allOk s sn x).2, (flushF_allOk s).1, (flushF_allOk s).2, rfl⟩

/-- … and the histories of `printbuffer_in_order` are the histories of `PBufF` with that stream -/
theorem histories_agree_when_ok (f : Nat → Nat) (sns : List Nat) (g : GSt) :
    (runG (fun _ => true) f g (sns.map .print)).st.toPBuf = runP f g.st.toPBuf sns ∧
    (runG (fun _ => true) f g (sns.map .print)).taken = g.taken ++ sns :=
  runG_allOk f sns g

/-- The ALTERNATIVE statement order (`printF'`: delete and count first, write afterwards — what a refactoring with `pop` would
produce) loses a value: serial 1 is stored, then serial 0 arrives; its own write (attempt 0) succeeds, the write of the stored
value (attempt 1) fails.  The value 101 of serial 1 is then neither in the output nor held, and `waiting_for` has passed it;
the real order (`printF`, last line) keeps it. -/
theorem delete_before_write_loses :
    let ok : Nat → Bool := fun n => n != 1
    let s1 := (PBufF.empty.printF' ok 1 101).1
    let r := s1.printF' ok 0 100
    let r0 := ((PBufF.empty.printF ok 1 101).1).printF ok 0 100
    s1.buffer = [(1, 101)] ∧
    r.2.toOption = none ∧ r.1.out = [100] ∧ r.1.buffer = [] ∧ r.1.wf = 2 ∧
    101 ∉ r.1.out ∧ 101 ∉ r.1.buffer.map (·.2) ∧
    r0.2.toOption = none ∧ r0.1.out = [100] ∧ r0.1.buffer = [(1, 101)] ∧ r0.1.wf = 1 := by
  dsimp only; decide

/-- non-vacuity: the stream refuses its write number 1 — `print 0` writes its own value, fails at the stored value of serial 1
and raises; serial 2 is stored behind it; the hypotheses of the theorems hold for this history, and one `flush` recovers -/
example : (printed [EvF.print 1, .print 0, .print 2, .flush]).Nodup := by decide
example : Fresh (fun n => n != 1) (· + 100) GSt.init [.print 1, .print 0, .print 2] ∧
    noFlush [EvF.print 1, .print 0, .print 2] := by decide
example : let g := runG (fun n => n != 1) (· + 100) GSt.init [.print 1, .print 0, .print 2]
    g.st.out = [100] ∧ g.st.wf = 1 ∧ g.st.buffer = [(2, 102), (1, 101)] ∧ g.st.att = 2 ∧ g.taken = [1, 0, 2] ∧
    g.refused = [] ∧ (g.st.printF (fun n => n != 1) 3 103).2.toOption = some false := by decide
example : ∀ n, (runG (fun n => n != 1) (· + 100) GSt.init [.print 1, .print 0, .print 2]).st.att ≤ n →
    (fun n => n != 1) n = true := by
  intro n hn
  have e : (runG (fun n => n != 1) (· + 100) GSt.init [.print 1, .print 0, .print 2]).st.att = 2 := by decide
  rw [e] at hn
  simp only [bne_iff_ne, ne_eq]; omega
example : (PBufF.flushF (fun n => n != 1) ⟨⟨[(1, 101)], 1, [100]⟩, 2⟩).1.out = [100, 101] := by
  simp [PBufF.flushF, PBufF.flushLoop, PBufF.write]
/-- non-vacuity of `Fresh` beyond unique serials: the very first write is refused, the caller feeds serial 0 again -/
example : Fresh (fun n => n != 0) (· + 100) GSt.init [.print 1, .print 0, .print 0, .print 2] ∧
    ¬ (printed [EvF.print 1, .print 0, .print 0, .print 2]).Nodup ∧
    refuses (fun n => n != 0) (runG (fun n => n != 0) (· + 100) GSt.init [.print 1]).st 0 = true ∧
    (let g := runG (fun n => n != 0) (· + 100) GSt.init [.print 1, .print 0, .print 0, .print 2]
     g.st.out = [100, 101, 102] ∧ g.taken = [1, 0, 2] ∧ g.refused = [0] ∧ g.st.buffer = []) := by decide

end WindVerif.C15
