import WindVerif.Proofs.IntervalMap
/-!
# C16 — ImmutIntervalMap returns the value of the one interval containing the key

Property theorems only (proofs in `Proofs/IntervalMap.lean`).  `Acceptable items`: every interval has start ≤ end and no
two intervals share a point; `Inside key iv`: `iv.1 ≤ key ≤ iv.2` (both ends inclusive).
-/
namespace WindVerif.C16
open WindVerif.SpanSet

/-- construction succeeds exactly for acceptable dicts, and raises `KeyError` otherwise -/
theorem imapInit_ok_iff (items : List (Span × Nat)) :
    (∃ m, imapInit items = .ok m) ↔ Acceptable items :=
  SpanSet.imapInit_ok_iff items

theorem imapInit_err (items : List (Span × Nat)) (h : ¬ Acceptable items) :
    imapInit items = .error .keyError :=
  SpanSet.imapInit_err items h

theorem imapGet_hit (items : List (Span × Nat)) (m : IMap) (h : imapInit items = .ok m) (key : Int)
    (it : Span × Nat) (hit : it ∈ items) (hin : Inside key it.1) : imapGet m key = .ok it.2 :=
  SpanSet.imapGet_hit items m h key it hit hin

theorem imapGet_miss (items : List (Span × Nat)) (m : IMap) (h : imapInit items = .ok m) (key : Int)
    (hmiss : ∀ it ∈ items, ¬ Inside key it.1) : imapGet m key = .error .keyError :=
  SpanSet.imapGet_miss items m h key hmiss

/-- the containing interval is unique -/
theorem inside_unique (items : List (Span × Nat)) (h : Acceptable items) (key : Int) (a b : Span × Nat)
    (ha : a ∈ items) (hb : b ∈ items) (hka : Inside key a.1) (hkb : Inside key b.1) : a.1 = b.1 :=
  SpanSet.inside_unique items h key a b ha hb hka hkb

theorem imapContains_iff (items : List (Span × Nat)) (m : IMap) (h : imapInit items = .ok m) (key : Int) :
    imapContains m key = true ↔ ∃ it ∈ items, Inside key it.1 :=
  SpanSet.imapContains_iff items m h key

theorem imapLen_spec (items : List (Span × Nat)) (m : IMap) (h : imapInit items = .ok m) :
    imapLen m = items.length :=
  SpanSet.imapLen_spec items m h

/-- iteration lists every `(interval, value)` once, in ascending order -/
theorem imapIter_spec (items : List (Span × Nat)) (m : IMap) (h : imapInit items = .ok m) :
    (imapIter m).Perm items ∧ ((imapIter m).map (·.1.2)).Pairwise (· < ·) ∧
    ((imapIter m).map (·.1.1)).Pairwise (· < ·) :=
  SpanSet.imapIter_spec items m h

/-- non-vacuity: an acceptable dict with a single-point interval, not in ascending order; two intervals that touch in a
point are not acceptable -/
example : Acceptable [((2, 6), 1), ((8, 8), 2), ((-4, 0), 3)] := by
  unfold Acceptable Apart
  decide
example : ¬ Acceptable [((2, 6), 1), ((6, 8), 2)] := by
  unfold Acceptable Apart
  decide

end WindVerif.C16
