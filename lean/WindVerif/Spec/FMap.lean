import WindVerif.Model.FMap
/-! What the theorems about `FunctorMap` / `mul_p_map` (C05) speak of: the reachable states of the interleaving model, the
configurations of the property, and what a call has handed to the caller. -/
namespace WindVerif.FMap

def Reach (cfg : Cfg) (s : St) : Prop := ∃ sched, run (init cfg) sched = some s

/-- the configurations of the property: at least one worker and a bounded, non-zero work queue -/
def Wellformed (cfg : Cfg) : Prop := 1 ≤ cfg.nWorkers ∧ 1 ≤ cfg.workCap

/-- chunk indices handed to the caller by call number `k`, in order -/
def outOf (s : St) (k : Nat) : List Nat := (s.out.filter (fun p => p.1 == k)).map (·.2)

end WindVerif.FMap
