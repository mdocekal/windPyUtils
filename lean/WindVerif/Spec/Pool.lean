import WindVerif.Model.Pool
/-
Specification side of the pool model: reachability, the observables of a call, and the safety invariant (conservation of
chunks) from which the result theorems of C01/C03 follow.  `safeCheck` is the executable twin of `SafeInv` used to fuzz the
invariant on random schedules before proving it.
-/
namespace WindVerif.Pool

/-- reachable from the initial state of a configuration by some schedule -/
def Reach (cfg : Cfg) (s : St) : Prop := ∃ sched, run (init cfg) sched = some s

/-- no injected worker faults (the hypothesis of C01–C03: functors and `begin` return normally) -/
def NoFaults (cfg : Cfg) : Prop := cfg.beginFault = [] ∧ cfg.itemFault = []

/-- chunk indices the current call has emitted so far, in emission order -/
def curOut (s : St) : List Nat := (s.out.filter (fun p => p.1 == s.callNo)).map (·.2)

/-- chunk indices call number `k` emitted -/
def outOf (s : St) (k : Nat) : List Nat := (s.out.filter (fun p => p.1 == k)).map (·.2)

/-- the consumer has not yet started the feeder of the current call -/
def preStart (s : St) : Bool :=
  match s.cpc with
  | .enterStart _ | .readyWait _ | .nextCall | .rInitSet | .rStart | .fInitSet | .wrSending | .wrDataCnt | .fStart => true
  | _ => false

/-- the consumer has left the result loop of the current call -/
def postLoop (s : St) : Bool :=
  match s.cpc with
  | .fStopSet | .fJoin | .rPutNone | .rStopSet | .rJoin => true
  | _ => false

/-- number of chunks the feeder has put on the work queue in the current call -/
def sent (s : St) : Nat :=
  if preStart s || s.cur.isNone then 0 else
  match s.fpc with
  | .put => s.fNext
  | .rdCnt | .wrCnt | .stopIsSet | .runWait => s.fNext + 1
  | .wrSending | .token | .idle => s.fTotal

def chunksOf (q : List (Option Nat)) : List Nat := q.filterMap id
def heldChunks (s : St) : List Nat := s.workers.filterMap (·.held)

/-- every place a chunk of the current call can be -/
def places (s : St) : List Nat :=
  chunksOf s.workQ ++ heldChunks s ++ chunksOf s.resQ ++ s.batch ++ s.buffer ++ curOut s

/-- the safety invariant -/
structure SafeInv (s : St) : Prop where
  /-- conservation: every chunk sent so far is in exactly one place; nothing else is anywhere -/
  conserve : s.cur.isSome → (places s).Perm (List.range (sent s))
  /-- outside a call nothing is in flight -/
  idle : s.cur = none → chunksOf s.workQ = [] ∧ heldChunks s = [] ∧ chunksOf s.resQ = [] ∧ s.batch = [] ∧ s.buffer = []
  /-- bookkeeping of the consumer -/
  fin : s.cur.isSome → s.finished = (curOut s).length
  ordered : ∀ c, s.cur = some c → c.ordered = true → curOut s = List.range s.wf
  unordered : ∀ c, s.cur = some c → c.ordered = false → s.buffer = []
  total : ∀ c, s.cur = some c → preStart s = false → s.fTotal = c.chunks
  /-- the two progress flags -/
  sendingTrue : preStart s = false → s.cur.isSome →
    (s.sending = true ↔ (s.fpc = .put ∨ s.fpc = .rdCnt ∨ s.fpc = .wrCnt ∨ s.fpc = .stopIsSet ∨ s.fpc = .runWait ∨
      s.fpc = .wrSending))
  cntPut : preStart s = false → s.cur.isSome → (s.fpc = .put ∨ s.fpc = .rdCnt) → s.dataCnt = s.fNext ∧ s.fNext < s.fTotal
  cntWr : preStart s = false → s.cur.isSome → s.fpc = .wrCnt → s.dataCnt = s.fNext ∧ s.fRead = s.fNext ∧ s.fNext < s.fTotal
  cntAfter : preStart s = false → s.cur.isSome → (s.fpc = .stopIsSet ∨ s.fpc = .runWait) →
    s.dataCnt = s.fNext + 1 ∧ s.fNext < s.fTotal
  cntDone : preStart s = false → s.cur.isSome → (s.fpc = .wrSending ∨ s.fpc = .token ∨ s.fpc = .idle) → s.dataCnt = s.fTotal
  alive : s.fAlive = (s.fpc != .idle)
  preIdle : preStart s = true → s.fpc = .idle
  readCnt : s.cpc = .rdDataCnt → s.sending = false
  post : postLoop s = true → s.sending = false ∧ s.finished = s.fTotal
  noCall : s.cur = none → preStart s = true ∨ (match s.cpc with | .exitPut _ | .exitJoin _ | .done => True | _ => False)
  batchEmpty : (match s.cpc with | .qsize2 | .getNowait | .lockRel => False | _ => True) → s.batch = []
  wids : (s.workers.map (·.wid)).Nodup
  -- clauses added to make the invariant inductive (they hold in every reachable state, but the clauses above alone are
  -- preserved only together with them)
  /-- worker ids are below the counter (freshness of the successor's wid) -/
  widLt : ∀ w ∈ s.workers, w.wid < s.widCounter
  /-- a worker has a chunk in its hands only between `work_queue.get()` and the successful put of the result -/
  heldPc : ∀ w ∈ s.workers, w.held.isSome →
    (w.pc = .lockAcq ∨ w.pc = .putNowait ∨ w.pc = .putBlock ∨ (w.pc = .lockRel ∧ w.full = true))
  /-- the process the replace thread is about to start has not been started -/
  startFresh : ∀ nw, s.rpc = .start nw → ∀ w ∈ s.workers, w.wid = nw → w.pc = .notStarted
  /-- no replace thread during `__enter__` -/
  enterR : ∀ i, s.cpc = .enterStart i → s.rpc = .idle
  /-- no feeder outside a call, nor after it has been joined -/
  noCallF : s.cur = none → s.fpc = .idle
  postF : (s.cpc = .rPutNone ∨ s.cpc = .rStopSet ∨ s.cpc = .rJoin) → s.fpc = .idle
  /-- the stop event of the feeder is set only after it has left its loop -/
  stopF : s.fStop = true → (s.fpc = .token ∨ s.fpc = .idle)
  /-- what the consumer has written before it starts the feeder -/
  setupStop : (s.cpc = .wrSending ∨ s.cpc = .wrDataCnt ∨ s.cpc = .fStart) → s.fStop = false
  setupSending : (s.cpc = .wrDataCnt ∨ s.cpc = .fStart) → s.sending = true
  setupCnt : s.cpc = .fStart → s.dataCnt = 0
  /-- emitted entries carry call numbers seen so far -/
  outLe : ∀ p ∈ s.out, p.1 ≤ s.callNo

/-- executable twin of `SafeInv` (for fuzzing the invariant; not used in proofs) -/
def safeCheck (s : St) : List String :=
  let bad (name : String) (b : Bool) : List String := if b then [] else [name]
  let active := !preStart s && s.cur.isSome
  let fIn (l : List FPc) := l.contains s.fpc
  bad "conserve" (s.cur.isNone || (places s).mergeSort (· ≤ ·) == List.range (sent s)) ++
  bad "idle" (s.cur.isSome || (chunksOf s.workQ == [] && heldChunks s == [] && chunksOf s.resQ == [] && s.batch == [] && s.buffer == [])) ++
  bad "fin" (s.cur.isNone || s.finished == (curOut s).length) ++
  bad "ordered" (match s.cur with | some c => !c.ordered || curOut s == List.range s.wf | none => true) ++
  bad "unordered" (match s.cur with | some c => c.ordered || s.buffer == [] | none => true) ++
  bad "total" (match s.cur with | some c => preStart s || s.fTotal == c.chunks | none => true) ++
  bad "sendingTrue" (!active || (s.sending == fIn [.put, .rdCnt, .wrCnt, .stopIsSet, .runWait, .wrSending])) ++
  bad "cntPut" (!active || !fIn [.put, .rdCnt] || (s.dataCnt == s.fNext && s.fNext < s.fTotal)) ++
  bad "cntWr" (!active || !fIn [.wrCnt] || (s.dataCnt == s.fNext && s.fRead == s.fNext && s.fNext < s.fTotal)) ++
  bad "cntAfter" (!active || !fIn [.stopIsSet, .runWait] || (s.dataCnt == s.fNext + 1 && s.fNext < s.fTotal)) ++
  bad "cntDone" (!active || !fIn [.wrSending, .token, .idle] || s.dataCnt == s.fTotal) ++
  bad "alive" (s.fAlive == (s.fpc != .idle)) ++
  bad "preIdle" (!preStart s || s.fpc == .idle) ++
  bad "readCnt" (s.cpc != .rdDataCnt || s.sending == false) ++
  bad "post" (!postLoop s || (s.sending == false && s.finished == s.fTotal)) ++
  bad "noCall" (s.cur.isSome || preStart s || (match s.cpc with | .exitPut _ | .exitJoin _ | .done => true | _ => false)) ++
  bad "batchEmpty" ((match s.cpc with | .qsize2 | .getNowait | .lockRel => true | _ => false) || s.batch == []) ++
  bad "wids" ((s.workers.map (·.wid)).eraseDups.length == s.workers.length) ++
  bad "widLt" (s.workers.all (fun w => decide (w.wid < s.widCounter))) ++
  bad "heldPc" (s.workers.all (fun w => w.held.isNone || w.pc == .lockAcq || w.pc == .putNowait || w.pc == .putBlock ||
    (w.pc == .lockRel && w.full))) ++
  bad "startFresh" (match s.rpc with
    | .start nw => s.workers.all (fun w => w.wid != nw || w.pc == .notStarted)
    | _ => true) ++
  bad "enterR" (match s.cpc with | .enterStart _ => s.rpc == .idle | _ => true) ++
  bad "noCallF" (s.cur.isSome || s.fpc == .idle) ++
  bad "postF" (!(s.cpc == .rPutNone || s.cpc == .rStopSet || s.cpc == .rJoin) || s.fpc == .idle) ++
  bad "stopF" (!s.fStop || fIn [.token, .idle]) ++
  bad "setupStop" (!(s.cpc == .wrSending || s.cpc == .wrDataCnt || s.cpc == .fStart) || !s.fStop) ++
  bad "setupSending" (!(s.cpc == .wrDataCnt || s.cpc == .fStart) || s.sending) ++
  bad "setupCnt" (s.cpc != .fStart || s.dataCnt == 0) ++
  bad "outLe" (s.out.all (fun p => decide (p.1 ≤ s.callNo)))

end WindVerif.Pool

namespace WindVerif.Pool

/-! ## data level: chunks of the input and what the caller receives -/

/-- the `chunking` generator of `SendWorkThread.run`: consecutive chunks of `k` elements, a shorter non-empty last one -/
def chunkingGo {α} (k : Nat) : List α → List α → List (List α)
  | acc, [] => if acc.length > 0 then [acc] else []
  | acc, x :: r =>
    let acc' := acc ++ [x]
    if acc'.length = k then acc' :: chunkingGo k [] r else chunkingGo k acc' r

def chunking {α} (data : List α) (k : Nat) : List (List α) := chunkingGo k [] data

/-- what the caller receives when the chunks are emitted in the order `order` (each chunk mapped element-wise) -/
def yielded {α β} (f : α → β) (data : List α) (k : Nat) (order : List Nat) : List β :=
  order.flatMap (fun i => (((chunking data k)[i]?).getD []).map f)

/-! ## worker lifecycle (C04) -/

def isItem : WEv → Bool
  | .item _ => true
  | _ => false

def itemCount (w : Worker) : Nat := (w.log.filter isItem).length

/-- the event log of a worker has the shape `begin · item* · end`, cut off where the worker currently is -/
def LifeOk (cfg : Cfg) (w : Worker) : Prop :=
  (match w.pc with
   | .notStarted | .bfClear => w.log = []
   | .exited => ∃ items, (∀ e ∈ items, isItem e = true) ∧ w.log = .begin :: items ++ [.end_]
   | _ => ∃ items, (∀ e ∈ items, isItem e = true) ∧ w.log = .begin :: items) ∧
  (∀ q, cfg.quota = some q → itemCount w ≤ q)

def lifeCheck (cfg : Cfg) (w : Worker) : Bool :=
  let items := w.log.filter isItem
  let shape := match w.pc with
    | .notStarted | .bfClear => w.log == []
    | .exited => w.log == WEv.begin :: items ++ [.end_]
    | _ => w.log == WEv.begin :: items
  shape && (match cfg.quota with | some q => decide (items.length ≤ q) | none => true)

/-- every worker ever created has finished -/
def AllExited (s : St) : Prop := ∀ w ∈ s.workers, w.pc = .exited

/-- the worker has left its loop for good: it has exited, or it has done what ends its loop (stop order taken, wid posted to
the replace queue, quota of a plain pool used up, `begin()` / the functor raised) and has only `end()` left to run -/
def gone : WPc → Bool
  | .exited | .ending => true
  | _ => false

def lifeCheckAll (s : St) : List String :=
  (s.workers.filter (fun w => !lifeCheck s.cfg w)).map (fun w => s!"life{w.wid}") ++
  (if s.cpc == .done && !s.cfg.joinTimeout && s.workers.any (fun w => w.pc != .exited) then ["exit_joins_all"] else []) ++
  (if s.cfg.waitReady && (match s.cpc with | .enterStart _ | .readyWait _ => false | _ => true) &&
      s.workers.any (fun w => w.wid < s.cfg.nWorkers && !w.log.contains .begin) then ["ready_after_begin"] else [])

end WindVerif.Pool

namespace WindVerif.Pool

/-! ## liveness side (C02): no deadlock, termination

D19 repaired: the liveness theorems need no hypothesis on the work-queue bound any more (the former `ExitCap`: plain pool,
or unbounded, or at least one slot per worker).  `__exit__` posts its stop orders with a timeout in a loop and leaves the
loop when the queue is full and every listed worker has an exit code, so workers that retired unreplaced (which take no
stop order) cannot block it. -/

/-- well-formed configuration of the property -/
def WellCfg (cfg : Cfg) : Prop :=
  1 ≤ cfg.nWorkers ∧ (∀ c, cfg.resCap = some c → 1 ≤ c) ∧ (∀ q, cfg.quota = some q → 1 ≤ q ∧ cfg.factory = true) ∧
  (cfg.factory = true → cfg.quota.isSome ∨ True)

def inLoop (s : St) : Bool :=
  match s.cpc with
  | .rdSending | .rdDataCnt | .qsize1 | .lockAcq | .qsize2 | .getNowait | .lockRel | .getBlock
  | .flowClear | .flowIsSet | .flowSet => true
  | _ => false

def getPath (s : St) : Bool :=
  match s.cpc with
  | .qsize1 | .lockAcq | .qsize2 | .getNowait | .lockRel | .getBlock => true
  | _ => false

def exitPhase (s : St) : Bool :=
  match s.cpc with
  | .exitPut _ | .exitJoin _ | .done => true
  | _ => false

def noneCount (q : List (Option Nat)) : Nat := (q.filter Option.isNone).length

def wpc (s : St) (wid : Nat) : Option WPc := (getWorker s wid).map (·.pc)

/-- executable candidate clauses of the liveness invariant (fuzzed; the proof may need to adjust them) -/
def liveCheck (s : St) : List String :=
  let bad (name : String) (b : Bool) : List String := if b then [] else [name]
  let cIn := match s.cpc with | .qsize2 | .getNowait | .lockRel => true | _ => false
  let started (wid : Nat) := match wpc s wid with | some .notStarted => false | some _ => true | none => false
  -- left its loop for good (`gone`): exited, or only `end()` left (`.ending`)
  let goneW (wid : Nat) := match wpc s wid with | some p => gone p | none => false
  -- L1 lock discipline
  bad "L1c" ((s.lock == some .c) == cIn) ++
  bad "L1w" (s.workers.all (fun w => (s.lock == some (.w w.wid)) == (w.pc == .putNowait || w.pc == .lockRel))) ++
  bad "L1o" (s.lock != some .f && s.lock != some .r) ++
  -- L2 every listed worker is started once the enter phase is over (or R is about to start it)
  bad "L2" ((match s.cpc with | .enterStart _ => true | _ => false) ||
            s.procs.all (fun wid => started wid || s.rpc == .start wid)) ++
  bad "L2e" (match s.cpc with
             | .enterStart i => (List.range s.procs.length).all (fun j =>
                 match s.procs[j]? with | some wid => (started wid) == decide (j < i) | none => true)
             | _ => true) ++
  -- L3 a listed worker that has exited: plain pool only in the exit phase; factory: its id waits for / is at the replace thread
  bad "L3" (s.procs.all (fun wid => !(goneW wid) || exitPhase s ||
            (s.cfg.factory && (s.replQ.contains (some wid) || s.rpc == .join wid)))) ++
  bad "L3n" (exitPhase s || !(s.workQ.contains none)) ++
  -- L4 the replace thread lives exactly from its start to the consumption of its stop token
  bad "L4a" (!s.cfg.factory || !(inLoop s || postLoop s && s.cpc != .rJoin && s.cpc != .rStopSet ||
             (match s.cpc with | .fInitSet | .wrSending | .wrDataCnt | .fStart => true | _ => false)) ||
             (s.rAlive && !(s.replQ.contains none))) ++
  bad "L4b" (s.rAlive == (s.rpc != .idle)) ++
  bad "L4c" (!(s.cpc == .rStopSet || s.cpc == .rJoin) || !s.rAlive || s.replQ.contains none) ++
  bad "L4d" (s.cfg.factory || (!s.rAlive && s.replQ == [])) ++
  bad "L4e" (!(preStart s && s.cpc != .fInitSet && s.cpc != .wrSending && s.cpc != .wrDataCnt && s.cpc != .fStart && s.cpc != .rStart) ||
             exitPhase s || !s.rAlive) ++
  -- L5 wake-up token: feeder finished, everything emitted, consumer looking for results it has not found yet → a token waits
  bad "L5" (!(inLoop s && getPath s && s.batch == [] && !s.woken && s.fpc == .idle && s.finished == s.fTotal) ||
            s.resQ.contains none) ++
  -- L6 the reorder buffer never holds the chunk it waits for
  bad "L6" (!(s.buffer.contains s.wf)) ++
  -- L7 flow control engaged only with a full reorder buffer
  bad "L7" (!(inLoop s && !s.fRun && s.cpc != .flowIsSet && s.cpc != .flowSet) || bufferFull s) ++
  -- L8 exit phase: no chunk anywhere, the stop orders match the live listed workers
  bad "L8a" (!exitPhase s || (chunksOf s.workQ == [] && !s.fAlive && !s.rAlive)) ++
  bad "L8b" (match s.cpc with
             | .exitJoin _ | .done =>
               decide (noneCount s.workQ + (s.procs.filter goneW).length ≥ s.procs.length)
             | _ => true) ++
  -- L9 a worker that is neither started nor exited holds nothing and waits at a well-defined pc
  bad "L9" (s.workers.all (fun w => (w.held.isSome == (w.pc == .lockAcq || w.pc == .putNowait || w.pc == .putBlock ||
            (w.pc == .lockRel && w.full))))) ++
  -- feeder events
  bad "L10" (!(s.fpc == .runWait || s.fpc == .stopIsSet) || !s.fStop) ++
  -- clauses added for the proof (`LiveInv` in Proofs/PoolLiveInv.lean)
  (let pend := (match s.rpc with | .join wid => [wid] | _ => []) ++ s.replQ.filterMap id
   let liveCnt := s.workers.countP (fun w => !gone w.pc)
   let stopsSent := match s.cpc with | .exitPut i => i | .exitJoin _ | .done => s.procs.length | _ => 0
   let rCall := match s.cpc with
     | .fInitSet | .wrSending | .wrDataCnt | .fStart | .fStopSet | .fJoin | .rPutNone | .midReady _ _ => true
     | _ => inLoop s
   let setup := match s.cpc with
     | .rInitSet | .rStart | .fInitSet | .wrSending | .wrDataCnt | .fStart => true
     | _ => false
   bad "M_lockH" (match s.lock with
     | none => true
     | some .c => cIn
     | some (.w wid) => s.workers.any (fun w => w.wid == wid && (w.pc == .putNowait || w.pc == .lockRel))
     | _ => false) ++
   bad "M_lockC" (!cIn || s.lock == some .c) ++
   bad "M_procsEx" (s.procs.all (fun wid => (getWorker s wid).isSome)) ++
   bad "M_procsLen" (s.procs.length == s.cfg.nWorkers) ++
   bad "M_idx" (match s.cpc with
     | .enterStart i | .readyWait i | .exitPut i | .exitJoin i => decide (i < s.procs.length)
     | _ => true) ++
   bad "M_rStartIn" (match s.rpc with | .start nw => s.procs.contains nw | _ => true) ++
   bad "M_bfPc" (s.workers.all (fun w => w.bf || w.pc == .notStarted || w.pc == .bfClear || w.pc == .bfSet)) ++
   bad "M_retireF" (s.workers.all (fun w => w.pc != .retire || s.cfg.factory)) ++
   bad "M_rLive" (!s.cfg.factory || !rCall || s.rAlive) ++
   bad "M_tokR" (noneCount s.replQ == (if (s.cpc == .rStopSet || s.cpc == .rJoin) && s.rAlive then 1 else 0)) ++
   bad "M_exitedL" (s.workers.all (fun w => !gone w.pc || !s.procs.contains w.wid || exitPhase s ||
     (s.cfg.factory && pend.contains w.wid))) ++
   bad "M_curSome" (!setup || s.cur.isSome) ++
   bad "M_curNone" (!exitPhase s || s.cur.isNone) ++
   bad "M_wokenPc" (!s.woken || cIn) ++
   bad "M_runSetup" (!(s.cpc == .wrSending || s.cpc == .wrDataCnt || s.cpc == .fStart) || s.fRun) ++
   bad "M_cnt1" (decide (liveCnt + pend.length ≤ s.procs.length)) ++
   bad "M_cnt2" (!exitPhase s || decide (liveCnt + stopsSent ≤ noneCount s.workQ + s.procs.length)) ++
   bad "M_cnt3" (!exitPhase s || decide (noneCount s.workQ ≤ stopsSent)) ++
   bad "M_cnt4" (s.cfg.factory || decide (noneCount s.workQ + s.procs.length ≤ liveCnt + stopsSent)) ++
   bad "M_flowClear" (s.cpc != .flowClear || bufferFull s) ++
   bad "M_rFac" (!(s.cpc == .rPutNone || s.cpc == .rStopSet || s.cpc == .rJoin) || s.cfg.factory) ++
   -- mid-call `until_all_ready()` (`MidI` in Proofs/PoolLiveInv.lean): the worker waited for exists; flow control is
   -- engaged only in an ordered call
   bad "M_midEx" (match s.cpc with | .midReady _ wid => (getWorker s wid).isSome | _ => true) ++
   bad "M_midFlow" (match s.cpc with
     | .midReady _ _ => s.fRun || (match s.cur with | some c => c.ordered | none => false)
     | _ => true))

/-- stuck: nobody can move although the caller has not finished -/
def stuck (s : St) : Bool := s.cpc != .done && (enabledTids s).isEmpty

end WindVerif.Pool
