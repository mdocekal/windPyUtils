import WindVerif.Model.Storage
/-! What the theorems about `TextFileStorage` (C14) speak of: the reachable states of the interleaving model, scripts without
`flush()`, the line an index entry leads to, whether an identifier is stored, and the result of the k-th operation of a process. -/
namespace WindVerif.Storage

def Reach (presize : Nat) (scripts : List (List Op)) (s : St) : Prop :=
  ∃ sched, run (start (init presize scripts)) sched = some s

def NoFlush (scripts : List (List Op)) : Prop := ∀ sc ∈ scripts, Op.flush ∉ sc

/-- the line a reader gets when it follows the index entry of identifier `g` now -/
def entryLine (s : St) (g : Nat) : Option (List (Option Nat)) :=
  match s.index[g]? with
  | some (some (w, off)) => some (readlineAt ((fileOf s w).getD []) off)
  | _ => none

def stored (s : St) (g : Nat) : Bool :=
  match s.index[g]? with
  | some (some _) => true
  | _ => false

/-- the k-th operation of process i and its result, once it has one -/
def resultOf (scripts : List (List Op)) (s : St) (i k : Nat) : Option (Op × Res) :=
  match scripts[i]?, s.procs[i]? with
  | some sc, some p => (match sc[k]?, p.results[k]? with | some op, some r => some (op, r) | _, _ => none)
  | _, _ => none

end WindVerif.Storage
